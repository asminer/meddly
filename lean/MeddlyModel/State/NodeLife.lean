/-
  Model of node lifetime management in MEDDLY:
    src/node_headers.h / node_headers.cc  (linkNode, unlinkNode, cacheNode, uncacheNode,
        lastUnlink, lastUncache, getFreeNodeHandle, recycleNodeHandle)
    src/forest.cc  (createReducedNode: new-node path; deleteNode → unlinkDownAndRecycle)

  Per node handle the library keeps  level (0 = "deleted"), incoming count, cache count.
  The model distinguishes three liveness classes of a handle
      active  lvl inc cc kids   level ≠ 0; the node exists (possibly unreachable: inc = 0)
      deleted cc                level = 0, cache count cc > 0: node content gone, handle retained
                                ("zombie"; only produced by the pessimistic policy)
      free                      level = 0, cache count 0: never used, or recycled
  and two policies.  `policies::setNeverDelete()` is NOT distinguished by the code base from
  the optimistic policy: `node_headers::initialize` only records `isPessimistic()`, and
  `policies::isNeverDelete()`, the only other reader of `node_deletion::NEVER`, has no caller.

  Reference bookkeeping is explicit: `ext` lists every reference held OUTSIDE the forest's node
  storage (root edges, `unpacked_node` slots under construction, temporaries of operations),
  one list entry per reference; references held by parent nodes are the `kids` of active nodes.
  The operations below pair every creation / destruction of a reference with the matching
  `linkNode` / `unlinkNode` (that pairing is the API contract, called `Paired` below):
      link h     a new outside reference to h is created, `linkNode(h)` is called
      unlink h   an outside reference to h is destroyed (must exist), `unlinkNode(h)` is called
      alloc h lvl kids
                 the new-node path of `createReducedNode`: `getFreeNodeHandle()` returned h
                 (nondeterministic: any free handle), the under-construction references to the
                 children become parent references (NO count changes: the caller linked them when
                 it filled the unpacked node), the caller receives one reference to h (inc = 1)
      cache h / uncache h   a compute-table entry mentioning h is added / removed.
  Deleting a node (`forest::deleteNode`) destroys its parent references and calls `unlinkNode`
  on each child, recursively; the model runs that recursion with an explicit work list
  (`drain`), in the same order as the C++ recursion.

  Results (property C06), for every state reached from `init` by a `Paired` trace unless said
  otherwise: `counts_exact` (recorded count = references that exist), `no_dangling`, `held_alive`,
  `content_stable` (one step from any state), `reuse_only_free`, `no_reuse_while_cached` (any
  state), `all_reclaimed`, `all_reclaimed_pessimistic`, `release_never_fails`.  The reachable-state
  results come from the invariant `WInv`, which carries the work list of pending `unlinkNode`
  calls through `drain`.
  Not modelled: the unique table and node storage, which free handle `getFreeNodeHandle` picks,
  the mark-and-sweep mode (`policies::useReferenceCounts` false: bit vectors instead of the two
  counters), and the compute tables themselves (`cache` / `uncache` are the events "an entry
  mentioning h is added / removed"; that cache counts match the entries is not shown here).
-/
namespace Meddly.NodeLife

inductive Policy where
  | pessimistic
  | optimistic
  deriving DecidableEq, Repr

inductive HState where
  | free
  | active (lvl inc cc : Nat) (kids : List Nat)
  | deleted (cc : Nat)
  deriving DecidableEq, Repr

/-- the handle table; index = handle; handles beyond the list are free -/
abbrev Tab := List HState

def tget (t : Tab) (h : Nat) : HState := t.getD h .free

def tset (t : Tab) (h : Nat) (v : HState) : Tab :=
  if h < t.length then t.set h v else t ++ List.replicate (h - t.length) .free ++ [v]

theorem tget_tset (t : Tab) (h x : Nat) (v : HState) :
    tget (tset t h v) x = if x = h then v else tget t x := by
  unfold tget tset
  simp only [List.getD_eq_getElem?_getD]
  by_cases hl : h < t.length
  · rw [if_pos hl, List.getElem?_set]
    by_cases e : x = h
    · rw [if_pos e.symm, if_pos hl, if_pos e]; rfl
    · rw [if_neg (Ne.symm e), if_neg e]
  · rw [if_neg hl]
    rcases Nat.lt_trichotomy x h with hx | rfl | hx
    · -- in `t`, or in the padding, which reads like the missing entry of `t`
      rw [if_neg (Nat.ne_of_lt hx), List.getElem?_append_left (by simp; omega), List.getElem?_append]
      split
      · rfl
      · rw [List.getElem?_replicate, if_pos (by omega), List.getElem?_eq_none (by omega)]; rfl
    · rw [if_pos rfl, List.getElem?_append_right (by simp; omega), List.length_append, List.length_replicate,
        show x - (t.length + (x - t.length)) = 0 by omega]
      rfl
    · rw [if_neg (Nat.ne_of_gt hx), List.getElem?_eq_none (by simp; omega), List.getElem?_eq_none (by omega)]

/-- sum of `f` over the table -/
def tsum (f : HState → Nat) : Tab → Nat
  | [] => 0
  | e :: t => f e + tsum f t

section
variable (f : HState → Nat)

theorem tsum_append (a b : Tab) : tsum f (a ++ b) = tsum f a + tsum f b := by
  induction a with
  | nil => simp [tsum]
  | cons e a ih => simp [tsum, ih]; omega

theorem tsum_replicate_free (hf : f .free = 0) (n : Nat) :
    tsum f (List.replicate n .free) = 0 := by
  induction n with
  | zero => rfl
  | succ n ih => simp [List.replicate_succ, tsum, hf, ih]

theorem tsum_set : ∀ (t : Tab) (h : Nat) (v : HState), h < t.length →
    tsum f (t.set h v) + f (t.getD h .free) = tsum f t + f v
  | [], _, _, hl => by simp at hl
  | e :: t, 0, v, _ => by simp [tsum]; omega
  | e :: t, h+1, v, hl => by
    have := tsum_set t h v (by simpa using hl)
    simp [tsum] at this ⊢; omega

theorem tsum_tset (hf : f .free = 0) (t : Tab) (h : Nat) (v : HState) :
    tsum f (tset t h v) + f (tget t h) = tsum f t + f v := by
  unfold tset tget
  by_cases hl : h < t.length
  · rw [if_pos hl]; exact tsum_set f t h v hl
  · simp only [hl, if_false, tsum_append, tsum_replicate_free f hf]
    rw [List.getD_eq_getElem?_getD, List.getElem?_eq_none (Nat.le_of_not_lt hl)]
    simp [hf, tsum]

end

def incOf : HState → Nat
  | .active _ inc _ _ => inc
  | _ => 0

def ccOf : HState → Nat
  | .active _ _ cc _ => cc
  | .deleted cc => cc
  | .free => 0

def kidsOf : HState → List Nat
  | .active _ _ _ kids => kids
  | _ => []

def lvlOf : HState → Nat
  | .active lvl _ _ _ => lvl
  | _ => 0

def isActive : HState → Bool
  | .active .. => true
  | _ => false

def isFree : HState → Bool
  | .free => true
  | _ => false

structure St where
  pol : Policy
  /-- number of levels of the forest (children live at strictly lower levels) -/
  K   : Nat
  tab : Tab
  /-- references held outside node storage, one entry per reference -/
  ext : List Nat
  deriving Repr, DecidableEq

def St.get (s : St) (h : Nat) : HState := tget s.tab h
def St.set (s : St) (h : Nat) (v : HState) : St := { s with tab := tset s.tab h v }

def init (pol : Policy) (K : Nat) : St := { pol := pol, K := K, tab := [], ext := [] }

/-- number of parent references to `h` (slots of active nodes that hold `h`) -/
def prefs (t : Tab) (h : Nat) : Nat := tsum (fun e => (kidsOf e).count h) t

/-- total number of child slots of active nodes (bounds the work of a recursive deletion) -/
def kidSum (t : Tab) : Nat := tsum (fun e => (kidsOf e).length) t

/-- (largest index of a non-free table entry) + 1, or 0 if every entry is free -/
def lastUsed : Tab → Nat
  | [] => 0
  | e :: t =>
    let r := lastUsed t
    if r ≠ 0 then r + 1 else if isFree e then 0 else 1

/-- largest handle that is not free (`node_headers::a_last` = `forest::getLastNode()`): when the
    last handle is recycled, `recycleNodeHandle` collapses `a_last` over all trailing handles that
    are deleted and have cache count 0; 0 if no handle is in use -/
def St.last (s : St) : Nat := lastUsed s.tab - 1

inductive Op where
  | alloc (h lvl : Nat) (kids : List Nat)
  | link (h : Nat)
  | unlink (h : Nat)
  | cache (h : Nat)
  | uncache (h : Nat)
  deriving Repr, DecidableEq

/-- The body of `unlinkNode(h)` for a non-terminal `h`, without the recursion: the new state and
    the children on which `unlinkNode` has to be called next (because `deleteNode(h)` ran).
      count stays positive → done;
      count reaches 0 → `lastUnlink(h)`:
        cache count 0            → `deleteNode(h)` + `recycleNodeHandle(h)`    (h becomes free)
        else, pessimistic        → `deleteNode(h)`, handle kept                (h becomes deleted)
        else (optimistic/never)  → nothing                                    (h stays, unreachable)
    `none`: `h` is not an active node with a positive count (contract violation; guarded by
    `MEDDLY_DCASSERT`s in the code). -/
def unlink1 (s : St) (h : Nat) : Option (St × List Nat) :=
  match s.get h with
  | .active lvl (inc+1) cc kids =>
    if inc ≠ 0 then some (s.set h (.active lvl inc cc kids), [])
    else if cc = 0 then some (s.set h .free, kids)
    else
      match s.pol with
      | .pessimistic => some (s.set h (.deleted cc), kids)
      | .optimistic  => some (s.set h (.active lvl 0 cc kids), [])
  | _ => none

/-- Run the pending `unlinkNode` calls of a (recursive) node deletion, in the order of the C++
    recursion (`deleteNode(h)` calls `unlinkNode` on every child of h, depth first).
    `none`: out of fuel, or a contract violation in `unlink1`. -/
def drain : Nat → St → List Nat → Option St
  | _, s, [] => some s
  | 0, _, _ :: _ => none
  | f+1, s, h :: wl =>
    if h = 0 then drain f s wl      -- terminal: `unlinkNode` returns immediately
    else
      match unlink1 s h with
      | some (s1, ks) => drain f s1 (ks ++ wl)
      | none => none

/-- enough fuel for any deletion cascade started by one `unlinkNode` (see `drain_total`) -/
def fuelFor (s : St) : Nat := 1 + kidSum s.tab

/-- the under-construction references to the children are consumed (they become parent slots) -/
def takeRefs : List Nat → List Nat → Option (List Nat)
  | ext, [] => some ext
  | ext, k :: ks =>
    if k = 0 then takeRefs ext ks
    else if k ∈ ext then takeRefs (ext.erase k) ks else none

def kidsBelow (s : St) (lvl : Nat) (kids : List Nat) : Bool :=
  kids.all (fun k => k == 0 || (isActive (s.get k) && decide (lvlOf (s.get k) < lvl)))

/-- One operation.  `none` = the call violates the API contract (`Paired`):
    unlink without owning a reference, link/cache of a non-active handle, uncache without a
    cache mark, alloc of a handle that is not free / children not owned / not at lower levels. -/
def step (s : St) : Op → Option St
  | .link h =>
    if h = 0 then some s
    else match s.get h with
      | .active lvl inc cc kids =>
        some { (s.set h (.active lvl (inc+1) cc kids)) with ext := h :: s.ext }
      | _ => none
  | .unlink h =>
    if h = 0 then some s
    else if h ∈ s.ext then drain (fuelFor s) { s with ext := s.ext.erase h } [h]
    else none
  | .cache h =>
    if h = 0 then some s
    else match s.get h with
      | .active lvl inc cc kids => some (s.set h (.active lvl inc (cc+1) kids))
      | _ => none
  | .uncache h =>
    if h = 0 then some s
    else match s.get h with
      | .active lvl inc (cc+1) kids =>
        -- lastUncache on an active node: delete + recycle iff no incoming edges
        if cc = 0 ∧ inc = 0 then drain (fuelFor s) (s.set h .free) kids
        else some (s.set h (.active lvl inc cc kids))
      | .deleted (cc+1) =>
        -- lastUncache on a deleted node: recycle the handle
        if cc = 0 then some (s.set h .free) else some (s.set h (.deleted cc))
      | _ => none
  | .alloc h lvl kids =>
    if h = 0 then none
    else match s.get h with
      | .free =>
        if 1 ≤ lvl ∧ lvl ≤ s.K ∧ kidsBelow s lvl kids = true then
          match takeRefs s.ext kids with
          | some ext' => some { (s.set h (.active lvl 1 0 kids)) with ext := h :: ext' }
          | none => none
        else none
      | _ => none

/-- run an operation sequence; `none` as soon as one call violates the contract -/
def run (s : St) : List Op → Option St
  | [] => some s
  | op :: ops =>
    match step s op with
    | none => none
    | some s' => run s' ops

/-- `Paired`: every operation of the trace is within the API contract (each unlink releases a
    reference that is actually held, each alloc consumes references actually held, …) -/
def Paired (s : St) (ops : List Op) : Prop := (run s ops).isSome = true

theorem paired_iff (s : St) (ops : List Op) : Paired s ops ↔ ∃ s', run s ops = some s' := by
  unfold Paired; cases run s ops <;> simp

/-- The invariant of the state together with a work list `wl` of pending `unlinkNode` calls
    (`wl = []` between API calls). -/
structure WInv (s : St) (wl : List Nat) : Prop where
  /-- recorded incoming count = outside references + parent slots + pending unlinks -/
  counts : ∀ h, h ≠ 0 → incOf (s.get h) = s.ext.count h + prefs s.tab h + wl.count h
  /-- children of active nodes are active nodes at strictly lower levels (or terminals) -/
  lower : ∀ p k, k ∈ kidsOf (s.get p) → k ≠ 0 →
      isActive (s.get k) = true ∧ lvlOf (s.get k) < lvlOf (s.get p)
  bound : ∀ p, lvlOf (s.get p) ≤ s.K
  /-- a retained deleted handle is mentioned by some cache entry -/
  zombie : ∀ p cc, s.get p = .deleted cc → 0 < cc
  /-- an unreachable node is kept only under the optimistic policy and only while cached -/
  unreach : ∀ p, isActive (s.get p) = true → incOf (s.get p) = 0 →
      0 < ccOf (s.get p) ∧ s.pol = .optimistic
  /-- handle 0 is the terminal / transparent node and is never a table entry -/
  zero : s.get 0 = .free

section
variable {s s' : St} {h : Nat} {wl : List Nat} {v : HState} (f : HState → Nat)

theorem get_set (s : St) (h x : Nat) (v : HState) :
    (s.set h v).get x = if x = h then v else s.get x := tget_tset s.tab h x v

theorem prefs_set (s : St) (h x : Nat) (v : HState) :
    prefs (s.set h v).tab x + (kidsOf (s.get h)).count x = prefs s.tab x + (kidsOf v).count x :=
  tsum_tset (fun e => (kidsOf e).count x) rfl s.tab h v

theorem kidSum_set (s : St) (h : Nat) (v : HState) :
    kidSum (s.set h v).tab + (kidsOf (s.get h)).length = kidSum s.tab + (kidsOf v).length :=
  tsum_tset (fun e => (kidsOf e).length) rfl s.tab h v

theorem tsum_ge (hf : f .free = 0) : ∀ (t : Tab) (p : Nat), f (tget t p) ≤ tsum f t
  | [], _ => Nat.le_of_eq hf
  | _ :: _, 0 => Nat.le_add_right _ _
  | _ :: t, p+1 => Nat.le_trans (tsum_ge hf t p) (Nat.le_add_left _ _)

theorem tsum_pos : ∀ (t : Tab), 0 < tsum f t → ∃ p, 0 < f (tget t p)
  | [], h => by simp [tsum] at h
  | e :: t, h => by
    by_cases he : 0 < f e
    · exact ⟨0, he⟩
    · have : 0 < tsum f t := by simp [tsum] at h; omega
      obtain ⟨p, hp⟩ := tsum_pos t this
      exact ⟨p+1, hp⟩

theorem winv_init (pol : Policy) (K : Nat) : WInv (init pol K) [] :=
  ⟨fun _ _ => rfl, fun _ _ hk => absurd hk List.not_mem_nil, fun _ => Nat.zero_le K,
    fun _ _ h => HState.noConfusion h, fun _ h => Bool.noConfusion h, rfl⟩

theorem winv_skip0 (h : WInv s (0 :: wl)) : WInv s wl := by
  refine ⟨fun x hx => ?_, h.lower, h.bound, h.zombie, h.unreach, h.zero⟩
  have := h.counts x hx
  rwa [List.count_cons_of_ne (Ne.symm hx)] at this

theorem winv_set {wl' ext' : List Nat} (hw : WInv s wl) (hne : h ≠ 0)
    (hc : ∀ x, x ≠ 0 → incOf (if x = h then v else s.get x) + (kidsOf (s.get h)).count x
        = ext'.count x + prefs s.tab x + (kidsOf v).count x + wl'.count x)
    (hkids : ∀ k ∈ kidsOf v, k ≠ 0 → k ≠ h ∧ isActive (s.get k) = true ∧ lvlOf (s.get k) < lvlOf v)
    (hpar : ∀ p, h ∈ kidsOf (s.get p) → isActive v = true ∧ lvlOf v = lvlOf (s.get h))
    (hb : lvlOf v ≤ s.K) (hz : ∀ c, v = .deleted c → 0 < c)
    (hu : isActive v = true → incOf v = 0 → 0 < ccOf v ∧ s.pol = .optimistic) :
    WInv { s.set h v with ext := ext' } wl' := by
  have G : ∀ x, ({ s.set h v with ext := ext' } : St).get x = if x = h then v else s.get x :=
    fun x => get_set s h x v
  refine ⟨?_, ?_, ?_, ?_, ?_, ?_⟩
  · intro x hx
    have := hc x hx
    have P := prefs_set s h x v
    rw [G]
    show _ = ext'.count x + prefs (s.set h v).tab x + _
    omega
  · intro p k hk hk0
    rw [G] at hk
    by_cases ep : p = h
    · rw [if_pos ep] at hk
      obtain ⟨kh, hl⟩ := hkids k hk hk0
      rw [G, G, if_neg kh, if_pos ep]
      exact hl
    · rw [if_neg ep] at hk
      have hl := hw.lower p k hk hk0
      rw [G, G, if_neg ep]
      by_cases ek : k = h
      · subst ek
        obtain ⟨va, vl⟩ := hpar p hk
        rw [if_pos rfl, vl]
        exact ⟨va, hl.2⟩
      · rw [if_neg ek]
        exact hl
  · intro p
    rw [G]
    split
    · exact hb
    · exact hw.bound p
  · intro p c hp
    rw [G] at hp
    split at hp
    · exact hz c hp
    · exact hw.zombie p c hp
  · intro p ha hi
    rw [G] at ha hi ⊢
    by_cases ep : p = h
    · rw [if_pos ep] at ha hi ⊢; exact hu ha hi
    · rw [if_neg ep] at ha hi ⊢; exact hw.unreach p ha hi
  · rw [G, if_neg (Ne.symm hne)]
    exact hw.zero

theorem noparent_of_prefs {t : Tab} (hz : prefs t h = 0) (p : Nat) : h ∉ kidsOf (tget t p) := by
  intro hp
  have := tsum_ge (fun e => (kidsOf e).count h) rfl t p
  have h2 : 0 < (kidsOf (tget t p)).count h := List.count_pos_iff.mpr hp
  unfold prefs at hz; omega

theorem count_cons_ite (h x : Nat) (l : List Nat) : (h :: l).count x = l.count x + if x = h then 1 else 0 := by
  by_cases e : x = h
  · rw [if_pos e, e, List.count_cons_self]
  · rw [if_neg e, List.count_cons_of_ne (Ne.symm e)]; rfl

theorem winv_recount {wl' : List Nat} {lvl inc cc inc' cc' : Nat} {kids ext' : List Nat}
    (hw : WInv s wl) (hg : s.get h = .active lvl inc cc kids)
    (hc : ∀ x, ext'.count x + wl'.count x + (if x = h then inc else 0)
      = s.ext.count x + wl.count x + (if x = h then inc' else 0))
    (hu : inc' = 0 → 0 < cc' ∧ s.pol = .optimistic) :
    WInv { (s.set h (.active lvl inc' cc' kids)) with ext := ext' } wl' := by
  have hne : h ≠ 0 := by intro e; subst e; rw [hw.zero] at hg; cases hg
  refine winv_set hw hne (fun x hx => ?_) (fun k hk hk0 => ?_) (fun _ _ => hg ▸ ⟨rfl, rfl⟩)
    (hg ▸ hw.bound h :) nofun (fun _ => hu)
  · have hx' := hw.counts x hx
    have := hc x
    rw [hg]
    show _ + kids.count x = _ + _ + kids.count x + _
    by_cases e : x = h
    · subst e; rw [hg] at hx'; simp only [if_true, incOf] at this hx' ⊢; omega
    · simp only [if_neg e] at this ⊢; omega
  · have := (hg ▸ hw.lower h) k hk hk0
    exact ⟨fun e => by subst e; rw [hg] at this; exact Nat.lt_irrefl _ this.2, this⟩

/-- `deleteNode(h)`: node `h`, whose count consists of pending unlinks only (those of `wl0` that `wl`
    lacks), disappears, its children go to the work list. -/
theorem winv_delete {wl0 kids : List Nat}
    (hw : WInv s wl0) (hne : h ≠ 0) (hk : kidsOf (s.get h) = kids)
    (av : isActive v = false) (zv : ∀ c, v = .deleted c → 0 < c)
    (hwl : ∀ x, wl0.count x = wl.count x + if x = h then incOf (s.get h) else 0) :
    WInv (s.set h v) (kids ++ wl) := by
  obtain ⟨iv, kv, lv⟩ : incOf v = 0 ∧ kidsOf v = [] ∧ lvlOf v = 0 := by
    cases v with
    | active => cases av
    | _ => exact ⟨rfl, rfl, rfl⟩
  have hh := hw.counts h hne
  rw [hwl h, if_pos rfl] at hh
  refine winv_set (ext' := s.ext) hw hne (fun x hx => ?_) (kv ▸ nofun)
    (fun p hp => absurd hp (noparent_of_prefs (by omega) p)) (lv ▸ Nat.zero_le _) zv
    (av ▸ nofun)
  have hx' := hw.counts x hx
  rw [hwl x] at hx'
  rw [hk, kv, List.count_append]
  show _ + kids.count x = _ + List.count x [] + _
  by_cases e : x = h
  · rw [if_pos e, iv, e]; simp only [List.count_nil]; omega
  · rw [if_neg e] at hx' ⊢; simp only [List.count_nil]; omega

/-- One `unlinkNode(h)` with `h` pending: it cannot fail, keeps the invariant (its children
    become pending if the node was deleted) and uses up the child slots it releases. -/
theorem unlink1_ok (hw : WInv s (h :: wl)) (hne : h ≠ 0) :
    ∃ s1 ks, unlink1 s h = some (s1, ks) ∧ WInv s1 (ks ++ wl) ∧
      kidSum s1.tab + ks.length = kidSum s.tab ∧ s1.pol = s.pol ∧ s1.K = s.K ∧ s1.ext = s.ext := by
  have hpos : 0 < incOf (s.get h) := by
    have := hw.counts h hne
    rw [List.count_cons_self] at this
    omega
  cases hg : s.get h with
  | active lvl inc0 cc kids =>
    cases inc0 with
    | zero => rw [hg] at hpos; cases hpos
    | succ inc =>
      have KS : ∀ v, kidSum (s.set h v).tab + kids.length = kidSum s.tab + (kidsOf v).length := fun v => by
        have := kidSum_set s h v
        rwa [hg] at this
      have RC : (inc = 0 → 0 < cc ∧ s.pol = .optimistic) →
          WInv (s.set h (.active lvl inc cc kids)) wl := fun hu =>
        winv_recount hw hg (fun x => by rw [count_cons_ite]; split <;> omega) hu
      by_cases hi : inc ≠ 0
      · exact ⟨_, [], by simp [unlink1, hg, hi], RC (fun e => absurd e hi), Nat.add_right_cancel (KS _), rfl, rfl, rfl⟩
      · obtain rfl : inc = 0 := by omega
        have hwl : ∀ x, (h :: wl).count x = wl.count x + if x = h then incOf (s.get h) else 0 := fun x => by
          rw [hg]; exact count_cons_ite h x wl
        by_cases hc0 : cc = 0
        · refine ⟨s.set h .free, kids, by simp [unlink1, hg, hc0], ?_, KS _, rfl, rfl, rfl⟩
          exact winv_delete hw hne (congrArg kidsOf hg) rfl nofun hwl
        · cases hp : s.pol with
          | pessimistic =>
            refine ⟨s.set h (.deleted cc), kids, by simp [unlink1, hg, hc0, hp], ?_, KS _, hp, rfl, rfl⟩
            exact winv_delete hw hne (congrArg kidsOf hg) rfl (fun _ e => HState.deleted.inj e ▸ Nat.pos_of_ne_zero hc0) hwl
          | optimistic =>
            exact ⟨_, [], by simp [unlink1, hg, hc0, hp], RC (fun _ => ⟨by omega, hp⟩), Nat.add_right_cancel (KS _), hp, rfl, rfl⟩
  | _ => rw [hg] at hpos; cases hpos

theorem drain_rec {Q : Nat → St → List Nat → St → Prop} (hnil : ∀ f s, Q f s [] s)
    (hskip : ∀ f s wl s', Q f s wl s' → Q (f+1) s (0 :: wl) s')
    (hstep : ∀ f s h wl s1 ks s', h ≠ 0 → unlink1 s h = some (s1, ks) → Q f s1 (ks ++ wl) s' →
      Q (f+1) s (h :: wl) s') :
    ∀ (f : Nat) (s : St) (wl : List Nat) (s' : St), drain f s wl = some s' → Q f s wl s'
  | f, s, [], s', hd => by
    have e : s' = s := by cases f <;> exact (Option.some.inj hd).symm
    rw [e]; exact hnil f s
  | 0, s, _ :: _, s', hd => nomatch hd
  | f+1, s, h :: wl, s', hd => by
    simp only [drain] at hd
    by_cases h0 : h = 0
    · rw [if_pos h0] at hd
      rw [h0]; exact hskip f s wl s' (drain_rec hnil hskip hstep f s wl s' hd)
    · rw [if_neg h0] at hd
      cases hu : unlink1 s h with
      | none => rw [hu] at hd; cases hd
      | some r =>
        rw [hu] at hd
        exact hstep f s h wl r.1 r.2 s' h0 hu (drain_rec hnil hskip hstep f r.1 (r.2 ++ wl) s' hd)

theorem drain_inv {f : Nat} (hw : WInv s wl)
    (hd : drain f s wl = some s') : WInv s' [] ∧ s'.pol = s.pol ∧ s'.K = s.K := by
  refine drain_rec (Q := fun _ s wl s' => WInv s wl → WInv s' [] ∧ s'.pol = s.pol ∧ s'.K = s.K)
    (fun _ _ hw => ⟨hw, rfl, rfl⟩) (fun _ _ _ _ ih hw => ih (winv_skip0 hw)) ?_ f s wl s' hd hw
  intro _ s h wl s1 ks s' h0 hu ih hw
  obtain ⟨s1', ks', hu', hw1, _, hp, hk, _⟩ := unlink1_ok hw h0
  obtain ⟨rfl, rfl⟩ := Prod.mk.inj (Option.some.inj (hu.symm.trans hu'))
  obtain ⟨a, b, c⟩ := ih hw1
  exact ⟨a, b.trans hp, c.trans hk⟩

/-- with `wl.length + kidSum` fuel a deletion cascade always completes (it never runs into a
    contract violation and never runs out of fuel) -/
theorem drain_total : ∀ (f : Nat) (s : St) (wl : List Nat),
    WInv s wl → wl.length + kidSum s.tab ≤ f → ∃ s', drain f s wl = some s'
  | f, s, [], _, _ => ⟨s, by cases f <;> rfl⟩
  | 0, s, _ :: _, _, hf => by simp at hf
  | f+1, s, h :: wl, hw, hf => by
    simp only [drain]
    by_cases h0 : h = 0
    · subst h0
      simp only [if_true]
      exact drain_total f s wl (winv_skip0 hw) (by simp at hf; omega)
    · simp only [h0, if_false]
      obtain ⟨s1, ks, hu, hw1, hks, _, _, _⟩ := unlink1_ok hw h0
      rw [hu]
      exact drain_total f s1 (ks ++ wl) hw1 (by simp at hf ⊢; omega)

/-- `lastUncache` on a node without incoming edges: it is deleted, its children become pending -/
theorem winv_uncache_last {lvl cc : Nat} {kids : List Nat} (hw : WInv s []) (hne : h ≠ 0)
    (hg : s.get h = .active lvl 0 cc kids) : WInv (s.set h .free) kids := by
  have := winv_delete (wl := []) (v := .free) hw hne (congrArg kidsOf hg) rfl nofun (fun x => by rw [hg]; split <;> rfl)
  rwa [List.append_nil] at this

/-- replacing a deleted handle by a free one / another deleted one: a deletion with no children -/
theorem winv_relabel {c : Nat}
    (hw : WInv s wl) (hg : s.get h = .deleted c) (av : isActive v = false) (zv : ∀ c, v = .deleted c → 0 < c) :
    WInv (s.set h v) wl := by
  have hne : h ≠ 0 := by intro e; subst e; rw [hw.zero] at hg; cases hg
  exact winv_delete hw hne (congrArg kidsOf hg) av zv (fun x => by rw [hg]; split <;> rfl)

theorem takeRefs_count : ∀ (kids ext ext' : List Nat), takeRefs ext kids = some ext' →
    ∀ x, x ≠ 0 → ext.count x = ext'.count x + kids.count x
  | [], ext, ext', h, x, _ => by cases h; rfl
  | k :: ks, ext, ext', h, x, hx => by
    simp only [takeRefs] at h
    by_cases k0 : k = 0
    · subst k0
      rw [if_pos rfl] at h
      rw [List.count_cons_of_ne (Ne.symm hx)]
      exact takeRefs_count ks ext ext' h x hx
    · rw [if_neg k0] at h
      by_cases km : k ∈ ext
      · rw [if_pos km] at h
        have := takeRefs_count ks (ext.erase k) ext' h x hx
        by_cases e : x = k
        · subst e
          rw [List.count_cons_self]
          rw [List.count_erase_self] at this
          have : 0 < ext.count x := List.count_pos_iff.mpr km
          omega
        · rwa [List.count_cons_of_ne (Ne.symm e), ← List.count_erase_of_ne e]
      · rw [if_neg km] at h; cases h

theorem winv_unlink_start (hw : WInv s []) (hm : h ∈ s.ext) :
    WInv { s with ext := s.ext.erase h } [h] := by
  refine ⟨fun x hx => ?_, hw.lower, hw.bound, hw.zombie, hw.unreach, hw.zero⟩
  have := hw.counts x hx
  show incOf (s.get x) = (s.ext.erase h).count x + prefs s.tab x + _
  by_cases e : x = h
  · subst e
    have hp : 0 < s.ext.count x := List.count_pos_iff.mpr hm
    rw [List.count_erase_self]; simp at this ⊢; omega
  · rw [List.count_erase_of_ne e, List.count_cons_of_ne (Ne.symm e)]; simpa using this

theorem step_link_inv (hs : step s (.link h) = some s') :
    (h = 0 ∧ s' = s) ∨ (h ≠ 0 ∧ ∃ lvl inc cc kids, s.get h = .active lvl inc cc kids ∧
      s' = { s.set h (.active lvl (inc+1) cc kids) with ext := h :: s.ext }) := by
  simp only [step] at hs
  split at hs
  · exact .inl ⟨‹_›, (Option.some.inj hs).symm⟩
  · split at hs
    · exact .inr ⟨‹_›, _, _, _, _, ‹_›, (Option.some.inj hs).symm⟩
    · cases hs

theorem step_cache_inv (hs : step s (.cache h) = some s') :
    (h = 0 ∧ s' = s) ∨ (h ≠ 0 ∧ ∃ lvl inc cc kids, s.get h = .active lvl inc cc kids ∧
      s' = s.set h (.active lvl inc (cc+1) kids)) := by
  simp only [step] at hs
  split at hs
  · exact .inl ⟨‹_›, (Option.some.inj hs).symm⟩
  · split at hs
    · exact .inr ⟨‹_›, _, _, _, _, ‹_›, (Option.some.inj hs).symm⟩
    · cases hs

theorem step_unlink_inv (hs : step s (.unlink h) = some s') :
    (h = 0 ∧ s' = s) ∨
      (h ≠ 0 ∧ h ∈ s.ext ∧ drain (fuelFor s) { s with ext := s.ext.erase h } [h] = some s') := by
  simp only [step] at hs
  split at hs
  · exact .inl ⟨‹_›, (Option.some.inj hs).symm⟩
  · split at hs
    · exact .inr ⟨‹_›, ‹_›, hs⟩
    · cases hs

theorem step_uncache_inv (hs : step s (.uncache h) = some s') :
    (h = 0 ∧ s' = s) ∨ (h ≠ 0 ∧
      ((∃ lvl kids, s.get h = .active lvl 0 1 kids ∧ drain (fuelFor s) (s.set h .free) kids = some s') ∨
       (∃ lvl inc cc kids, s.get h = .active lvl inc (cc+1) kids ∧ ¬ (cc = 0 ∧ inc = 0) ∧
          s' = s.set h (.active lvl inc cc kids)) ∨
       (∃ cc, s.get h = .deleted (cc+1) ∧ s' = s.set h (if cc = 0 then .free else .deleted cc)))) := by
  simp only [step] at hs
  split at hs
  · exact .inl ⟨‹_›, (Option.some.inj hs).symm⟩
  · refine .inr ⟨‹_›, ?_⟩
    split at hs
    · split at hs
      · rename_i hg hl
        obtain ⟨rfl, rfl⟩ := hl
        exact .inl ⟨_, _, hg, hs⟩
      · exact .inr (.inl ⟨_, _, _, _, ‹_›, ‹_›, (Option.some.inj hs).symm⟩)
    · refine .inr (.inr ⟨_, ‹_›, ?_⟩)
      split at hs
      · rw [if_pos ‹_›]; exact (Option.some.inj hs).symm
      · rw [if_neg ‹_›]; exact (Option.some.inj hs).symm
    · cases hs

theorem step_alloc_inv {lvl : Nat} {kids : List Nat} (hs : step s (.alloc h lvl kids) = some s') :
    h ≠ 0 ∧ s.get h = .free ∧ 1 ≤ lvl ∧ lvl ≤ s.K ∧ kidsBelow s lvl kids = true ∧
      ∃ ext', takeRefs s.ext kids = some ext' ∧
        s' = { s.set h (.active lvl 1 0 kids) with ext := h :: ext' } := by
  simp only [step] at hs
  split at hs
  · cases hs
  · split at hs
    · split at hs
      · rename_i hc
        split at hs
        · exact ⟨‹_›, ‹_›, hc.1, hc.2.1, hc.2.2, _, ‹_›, (Option.some.inj hs).symm⟩
        · cases hs
      · cases hs
    · cases hs

theorem step_inv {op : Op} (hw : WInv s []) (hs : step s op = some s') :
    WInv s' [] ∧ s'.pol = s.pol ∧ s'.K = s.K := by
  cases op with
  | link h =>
    rcases step_link_inv hs with ⟨_, rfl⟩ | ⟨_, lvl, inc, cc, kids, hg, rfl⟩
    · exact ⟨hw, rfl, rfl⟩
    · exact ⟨winv_recount hw hg (fun x => by rw [count_cons_ite]; split <;> omega) nofun, rfl, rfl⟩
  | unlink h =>
    rcases step_unlink_inv hs with ⟨_, rfl⟩ | ⟨_, hm, hd⟩
    · exact ⟨hw, rfl, rfl⟩
    · exact (drain_inv (winv_unlink_start hw hm) hd :)
  | cache h =>
    rcases step_cache_inv hs with ⟨_, rfl⟩ | ⟨_, lvl, inc, cc, kids, hg, rfl⟩
    · exact ⟨hw, rfl, rfl⟩
    · have hu := hg ▸ hw.unreach h
      exact ⟨winv_recount hw hg (fun _ => rfl) (fun e => ⟨Nat.succ_pos cc, (hu rfl e).2⟩), rfl, rfl⟩
  | uncache h =>
    rcases step_uncache_inv hs with ⟨_, rfl⟩ | ⟨h0, ⟨lvl, kids, hg, hd⟩ | ⟨lvl, inc, cc, kids, hg, hl, rfl⟩ |
      ⟨cc, hg, rfl⟩⟩
    · exact ⟨hw, rfl, rfl⟩
    · exact (drain_inv (winv_uncache_last hw h0 hg) hd :)
    · have hu := hg ▸ hw.unreach h
      exact ⟨winv_recount hw hg (fun _ => rfl)
        (fun e => ⟨Nat.pos_of_ne_zero fun c0 => hl ⟨c0, e⟩, (hu rfl e).2⟩), rfl, rfl⟩
    · refine ⟨winv_relabel hw hg ?_ fun c e => ?_, rfl, rfl⟩
      · split <;> rfl
      · split at e
        · cases e
        · exact HState.deleted.inj e ▸ Nat.pos_of_ne_zero ‹_›
  | alloc h lvl kids =>
    obtain ⟨h0, hg, _, hl, hk, ext', ht, rfl⟩ := step_alloc_inv hs
    refine ⟨?_, rfl, rfl⟩
    have hh : 0 = s.ext.count h + prefs s.tab h + 0 := (hg ▸ hw.counts h h0 :)
    refine winv_set hw h0 (fun x hx => ?_) (fun k hk1 hk0 => ?_)
      (fun p hp => absurd hp (noparent_of_prefs (by omega) p)) hl nofun (fun _ e => nomatch e)
    · have t := takeRefs_count kids s.ext ext' ht x hx
      have : incOf (s.get x) = s.ext.count x + prefs s.tab x + 0 := hw.counts x hx
      rw [hg]
      show _ + 0 = _ + _ + kids.count x + 0
      by_cases e : x = h
      · subst e; rw [if_pos rfl, List.count_cons_self]; show 1 + 0 = _; omega
      · rw [if_neg e, List.count_cons_of_ne (Ne.symm e)]; omega
    · have hkb : (k == 0 || (isActive (s.get k) && decide (lvlOf (s.get k) < lvl))) = true :=
        List.all_eq_true.mp hk k hk1
      rw [beq_false_of_ne hk0, Bool.false_or, Bool.and_eq_true, decide_eq_true_eq] at hkb
      exact ⟨fun e => (by subst e; rw [hg] at hkb; exact nomatch hkb.1), hkb⟩

theorem run_inv {ops : List Op} (hw : WInv s []) (hr : run s ops = some s') :
    WInv s' [] ∧ s'.pol = s.pol ∧ s'.K = s.K := by
  induction ops generalizing s with
  | nil => cases hr; exact ⟨hw, rfl, rfl⟩
  | cons op ops ih =>
    simp only [run] at hr
    cases h1 : step s op with
    | none => simp [h1] at hr
    | some s1 =>
      simp only [h1] at hr
      obtain ⟨w1, p1, k1⟩ := step_inv hw h1
      obtain ⟨w2, p2, k2⟩ := ih w1 hr
      exact ⟨w2, p2.trans p1, k2.trans k1⟩

/-- `s'` has no new nodes, and every node of `s'` has the level and children it had in `s` -/
def Shrinks (s s' : St) : Prop :=
  ∀ p, isActive (s'.get p) = true →
    isActive (s.get p) = true ∧ lvlOf (s'.get p) = lvlOf (s.get p) ∧ kidsOf (s'.get p) = kidsOf (s.get p)

theorem shrinks_refl (s : St) : Shrinks s s := fun _ h => ⟨h, rfl, rfl⟩

theorem shrinks_trans {a b c : St} (h1 : Shrinks a b) (h2 : Shrinks b c) : Shrinks a c := by
  intro p hp
  obtain ⟨x, y, z⟩ := h2 p hp
  obtain ⟨x', y', z'⟩ := h1 p x
  exact ⟨x', y.trans y', z.trans z'⟩

theorem shrinks_set
    (hv : isActive v = true → isActive (s.get h) = true ∧ lvlOf v = lvlOf (s.get h) ∧ kidsOf v = kidsOf (s.get h)) :
    Shrinks s (s.set h v) := by
  intro p hp
  rw [get_set] at hp ⊢
  by_cases e : p = h
  · subst e; rw [if_pos rfl] at hp ⊢; exact hv hp
  · rw [if_neg e] at hp ⊢; exact ⟨hp, rfl, rfl⟩

theorem shrinks_recount {lvl inc cc inc' cc' : Nat} {kids : List Nat}
    (hg : s.get h = .active lvl inc cc kids) : Shrinks s (s.set h (.active lvl inc' cc' kids)) :=
  shrinks_set fun _ => hg ▸ ⟨rfl, rfl, rfl⟩

theorem shrinks_kill (hv : isActive v = false) : Shrinks s (s.set h v) :=
  shrinks_set fun h => nomatch hv.symm.trans h

theorem unlink1_shrinks {s s1 : St} {h : Nat} {ks : List Nat} (hu : unlink1 s h = some (s1, ks)) :
    Shrinks s s1 := by
  unfold unlink1 at hu
  split at hu
  · rename_i lvl inc cc kids hg
    split at hu
    · cases hu; exact shrinks_recount hg
    · split at hu
      · cases hu; exact shrinks_kill rfl
      · split at hu
        · cases hu; exact shrinks_kill rfl
        · cases hu; exact shrinks_recount hg
  · cases hu

theorem drain_shrinks {f : Nat} (hd : drain f s wl = some s') :
    Shrinks s s' :=
  drain_rec (Q := fun _ s _ s' => Shrinks s s') (fun _ s => shrinks_refl s) (fun _ _ _ _ ih => ih)
    (fun _ _ _ _ _ _ _ _ hu ih => shrinks_trans (unlink1_shrinks hu) ih) f s wl s' hd

theorem step_shrinks {op : Op} (hop : ∀ h lvl kids, op ≠ .alloc h lvl kids)
    (hs : step s op = some s') : Shrinks s s' := by
  cases op with
  | link h =>
    rcases step_link_inv hs with ⟨_, rfl⟩ | ⟨_, lvl, inc, cc, kids, hg, rfl⟩
    · exact shrinks_refl _
    · exact shrinks_recount (s := s) hg
  | unlink h =>
    rcases step_unlink_inv hs with ⟨_, rfl⟩ | ⟨_, _, hd⟩
    · exact shrinks_refl _
    · exact (drain_shrinks hd :)
  | cache h =>
    rcases step_cache_inv hs with ⟨_, rfl⟩ | ⟨_, lvl, inc, cc, kids, hg, rfl⟩
    · exact shrinks_refl _
    · exact shrinks_recount hg
  | uncache h =>
    rcases step_uncache_inv hs with ⟨_, rfl⟩ | ⟨_, ⟨lvl, kids, hg, hd⟩ | ⟨lvl, inc, cc, kids, hg, _, rfl⟩ |
      ⟨cc, hg, rfl⟩⟩
    · exact shrinks_refl _
    · exact shrinks_trans (shrinks_kill rfl) (drain_shrinks hd)
    · exact shrinks_recount hg
    · exact shrinks_kill (by split <;> rfl)
  | alloc h lvl kids => exact absurd rfl (hop h lvl kids)

/-- no node survives without a reason: if no outside reference exists and no node is kept alive
    by the "unreachable but cached" rule, then no node is active (a live node would have a live
    parent at a strictly higher level, that one another, and so on beyond the top level `K`). -/
theorem no_active_of_no_ext (hw : WInv s []) (hext : s.ext = [])
    (hreason : ∀ p, ¬ (0 < ccOf (s.get p) ∧ s.pol = .optimistic)) (p : Nat) :
    isActive (s.get p) = false := by
  -- a live node has a count, which no outside reference explains: it has a parent, at a higher level
  have parent : ∀ p, isActive (s.get p) = true →
      ∃ q, isActive (s.get q) = true ∧ lvlOf (s.get p) < lvlOf (s.get q) := by
    intro p ha
    have p0 : p ≠ 0 := fun e => by subst e; rw [hw.zero] at ha; cases ha
    have hc := hext ▸ hw.counts p p0
    have hpos : 0 < prefs s.tab p :=
      Nat.pos_of_ne_zero fun e => hreason p (hw.unreach p ha (by rw [hc, e]; rfl))
    obtain ⟨q, hq⟩ := tsum_pos _ s.tab hpos
    have hq : p ∈ kidsOf (s.get q) := List.count_pos_iff.mp hq
    refine ⟨q, ?_, (hw.lower q p hq p0).2⟩
    cases hg : s.get q with
    | active => rfl
    | _ => rw [hg] at hq; cases hq
  -- so above a live node sits a chain of live nodes of any length, and the levels are bounded
  have chain : ∀ n p, isActive (s.get p) = true → lvlOf (s.get p) + n ≤ s.K := by
    intro n
    induction n with
    | zero => exact fun p _ => hw.bound p
    | succ n ih =>
      intro p ha
      obtain ⟨q, hqa, hl⟩ := parent p ha
      have := ih q hqa
      omega
  cases ha : isActive (s.get p) with
  | false => rfl
  | true => have := chain (s.K + 1) p ha; omega

end

/-- `counts_exact`: after any history of API calls that respects the link/unlink pairing, the
    incoming count recorded in `node_headers` for every handle equals the number of references
    that actually exist: outside references (root edges, unpacked nodes under construction) plus
    child slots of live nodes.  In particular free and deleted handles are referenced by nobody. -/
theorem counts_exact (pol : Policy) (K : Nat) (ops : List Op) (s : St)
    (hr : run (init pol K) ops = some s) :
    ∀ h, h ≠ 0 → incOf (s.get h) = s.ext.count h + prefs s.tab h :=
  (run_inv (winv_init pol K) hr).1.counts

example :
    let ops := [Op.alloc 1 1 [0, 0], .alloc 2 1 [0, 0], .link 1, .link 2, .alloc 3 2 [1, 2], .link 1,
                .cache 3, .unlink 3]
    (run (init .pessimistic 3) ops) =
      some ⟨.pessimistic, 3, [.free, .active 1 2 0 [0, 0], .active 1 1 0 [0, 0], .deleted 1], [1, 2, 1]⟩ := by
  decide +kernel

/-- `no_dangling`: a live node never points to a reclaimed (free or deleted) handle; its
    non-terminal children are live nodes, and they sit at strictly lower levels. -/
theorem no_dangling (pol : Policy) (K : Nat) (ops : List Op) (s : St)
    (hr : run (init pol K) ops = some s) :
    ∀ p k, isActive (s.get p) = true → k ∈ kidsOf (s.get p) → k ≠ 0 →
      isActive (s.get k) = true ∧ lvlOf (s.get k) < lvlOf (s.get p) :=
  fun p k _ => (run_inv (winv_init pol K) hr).1.lower p k

example :
    let ops := [Op.alloc 1 1 [0, 0], .alloc 2 1 [0, 0], .link 1, .link 2, .alloc 3 2 [1, 2]]
    (run (init .optimistic 2) ops).map (fun s => (kidsOf (s.get 3), isActive (s.get 1), isActive (s.get 2),
        lvlOf (s.get 1), lvlOf (s.get 3))) = some ([1, 2], true, true, 1, 2) := by
  decide +kernel

/-- `held_alive`: every handle to which an outside reference exists (a user `dd_edge`, a slot of an
    unpacked node) is a live node. -/
theorem held_alive (pol : Policy) (K : Nat) (ops : List Op) (s : St)
    (hr : run (init pol K) ops = some s) :
    ∀ h, h ≠ 0 → h ∈ s.ext → isActive (s.get h) = true ∧ 0 < incOf (s.get h) := by
  intro h hne hm
  have hc := counts_exact pol K ops s hr h hne
  have : 0 < s.ext.count h := List.count_pos_iff.mpr hm
  have hi : 0 < incOf (s.get h) := by omega
  refine ⟨?_, hi⟩
  cases hg : s.get h with
  | active => rfl
  | _ => rw [hg] at hi; cases hi

example :
    let ops := [Op.alloc 1 1 [0, 0], .link 1, .cache 1]
    (run (init .pessimistic 2) ops).map (fun s => (s.ext, s.get 1)) =
      some ([1, 1], .active 1 2 1 [0, 0]) := by
  decide +kernel

/-- `content_stable`: an operation never changes the level or the children of a node that is alive
    before and after it (so, with `held_alive` and `no_dangling`, the whole sub-graph under an edge
    the user keeps holding is unchanged: the edge keeps denoting the same function). -/
theorem content_stable (s s' : St) (op : Op) (hs : step s op = some s') :
    ∀ p, isActive (s.get p) = true → isActive (s'.get p) = true →
      lvlOf (s'.get p) = lvlOf (s.get p) ∧ kidsOf (s'.get p) = kidsOf (s.get p) := by
  intro p hp hp'
  cases op with
  | alloc h lvl kids =>
    obtain ⟨_, hg, _, _, _, ext', _, rfl⟩ := step_alloc_inv hs
    -- the new node sits on a handle that was free, so `p` is another one
    have hne : p ≠ h := fun e => by rw [e, hg] at hp; cases hp
    have e := (get_set s h p (.active lvl 1 0 kids)).trans (if_neg hne)
    exact ⟨congrArg lvlOf e, congrArg kidsOf e⟩
  | _ => exact (step_shrinks (by nofun) hs p hp').2

example :
    let s : St := ⟨.optimistic, 2, [.free, .active 1 3 0 [0, 0], .active 2 1 0 [1, 1]], [2, 1]⟩
    (step s (.unlink 2)).map (fun s' => (s'.get 1, s'.get 2)) =
      some (.active 1 1 0 [0, 0], .free) := by
  decide +kernel

/-- `reuse_only_free`: `getFreeNodeHandle` (the `alloc` step) can only hand out a handle that is
    free — incoming count 0, cache count 0 — and, in every reachable state, such a handle is
    referenced by nobody (no outside reference, no child slot of a live node). -/
theorem reuse_only_free (pol : Policy) (K : Nat) (ops : List Op) (s s' : St)
    (hr : run (init pol K) ops = some s) (h lvl : Nat) (kids : List Nat)
    (ha : step s (.alloc h lvl kids) = some s') :
    s.get h = .free ∧ incOf (s.get h) = 0 ∧ ccOf (s.get h) = 0 ∧
      s.ext.count h = 0 ∧ prefs s.tab h = 0 := by
  obtain ⟨h0, hg, _⟩ := step_alloc_inv ha
  have hc : 0 = s.ext.count h + prefs s.tab h := (hg ▸ counts_exact pol K ops s hr h h0 :)
  rw [hg]
  exact ⟨rfl, rfl, rfl, by omega, by omega⟩

example :
    let ops := [Op.alloc 1 1 [0, 0], .unlink 1]
    (run (init .pessimistic 2) ops).map (fun s => (s.get 1, (step s (.alloc 1 2 [0, 0])).isSome)) =
      some (.free, true) := by
  decide +kernel

/-- `no_reuse_while_cached`: a handle that some compute-table entry still mentions (cache count
    > 0) is never handed out again, whether its node is alive, unreachable or already deleted. -/
theorem no_reuse_while_cached (s : St) (h lvl : Nat) (kids : List Nat)
    (hc : 0 < ccOf (s.get h)) : step s (.alloc h lvl kids) = none := by
  cases hs : step s (.alloc h lvl kids) with
  | none => rfl
  | some s' =>
    rw [(step_alloc_inv hs).2.1] at hc
    cases hc

example : step ⟨.pessimistic, 3, [.free, .active 1 2 0 [0, 0], .active 1 1 0 [0, 0], .deleted 1], [1, 2, 1]⟩
    (.alloc 3 2 [1, 2]) = none := by decide +kernel

/-- `all_reclaimed`: once the user has released every edge (no outside reference) and the compute
    tables are empty (every cache count 0), every handle is free again: nothing leaks, under
    either policy. -/
theorem all_reclaimed (pol : Policy) (K : Nat) (ops : List Op) (s : St)
    (hr : run (init pol K) ops = some s) (hext : s.ext = []) (hcc : ∀ h, ccOf (s.get h) = 0) :
    ∀ h, s.get h = .free := by
  have hw := (run_inv (winv_init pol K) hr).1
  intro h
  have hna := no_active_of_no_ext hw hext (fun p hu => Nat.ne_of_gt hu.1 (hcc p)) h
  cases hg : s.get h with
  | free => rfl
  | active lvl inc cc kids => rw [hg] at hna; cases hna
  | deleted c =>
    exact absurd (hg ▸ hcc h :) (Nat.ne_of_gt (hw.zombie h c hg))

example :
    let ops := [Op.alloc 1 1 [0, 0], .alloc 2 1 [0, 0], .link 1, .alloc 3 2 [1, 2], .cache 3, .cache 1,
                .unlink 3, .uncache 1, .unlink 1, .uncache 3]
    (run (init .optimistic 3) ops).map (fun s => (s.ext, s.tab)) =
      some ([], [.free, .free, .free, .free]) := by
  decide +kernel

/-- `all_reclaimed_pessimistic`: under the pessimistic policy no node outlives the last outside
    reference, even while compute-table entries still mention it (only deleted handles remain). -/
theorem all_reclaimed_pessimistic (K : Nat) (ops : List Op) (s : St)
    (hr : run (init .pessimistic K) ops = some s) (hext : s.ext = []) :
    ∀ h, isActive (s.get h) = false := by
  obtain ⟨hw, hp, _⟩ := run_inv (winv_init .pessimistic K) hr
  exact no_active_of_no_ext hw hext fun _ hu => nomatch hp.symm.trans hu.2

example :
    let ops := [Op.alloc 1 1 [0, 0], .alloc 2 1 [0, 0], .link 1, .alloc 3 2 [1, 2], .cache 3, .cache 1,
                .unlink 3, .unlink 1]
    (run (init .pessimistic 3) ops).map (fun s => (s.ext, s.tab)) =
      some ([], [.free, .deleted 1, .free, .deleted 1]) := by
  decide +kernel

/-- `release_never_fails`: the API contract is sufficient — in every reachable state, releasing a
    reference one holds (`unlinkNode`) and removing a cache mark one placed (`uncacheNode`) are
    always legal: the deletion cascade never meets a handle that is not a live node with a
    positive count (none of the `MEDDLY_DCASSERT`s in `unlinkNode`/`deleteNode` can fire) and the
    fuel bound of the model is never exhausted. -/
theorem release_never_fails (pol : Policy) (K : Nat) (ops : List Op) (s : St)
    (hr : run (init pol K) ops = some s) (h : Nat) :
    (h ∈ s.ext → (step s (.unlink h)).isSome = true) ∧
    (0 < ccOf (s.get h) → (step s (.uncache h)).isSome = true) := by
  have hw := (run_inv (winv_init pol K) hr).1
  constructor
  · intro hm
    obtain ⟨s', hs'⟩ := drain_total (fuelFor s) _ [h] (winv_unlink_start hw hm) (Nat.le_refl _)
    simp only [step]
    split
    · rfl
    · rw [hs']; rfl
  · intro hc
    simp only [step]
    split
    · rfl
    · rename_i h0
      cases hg : s.get h with
      | free => rw [hg] at hc; cases hc
      | deleted c0 =>
        rw [hg] at hc
        cases c0 with
        | zero => cases hc
        | succ c => by_cases e : c = 0 <;> simp [e]
      | active lvl inc cc0 kids =>
        rw [hg] at hc
        cases cc0 with
        | zero => cases hc
        | succ cc =>
          by_cases hlast : cc = 0 ∧ inc = 0
          · simp only [hlast, and_self, if_true]
            obtain ⟨rfl, rfl⟩ := hlast
            have hd := winv_uncache_last hw h0 hg
            have hk := kidSum_set s h .free
            rw [hg] at hk; simp [kidsOf] at hk
            obtain ⟨s', hs'⟩ := drain_total (fuelFor s) _ kids hd (by simp [fuelFor]; omega)
            simp [hs']
          · simp [hlast]

example :
    let ops := [Op.alloc 1 1 [0, 0], .link 1, .alloc 2 2 [1, 1], .cache 2]
    (run (init .optimistic 2) ops).map (fun s => ((step s (.unlink 2)).isSome, (step s (.uncache 2)).isSome)) =
      some (true, true) := by
  decide +kernel

end Meddly.NodeLife

/-
`#print axioms` (Lean 4.33.0):
  counts_exact              [propext, Classical.choice, Quot.sound]
  no_dangling               [propext, Classical.choice, Quot.sound]
  held_alive                [propext, Classical.choice, Quot.sound]
  content_stable            [propext, Classical.choice, Quot.sound]
  reuse_only_free           [propext, Classical.choice, Quot.sound]
  no_reuse_while_cached     [propext, Quot.sound]
  all_reclaimed             [propext, Classical.choice, Quot.sound]
  all_reclaimed_pessimistic [propext, Classical.choice, Quot.sound]
  release_never_fails       [propext, Classical.choice, Quot.sound]
-/
