/-
  C07  Compute tables are transparent.

  Model `CT` of MEDDLY's compute tables (src/storage/ct_styles.cc, template
  `ct_tmpl<TTYPE, MONOLITHIC, CHAINED, INTSLOTS>`; src/compute_table.{h,cc};
  src/ct_entry_type.{h,cc}; the node-liveness tests `forest::isDeadEntry`,
  `forest::isStaleEntry`, `forest::cacheNode`, `forest::uncacheNode` in src/forest.h).

  What the code does (all four styles):

  * `addEntry` inserts the entry unconditionally (front of the chain / a free slot of the
    probe window h, h+1, h+2, else it overwrites the home slot h after `deleteEntry` of the
    victim) and calls `cacheNode` once for EVERY node item of the key and of the result
    (so a node occurring k times in one entry is counted k times).  It never looks for an
    existing entry with the same key: the protocol is `find` -> miss -> `addEntry` with the
    same `ct_vector` (which carries the pre-built entry), or `doneKey`.
  * `find` walks the chain / the probe window.  For an entry whose (type, key) is EQUAL:
    if `isDead` (some RESULT node item is dead: deleted node, or its forest is marked /
    destroyed) the entry is discarded and the search stops with a MISS; otherwise HIT.
    An UNEQUAL entry is discarded when `checkStalesOnFind` (Aggressive) and it `isStale`.
    The key items of an equal entry are not tested: the caller holds those nodes.
  * `deleteEntry` calls `uncacheNode` once for every node item of key and result.
  * `removeStales` discards exactly the entries that are stale when they are scanned
    (some node item is stale: deleted, or in-count 0 under reference counting; or the entry
    type is marked for deletion / a forest of the type is gone); `removeAll` discards all.
  * when `numEntries >= tableExpand` an add runs `removeStaleEntries` and possibly
    `resizeTable`; in the unchained styles `resizeTable` re-inserts through `setTable`
    and may therefore evict arbitrary entries.
  * NOTE (documented quirk, not a transparency issue): `maxSize` is only honoured when
    the doubling sequence 1024, 2048, ... hits it exactly; `checkStalesOnResize` is never
    read, so Moderate and Lazy behave identically.

  Which entries survive is therefore a function of hash values and table geometry.  The
  model is a SPECIFICATION AUTOMATON: the table is a list of entries, any set of entries may
  disappear at any step (`Op.lose`), and a trace is ACCEPTED iff every observed hit is
  justified by the table and every add finds its key absent (the find-miss-add protocol).
  All definitions are total and computable; the acceptor
  (`MeddlyModel/Fam/CTableAccept.lean`) replays transcripts with `CT.step`.

  Results, for every accepted trace: `ct_trace_sound` (a hit returns the most recent add for
  its key, none of whose nodes was dead since), `cc_exact` and `keys_distinct` (the invariant
  `Inv`), `removeAll_empty`, `removeStales_clean`, `no_reuse_while_cached`; `lossy_ok` (a client
  that recomputes on a miss sees the same results under every loss schedule); for the acceptor
  `tracking_sound` and `find_accepted`.
  Assumed, not proved here: `NodeLifeOK` / `NodeLife` (what the node manager owes the table).
  Not modelled: mark-and-sweep forests (no cache counts), the recursion of `apply` (the client
  of `lossy_ok` is flat), hash values and table geometry.
-/
namespace Meddly.CT

/-! ## Entries -/

/-- A node as a compute-table item sees it.  `gen` is the logical identity of the node
    currently occupying `handle` (the harness uses the content of the node); two
    references with the same handle but different `gen` are different nodes (the handle was
    recycled in between). -/
structure NodeRef where
  forest : Nat
  handle : Nat
  gen : Nat
  deriving DecidableEq, Repr, Inhabited

/-- key / result items: a node of some forest, or plain data ('I','L', terminals). -/
inductive Item where
  | node (n : NodeRef)
  | int (v : Int)
  deriving DecidableEq, Repr, Inhabited

def Item.nodes : Item → List NodeRef
  | .node n => [n]
  | .int _ => []

/-- node items of an item list, in order, WITH multiplicity -/
def nodesOf : List Item → List NodeRef
  | [] => []
  | i :: is => i.nodes ++ nodesOf is

structure Entry where
  etype : Nat
  key : List Item
  result : List Item
  deriving DecidableEq, Repr, Inhabited

namespace Entry
/-- every node item of key and result (what `addEntry` passes to `cacheNode`) -/
def nodes (e : Entry) : List NodeRef := nodesOf e.key ++ nodesOf e.result
/-- number of items of `e` that are node `n` -/
def mentions (e : Entry) (n : NodeRef) : Nat := e.nodes.count n
def hasKey (e : Entry) (et : Nat) (key : List Item) : Bool := e.etype == et && e.key == key
end Entry

/-- number of node items equal to `n` over a list of entries
    (= what `compute_table::countAllNodeEntries` computes) -/
def total : List Entry → NodeRef → Nat
  | [], _ => 0
  | e :: es, n => e.mentions n + total es n

/-! ## The node-liveness view (input of every step; owned by NodeLife) -/

structure View where
  /-- `forest::isDeadEntry`: the node is deleted (or its forest is marked for deletion) -/
  dead : NodeRef → Bool
  /-- `forest::isStaleEntry`: dead, or unreachable (in-count 0) under reference counting -/
  stale : NodeRef → Bool
  /-- the entry type is marked for deletion or one of its forests no longer exists -/
  typeDead : Nat → Bool
  /-- the handle is on the forest's free list (may be handed out for a new node) -/
  free : NodeRef → Bool

def View.allLive : View := ⟨fun _ => false, fun _ => false, fun _ => false, fun _ => false⟩

/-- `ct_tmpl::isDead` : only RESULT node items are inspected -/
def deadEntry (v : View) (e : Entry) : Bool :=
  v.typeDead e.etype || (nodesOf e.result).any v.dead
/-- `ct_tmpl::isStale` : key and result node items -/
def staleEntry (v : View) (e : Entry) : Bool :=
  v.typeDead e.etype || e.nodes.any v.stale
/-- some node of the entry (key or result) is dead, or its type is -/
def deadish (v : View) (e : Entry) : Prop :=
  v.typeDead e.etype = true ∨ ∃ n, n ∈ e.nodes ∧ v.dead n = true

/-! ## The table -/

/-- `entries`: newest first.  `cc`: the per-node cache counters, maintained the way the
    code maintains them (increment per item on add, decrement per item on discard). -/
structure Table where
  entries : List Entry
  cc : NodeRef → Nat

def incr (cc : NodeRef → Nat) (n : NodeRef) : NodeRef → Nat :=
  fun m => if m = n then cc m + 1 else cc m
def decr (cc : NodeRef → Nat) (n : NodeRef) : NodeRef → Nat :=
  fun m => if m = n then cc m - 1 else cc m
/-- `cacheNode` for every listed node -/
def cacheAll (cc : NodeRef → Nat) (ns : List NodeRef) : NodeRef → Nat := ns.foldl incr cc
/-- `uncacheNode` for every listed node -/
def uncacheAll (cc : NodeRef → Nat) (ns : List NodeRef) : NodeRef → Nat := ns.foldl decr cc
/-- `deleteEntry` for every listed entry (counter part) -/
def uncacheEntries (cc : NodeRef → Nat) (es : List Entry) : NodeRef → Nat :=
  es.foldl (fun c e => uncacheAll c e.nodes) cc

namespace Table
def empty : Table := ⟨[], fun _ => 0⟩
/-- `addEntry` -/
def add (t : Table) (e : Entry) : Table := ⟨e :: t.entries, cacheAll t.cc e.nodes⟩
/-- `deleteEntry` on every entry satisfying `p` -/
def discardWhere (t : Table) (p : Entry → Bool) : Table :=
  ⟨t.entries.filter (fun e => !p e), uncacheEntries t.cc (t.entries.filter p)⟩
/-- newest entry with this type and key -/
def lookup (t : Table) (et : Nat) (key : List Item) : Option Entry :=
  t.entries.find? (fun e => e.hasKey et key)
/-- what `find` does on a table from which nothing else is lost during the call -/
def find (t : Table) (v : View) (et : Nat) (key : List Item) : Table × Option (List Item) :=
  match t.lookup et key with
  | none => (t, none)
  | some e =>
    if deadEntry v e then (t.discardWhere (fun x => x.hasKey et key), none)
    else (t, some e.result)
end Table

/-! ## Steps of the specification automaton -/

inductive Op where
  /-- `addCT(key,res)`; protocol: only after a miss for that key -/
  | add (e : Entry)
  /-- `findCT(key)` with its observed outcome (`some r` = hit returning `r`) -/
  | find (et : Nat) (key : List Item) (out : Option (List Item))
  /-- any set of entries disappears (overwrite of a home slot, resize, stale removal
      during `find`, clearing the tables of one forest, ...) -/
  | lose (p : Entry → Bool)
  /-- `removeStales()` -/
  | removeStales
  /-- `removeAll()` -/
  | removeAll

structure Step where
  view : View
  op : Op

/-- One step; `none` = the observation is not a behaviour of a correct table. -/
def step (t : Table) (v : View) : Op → Option Table
  | .add e => if (t.lookup e.etype e.key).isNone then some (t.add e) else none
  | .find et key (some r) =>
    match t.lookup et key with
    | some e => if e.result = r ∧ deadEntry v e = false then some t else none
    | none => none
  | .find et key none => some (t.discardWhere (fun e => e.hasKey et key))
  | .lose p => some (t.discardWhere p)
  | .removeStales => some (t.discardWhere (staleEntry v))
  | .removeAll => some (t.discardWhere (fun _ => true))

/-- A history is a list of steps, NEWEST FIRST; `exec` replays it from the empty table. -/
def exec : List Step → Option Table
  | [] => some Table.empty
  | s :: rest => (exec rest).bind (fun t => step t s.view s.op)

/-- forward replay (oldest first), as the acceptor does it -/
def run (t : Table) : List Step → Option Table
  | [] => some t
  | s :: rest => (step t s.view s.op).bind (fun t' => run t' rest)

/-- Specification of lookup on the HISTORY: the most recent `add` for (et,key), and whether
    any later step saw one of its nodes (or its type) dead. -/
def specFind (et : Nat) (key : List Item) : List Step → Option (Entry × Bool)
  | [] => none
  | s :: rest =>
    let older := (specFind et key rest).map
      (fun p => (p.1, p.2 || (p.1.nodes.any s.view.dead || s.view.typeDead p.1.etype)))
    match s.op with
    | .add e => if e.hasKey et key then some (e, false) else older
    | _ => older

section
variable (cc : NodeRef → Nat) (m : NodeRef)

theorem incr_apply (n : NodeRef) :
    incr cc n m = cc m + (if n == m then 1 else 0) := by
  simp only [incr, beq_iff_eq, eq_comm (a := n)]
  split <;> rfl

theorem decr_apply (n : NodeRef) :
    decr cc n m = cc m - (if n == m then 1 else 0) := by
  simp only [decr, beq_iff_eq, eq_comm (a := n)]
  split <;> rfl

theorem cacheAll_apply (ns : List NodeRef) :
    cacheAll cc ns m = cc m + ns.count m := by
  induction ns generalizing cc with
  | nil => rfl
  | cons n ns ih =>
    show cacheAll (incr cc n) ns m = _
    rw [ih, incr_apply, List.count_cons]; omega

theorem uncacheAll_apply (ns : List NodeRef) :
    uncacheAll cc ns m = cc m - ns.count m := by
  induction ns generalizing cc with
  | nil => rfl
  | cons n ns ih =>
    show uncacheAll (decr cc n) ns m = _
    rw [ih, decr_apply, List.count_cons]; omega

theorem uncacheEntries_apply (es : List Entry) :
    uncacheEntries cc es m = cc m - total es m := by
  induction es generalizing cc with
  | nil => rfl
  | cons e es ih =>
    show uncacheEntries (uncacheAll cc e.nodes) es m = cc m - (e.nodes.count m + total es m)
    rw [ih, uncacheAll_apply]; omega

end

theorem total_filter_split (p : Entry → Bool) (es : List Entry) (n : NodeRef) :
    total (es.filter p) n + total (es.filter (fun e => !p e)) n = total es n := by
  induction es with
  | nil => rfl
  | cons e es ih =>
    rw [List.filter_cons, List.filter_cons]
    cases p e
    · show total (es.filter p) n + (e.mentions n + total (es.filter _) n) = e.mentions n + total es n
      omega
    · show e.mentions n + total (es.filter p) n + total (es.filter _) n = e.mentions n + total es n
      omega

theorem total_pos {es : List Entry} {e : Entry} {n : NodeRef}
    (he : e ∈ es) (hn : n ∈ e.nodes) : 0 < total es n := by
  induction es with
  | nil => cases he
  | cons x xs ih =>
    cases he with
    | head => exact Nat.add_pos_left (List.count_pos_iff.mpr hn) _
    | tail _ h => exact Nat.add_pos_right _ (ih h)

section
variable {t t' : Table} {v : View} {et : Nat} {key : List Item} {e : Entry}

theorem hasKey_iff :
    e.hasKey et key = true ↔ e.etype = et ∧ e.key = key := by
  simp [Entry.hasKey]

theorem lookup_none_iff :
    t.lookup et key = none ↔ ∀ e, e ∈ t.entries → e.hasKey et key = false := by
  unfold Table.lookup
  rw [List.find?_eq_none]
  exact forall₂_congr fun _ _ => Bool.eq_false_iff.symm

theorem lookup_some (h : t.lookup et key = some e) : e ∈ t.entries ∧ e.etype = et ∧ e.key = key := by
  have hk := List.find?_some h
  exact ⟨List.mem_of_find?_eq_some h, hasKey_iff.mp hk⟩

theorem find_none (h : t.lookup et key = none) : t.find v et key = (t, none) := by
  simp [Table.find, h]
theorem find_dead (h : t.lookup et key = some e) (hd : deadEntry v e = true) :
    t.find v et key = (t.discardWhere (fun x => x.hasKey et key), none) := by
  simp [Table.find, h, hd]
theorem find_live (h : t.lookup et key = some e) (hd : deadEntry v e = false) :
    t.find v et key = (t, some e.result) := by
  simp [Table.find, h, hd]

theorem hasKey_self (e : Entry) : e.hasKey e.etype e.key = true := hasKey_iff.2 ⟨rfl, rfl⟩

theorem hasKey_symm (a b : Entry) : a.hasKey b.etype b.key = b.hasKey a.etype a.key := by
  rw [Bool.eq_iff_iff, hasKey_iff, hasKey_iff]
  exact ⟨fun h => ⟨h.1.symm, h.2.symm⟩, fun h => ⟨h.1.symm, h.2.symm⟩⟩

theorem exec_cons {s : Step} {rest : List Step} {t : Table} :
    exec (s :: rest) = some t ↔ ∃ t0, exec rest = some t0 ∧ step t0 s.view s.op = some t := by
  rw [exec]; cases exec rest <;> simp

theorem step_add :
    step t v (.add e) = some t' ↔ t.lookup e.etype e.key = none ∧ t.add e = t' := by
  cases h : t.lookup e.etype e.key <;> simp [step, h]

theorem step_find_some {r : List Item} :
    step t v (.find et key (some r)) = some t' ↔
      ∃ e, t.lookup et key = some e ∧ e.result = r ∧ deadEntry v e = false ∧ t = t' := by
  cases h : t.lookup et key <;> simp [step, h, and_assoc]

/-- an accepted step adds an entry under an absent key, changes nothing, or discards entries -/
theorem step_effect {op : Op} (h : step t v op = some t') :
    (∃ e, op = .add e ∧ t.lookup e.etype e.key = none ∧ t' = t.add e) ∨
    ((∀ e, op ≠ .add e) ∧ (t' = t ∨ ∃ p : Entry → Bool, t' = t.discardWhere p)) := by
  cases op with
  | add e => exact .inl ⟨e, rfl, (step_add.1 h).imp id Eq.symm⟩
  | find et key out =>
    refine .inr ⟨fun e h' => (nomatch h'), ?_⟩
    cases out with
    | none => cases h; exact .inr ⟨_, rfl⟩
    | some r => obtain ⟨_, _, _, _, rfl⟩ := step_find_some.1 h; exact .inl rfl
  | lose p | removeStales | removeAll =>
    cases h; exact .inr ⟨fun e h' => (nomatch h'), .inr ⟨_, rfl⟩⟩

end

/-! ## The counter / distinct-key invariant (no liveness assumption needed) -/

def DistinctKeys (es : List Entry) : Prop :=
  es.Pairwise (fun a b => ¬ (a.etype = b.etype ∧ a.key = b.key))

structure Inv (t : Table) : Prop where
  cc_ok : ∀ n, t.cc n = total t.entries n
  distinct : DistinctKeys t.entries

theorem inv_empty : Inv Table.empty := ⟨fun _ => rfl, List.Pairwise.nil⟩

theorem inv_discardWhere {t : Table} (h : Inv t) (p : Entry → Bool) : Inv (t.discardWhere p) := by
  constructor
  · intro n
    show uncacheEntries t.cc (t.entries.filter p) n = total (t.entries.filter (fun e => !p e)) n
    rw [uncacheEntries_apply, h.cc_ok]
    have := total_filter_split p t.entries n
    omega
  · exact List.Pairwise.sublist List.filter_sublist h.distinct

theorem inv_add {t : Table} (h : Inv t) (e : Entry) (hn : t.lookup e.etype e.key = none) :
    Inv (t.add e) := by
  constructor
  · intro n
    show cacheAll t.cc e.nodes n = e.nodes.count n + total t.entries n
    rw [cacheAll_apply, h.cc_ok]; omega
  · exact List.Pairwise.cons (fun b hb hk => Bool.eq_false_iff.mp (lookup_none_iff.mp hn b hb)
      (hasKey_iff.mpr ⟨hk.1.symm, hk.2.symm⟩)) h.distinct

theorem inv_step {t t' : Table} {v : View} {op : Op} (hi : Inv t) (h : step t v op = some t') :
    Inv t' := by
  rcases step_effect h with ⟨e, _, hn, rfl⟩ | ⟨_, rfl | ⟨p, rfl⟩⟩
  · exact inv_add hi e hn
  · exact hi
  · exact inv_discardWhere hi p

theorem inv_exec : ∀ {hist : List Step} {t : Table}, exec hist = some t → Inv t
  | [], t, h => by cases h; exact inv_empty
  | s :: rest, t, h => by
    obtain ⟨t0, hr, h⟩ := exec_cons.1 h
    exact inv_step (inv_exec hr) h

theorem lookup_of_mem {es : List Entry} (hd : DistinctKeys es) {e : Entry} (he : e ∈ es) :
    es.find? (fun x => x.hasKey e.etype e.key) = some e := by
  induction es with
  | nil => cases he
  | cons x xs ih =>
    rw [List.find?_cons]
    cases he with
    | head => rw [hasKey_self]
    | tail _ h =>
      have hx := (List.pairwise_cons.mp hd).1 e h
      rw [Bool.eq_false_iff.2 fun hk => hx (hasKey_iff.mp hk)]
      exact ih (List.pairwise_cons.mp hd).2 h

/-! ## The NodeLife assumptions -/

/-- What the compute table relies on from the node manager between two consecutive steps
    (previous view `pv`, table `t` after the previous step, next view `v`):
    a dead node that is still counted by some cache entry stays dead (its handle cannot be
    recycled: `node_headers::recycleNodeHandle` requires cache count 0), and a dead entry
    type stays dead. -/
structure Sticky (t : Table) (pv v : View) : Prop where
  dead_sticky : ∀ n, 0 < t.cc n → pv.dead n = true → v.dead n = true
  type_sticky : ∀ et, pv.typeDead et = true → v.typeDead et = true

/-- The assumptions along a whole history (newest first): stickiness between consecutive
    views, and the client obligation that a searched key only mentions nodes the caller
    holds (hence not dead). -/
def NodeLifeOK : List Step → Prop
  | [] => True
  | s :: rest =>
    NodeLifeOK rest ∧
    (∀ t p rest', exec rest = some t → rest = p :: rest' → Sticky t p.view s.view) ∧
    (∀ et key out, s.op = .find et key out → ∀ n, n ∈ nodesOf key → s.view.dead n = false)

/-- handles are only recycled when no cache entry counts them -/
structure NodeLife (t : Table) (v : View) : Prop where
  free_uncached : ∀ n, v.free n = true → t.cc n = 0

/-! ## The history invariant -/

/-- every table entry is the most recent add for its key, and if any of its nodes (or its
    type) was ever seen dead since, one of them (or the type) is dead in the newest view -/
def HistInv (hist : List Step) (t : Table) : Prop :=
  ∀ e, e ∈ t.entries → ∃ d, specFind e.etype e.key hist = some (e, d) ∧
    (d = true → ∀ s rest, hist = s :: rest → deadish s.view e)

section
variable {s : Step} {rest : List Step} {t t' : Table} {e : Entry}

/-- carrying `deadish` from the newest view of an accepted history to the view of the next
    step: counted dead nodes and dead types stay dead -/
theorem deadish_next {hist : List Step}
    (hex : exec hist = some t) (he : e ∈ t.entries) (hnl : NodeLifeOK (s :: hist))
    (hd : ∀ p rest, hist = p :: rest → deadish p.view e) : deadish s.view e := by
  cases hist with
  | nil => cases hex; cases he
  | cons p rest =>
    have hs := hnl.2.1 t p rest hex rfl
    rcases hd p rest rfl with h | ⟨n, hn, hdn⟩
    · exact Or.inl (hs.type_sticky _ h)
    · refine Or.inr ⟨n, hn, hs.dead_sticky n ?_ hdn⟩
      rw [(inv_exec hex).cc_ok]; exact total_pos he hn

/-- the newest step is not an `add` for the key of `e` : `specFind` just ages -/
theorem specFind_age {d : Bool}
    (hop : ∀ e0, s.op = .add e0 → e0.hasKey e.etype e.key = false)
    (h : specFind e.etype e.key rest = some (e, d)) :
    specFind e.etype e.key (s :: rest) =
      some (e, d || (e.nodes.any s.view.dead || s.view.typeDead e.etype)) := by
  simp only [specFind, h, Option.map]
  cases hs : s.op with
  | add e0 => simp [hop e0 hs]
  | _ => rfl

theorem histInv_step
    (hex : exec rest = some t) (hst : step t s.view s.op = some t')
    (hnl : NodeLifeOK (s :: rest)) (hh : HistInv rest t) : HistInv (s :: rest) t' := by
  have old : ∀ e, e ∈ t.entries → (∀ e0, s.op = .add e0 → e0.hasKey e.etype e.key = false) →
      ∃ d, specFind e.etype e.key (s :: rest) = some (e, d) ∧
        (d = true → ∀ s' rest', s :: rest = s' :: rest' → deadish s'.view e) := by
    intro e he hop
    obtain ⟨d, hsf, hdd⟩ := hh e he
    refine ⟨_, specFind_age hop hsf, ?_⟩
    intro hd s' rest' heq
    cases heq
    cases d with
    | true => exact deadish_next hex he hnl (hdd rfl)
    | false =>
      simp only [Bool.false_or, Bool.or_eq_true, List.any_eq_true] at hd
      exact hd.symm.imp id fun ⟨n, hn, hdn⟩ => ⟨n, hn, hdn⟩
  intro e he
  rcases step_effect hst with ⟨e0, hop, hlk, rfl⟩ | ⟨hna, rfl | ⟨p, rfl⟩⟩
  · rcases List.mem_cons.mp he with rfl | he'
    · refine ⟨false, ?_, fun h => nomatch h⟩
      simp only [specFind, hop, hasKey_self, ↓reduceIte]
    · refine old e he' fun e1 h1 => ?_
      rw [hop] at h1; cases h1
      rw [hasKey_symm]
      exact lookup_none_iff.mp hlk e he'
  · exact old e he fun e0 h0 => absurd h0 (hna e0)
  · exact old e (List.mem_filter.mp he).1 fun e0 h0 => absurd h0 (hna e0)

end

theorem histInv_exec : ∀ {hist : List Step} {t : Table},
    exec hist = some t → NodeLifeOK hist → HistInv hist t
  | [], t, h, _ => by cases h; intro e he; cases he
  | s :: rest, t, h, hnl => by
    obtain ⟨t0, hr, h⟩ := exec_cons.1 h
    exact histInv_step hr h hnl (histInv_exec hr hnl.1)

/-! ## Client of the table (for `lossy_ok`) -/

/-- one top-level request of a client: the view at that moment, what the table loses
    beforehand (eviction, garbage collection, explicit clears: ANY predicate), and the key -/
structure Call where
  view : View
  lose : Entry → Bool
  et : Nat
  key : List Item

/-- a client that uses the hit, or computes `f` on a miss and adds it -/
def client (f : Nat → List Item → List Item) : Table → List Call → List (List Item)
  | _, [] => []
  | t, c :: cs =>
    match (t.discardWhere c.lose).find c.view c.et c.key with
    | (t2, some r) => r :: client f t2 cs
    | (t2, none) =>
      let r := f c.et c.key
      r :: client f (t2.add ⟨c.et, c.key, r⟩) cs

/-- the same client without any table -/
def clientNoTable (f : Nat → List Item → List Item) (cs : List Call) : List (List Item) :=
  cs.map (fun c => f c.et c.key)

/-- every cached result is the value of `f` at its key -/
def Consistent (f : Nat → List Item → List Item) (t : Table) : Prop :=
  ∀ e, e ∈ t.entries → e.result = f e.etype e.key

section
variable {f : Nat → List Item → List Item} {t : Table}

theorem consistent_discard (h : Consistent f t)
    (p : Entry → Bool) : Consistent f (t.discardWhere p) :=
  fun e he => h e (List.mem_filter.mp he).1

theorem consistent_add (h : Consistent f t)
    (et : Nat) (key : List Item) : Consistent f (t.add ⟨et, key, f et key⟩) := by
  intro e he
  rcases List.mem_cons.mp he with rfl | he
  · rfl
  · exact h e he

/-- one call of the client answers `f` at the key and leaves a consistent table, whichever of
    miss, dead hit, live hit occurs -/
theorem client_cons (ht : Consistent f t)
    (c : Call) (cs : List Call) :
    ∃ t2, Consistent f t2 ∧ client f t (c :: cs) = f c.et c.key :: client f t2 cs := by
  have h1 := consistent_discard ht c.lose
  rw [client]
  cases hl : (t.discardWhere c.lose).lookup c.et c.key with
  | none => rw [find_none hl]; exact ⟨_, consistent_add h1 _ _, rfl⟩
  | some e =>
    cases hd : deadEntry c.view e with
    | true =>
      rw [find_dead hl hd]
      exact ⟨_, consistent_add (consistent_discard h1 _) _ _, rfl⟩
    | false =>
      obtain ⟨hmem, hty, hkey⟩ := lookup_some hl
      rw [find_live hl hd]
      refine ⟨_, h1, ?_⟩
      show e.result :: _ = _
      rw [h1 e hmem, hty, hkey]

end

/-! ## Tracking a lossy table by a loss-free one (justifies the acceptor) -/

/-- the acceptor cannot see silent losses: it replays the same steps without them -/
def stepObs (u : Table) (v : View) : Op → Option Table
  | .lose _ => some u
  | op => step u v op

theorem sublist_filter_filter {es us : List Entry} (h : es.Sublist us) (p : Entry → Bool) :
    (es.filter p).Sublist (us.filter p) := h.filter p

theorem total_le_of_sublist {es us : List Entry} (h : es.Sublist us) (n : NodeRef) :
    total es n ≤ total us n := by
  induction h with
  | slnil => exact Nat.le_refl _
  | cons a _ ih => exact Nat.le_trans ih (Nat.le_add_left ..)
  | cons_cons a _ ih => exact Nat.add_le_add_left ih _

/-- **C07 / ct_trace_sound.**  For the C++ code, in every history accepted by `step`: whenever
    `findCT` reports a hit, the returned result is the one stored by the MOST RECENT `addCT` for
    that entry type and key, and no node mentioned by that entry (key or result) and not its
    type was dead at any step after that add or is dead now -- under every history of adds,
    finds, arbitrary losses, stale removals and clears, provided `NodeLifeOK`: the node manager
    keeps counted dead handles and dead entry types dead, and no searched key mentions a dead
    node (the caller holds those nodes). -/
theorem ct_trace_sound (hist : List Step) (v : View) (et : Nat) (key r : List Item) (t' : Table)
    (hnl : NodeLifeOK (⟨v, .find et key (some r)⟩ :: hist))
    (hacc : exec (⟨v, .find et key (some r)⟩ :: hist) = some t') :
    ∃ e, specFind et key hist = some (e, false) ∧ e.etype = et ∧ e.key = key ∧ e.result = r ∧
      ¬ deadish v e := by
  obtain ⟨t, hr, hst⟩ := exec_cons.1 hacc
  obtain ⟨e, hl, hres, hnd, _⟩ := step_find_some.1 hst
  obtain ⟨hmem, hty, hkey⟩ := lookup_some hl
  -- not deadish now: the type and the result nodes by `deadEntry`, the key nodes by the
  -- client obligation
  have hnow : ¬ deadish v e := by
    simp only [deadEntry, Bool.or_eq_false_iff, List.any_eq_false] at hnd
    rintro (h | ⟨n, hn, hdn⟩)
    · exact Bool.eq_false_iff.mp hnd.1 h
    · rcases List.mem_append.mp hn with hkn | hrn
      · exact Bool.eq_false_iff.mp (hnl.2.2 et key (some r) rfl n (hkey ▸ hkn)) hdn
      · exact hnd.2 n hrn hdn
  obtain ⟨d, hsf, hdd⟩ := histInv_exec hr hnl.1 e hmem
  rw [hty, hkey] at hsf
  refine ⟨e, ?_, hty, hkey, hres, hnow⟩
  cases d with
  | false => exact hsf
  | true => exact absurd (deadish_next hr hmem hnl (hdd rfl)) hnow

/-- non-vacuity: add (k ↦ r), lose nothing, hit r -- while an unrelated node is dead in every
    view; the history is accepted, satisfies `NodeLifeOK`, and `specFind` names the add -/
example :
    let n1 : NodeRef := ⟨1, 5, 0⟩
    let n2 : NodeRef := ⟨1, 7, 3⟩
    let n3 : NodeRef := ⟨1, 9, 1⟩
    let v : View := { View.allLive with dead := fun n => n == n3, stale := fun n => n == n3 }
    let e : Entry := ⟨2, [.node n1, .int 4], [.node n2]⟩
    let hist : List Step := [⟨v, .lose (fun _ => false)⟩, ⟨v, .add e⟩]
    let last : Step := ⟨v, .find 2 [.node n1, .int 4] (some [.node n2])⟩
    (exec (last :: hist)).isSome = true ∧
    specFind 2 [.node n1, .int 4] hist = some (e, false) ∧
    NodeLifeOK (last :: hist) := by
  refine ⟨by decide +kernel, by decide +kernel, ?_⟩
  have st : ∀ (t : Table) (v : View), Sticky t v v := fun _ _ => ⟨fun _ _ h => h, fun _ h => h⟩
  refine ⟨⟨⟨trivial, ?_, ?_⟩, ?_, ?_⟩, ?_, ?_⟩
  · intro t p r _ h; cases h
  · intro et key out h; cases h
  · intro t p r _ h; cases h; exact st _ _
  · intro et key out h; cases h
  · intro t p r _ h; cases h; exact st _ _
  · intro et key out h n hn
    cases h
    simp [nodesOf, Item.nodes] at hn
    subst hn; decide

/-- non-vacuity (negative side): once the result node is dead the same hit is NOT accepted,
    and the find must miss (discarding the entry and its counts) -/
example :
    let n1 : NodeRef := ⟨1, 5, 0⟩
    let n2 : NodeRef := ⟨1, 7, 3⟩
    let v : View := { View.allLive with dead := fun n => n == n2 }
    let e : Entry := ⟨2, [.node n1], [.node n2]⟩
    (exec [⟨v, .find 2 [.node n1] (some [.node n2])⟩, ⟨View.allLive, .add e⟩]).isSome = false ∧
    ((exec [⟨v, .find 2 [.node n1] none⟩, ⟨View.allLive, .add e⟩]).map
      (fun t => (t.entries.length, t.cc n1, t.cc n2))) = some (0, 0, 0) ∧
    ((Table.empty.add e).find v 2 [.node n1]).2 = none := by decide +kernel

/-- **C07 / cc_exact.**  For the C++ code: after any accepted sequence of adds, discards during `find`,
    losses, `removeStales` and `removeAll`, the cache counter of every node equals the number
    of node items of live entries that are this node (an entry mentioning the node k times
    counts k times), i.e. `verifCacheCount(n) = countAllNodeEntries(n)`. -/
theorem cc_exact (hist : List Step) (t : Table) (h : exec hist = some t) (n : NodeRef) :
    t.cc n = total t.entries n := (inv_exec h).cc_ok n

/-- non-vacuity: a node mentioned twice in one entry and once in another has count 3;
    after the first entry is lost, 1 -/
example :
    let a : NodeRef := ⟨1, 5, 0⟩
    let e1 : Entry := ⟨0, [.node a, .node a], [.int 1]⟩
    let e2 : Entry := ⟨1, [.int 9], [.node a]⟩
    ((exec [⟨View.allLive, .add e2⟩, ⟨View.allLive, .add e1⟩]).map (fun t => t.cc a)) = some 3 ∧
    ((exec [⟨View.allLive, .lose (fun e => e.etype == 0)⟩, ⟨View.allLive, .add e2⟩,
            ⟨View.allLive, .add e1⟩]).map (fun t => (t.cc a, t.entries.length))) = some (1, 1) := by
  decide +kernel

/-- For the C++ code: live entries always have pairwise different (type, key), as long as the
    client follows the find-miss-add protocol (an `add` for a key still present is rejected
    by `step`). -/
theorem keys_distinct (hist : List Step) (t : Table) (h : exec hist = some t) :
    DistinctKeys t.entries := (inv_exec h).distinct

/-- non-vacuity: two adds with different keys are accepted (2 entries); re-adding a key that
    is still present is rejected -/
example :
    let e1 : Entry := ⟨0, [.int 1], [.int 10]⟩
    let e2 : Entry := ⟨0, [.int 2], [.int 20]⟩
    ((exec [⟨View.allLive, .add e2⟩, ⟨View.allLive, .add e1⟩]).map (fun t => t.entries.length)) = some 2 ∧
    (exec [⟨View.allLive, .add ⟨0, [.int 1], [.int 11]⟩⟩, ⟨View.allLive, .add e1⟩]).isSome = false := by
  decide +kernel

/-- **C07 / removeAll_empty.**  For the C++ code: after `removeAll()` the table holds no entry
    and every cache counter contributed by it is zero. -/
theorem removeAll_empty (hist : List Step) (v : View) (t : Table)
    (h : exec (⟨v, .removeAll⟩ :: hist) = some t) : t.entries = [] ∧ ∀ n, t.cc n = 0 := by
  have hcc := cc_exact _ _ h
  obtain ⟨t0, _, h⟩ := exec_cons.1 h
  cases h
  have he : (t0.discardWhere (fun _ => true)).entries = [] := List.filter_eq_nil_iff.2 fun _ _ h => nomatch h
  exact ⟨he, fun n => by rw [hcc n, he]; rfl⟩

example :
    let a : NodeRef := ⟨1, 5, 0⟩
    ((exec [⟨View.allLive, .removeAll⟩, ⟨View.allLive, .add ⟨0, [.node a], [.node a]⟩⟩]).map
      (fun t => (t.entries.length, t.cc a))) = some (0, 0) := by decide +kernel

/-- **C07 / removeStales_clean.**  For the C++ code: after `removeStales()` no remaining entry
    is stale with respect to the liveness view the removal ran under. -/
theorem removeStales_clean (hist : List Step) (v : View) (t : Table)
    (h : exec (⟨v, .removeStales⟩ :: hist) = some t) : ∀ e, e ∈ t.entries → staleEntry v e = false := by
  obtain ⟨t0, _, h⟩ := exec_cons.1 h
  cases h
  intro e he
  simpa using (List.mem_filter.mp he).2

example :
    let a : NodeRef := ⟨1, 5, 0⟩
    let b : NodeRef := ⟨1, 6, 0⟩
    let v : View := { View.allLive with stale := fun n => n == a }
    ((exec [⟨v, .removeStales⟩, ⟨View.allLive, .add ⟨0, [.node b], [.int 2]⟩⟩,
            ⟨View.allLive, .add ⟨0, [.node a], [.int 1]⟩⟩]).map
      (fun t => (t.entries.map (fun e => e.key), t.cc a, t.cc b))) = some ([[.node b]], 0, 1) := by
  decide +kernel

/-- **C07 / no_reuse_while_cached.**  For the C++ code: a node handle mentioned by a live
    cache entry is never on the free list, so it cannot be handed out for a different node
    while the entry exists -- given the NodeLife fact that handles are recycled only at cache
    count zero (`node_headers::recycleNodeHandle`). -/
theorem no_reuse_while_cached (hist : List Step) (t : Table) (v : View)
    (h : exec hist = some t) (nl : NodeLife t v) (e : Entry) (he : e ∈ t.entries)
    (n : NodeRef) (hn : n ∈ e.nodes) : v.free n = false :=
  Bool.eq_false_iff.mpr fun hf => Nat.ne_of_gt (total_pos he hn)
    ((cc_exact hist t h n).symm.trans (nl.free_uncached n hf))

/-- non-vacuity: a table with one entry, and a view whose free list is disjoint from it -/
example :
    let a : NodeRef := ⟨1, 5, 0⟩
    let t : Table := Table.empty.add ⟨0, [.node a], [.int 1]⟩
    let v : View := { View.allLive with free := fun n => n.handle == 6 }
    exec [⟨View.allLive, .add ⟨0, [.node a], [.int 1]⟩⟩] = some t ∧ NodeLife t v := by
  refine ⟨rfl, ⟨fun n hn => ?_⟩⟩
  have h6 : n.handle = 6 := by simpa using hn
  exact if_neg fun h => by rw [h] at h6; cases h6

/-- **C07 / lossy_ok** (DESIGN.md's `apply_ct_indep` in abstract form: the client is flat, the
    recursion of `apply` is not modelled).  For the C++ code: a client that
    computes `f key` on a miss and adds it, and uses the cached value on a hit, returns the
    same results under EVERY loss schedule, every liveness view and every warm initial table
    (whose results agree with `f`) as the client that never consults a table -- i.e. the
    outcome of operations does not depend on table style, size, stale policy, purges or
    clears, because those only change which entries are lost and when. -/
theorem lossy_ok (f : Nat → List Item → List Item) (cs : List Call) :
    ∀ t : Table, Consistent f t → client f t cs = clientNoTable f cs := by
  induction cs with
  | nil => intro t _; rfl
  | cons c cs ih =>
    intro t ht
    obtain ⟨t2, h2, heq⟩ := client_cons ht c cs
    rw [heq, ih t2 h2]; rfl

/-- non-vacuity: three calls, the second a repeat (hit), the third after losing everything -/
example :
    let f : Nat → List Item → List Item := fun et k => .int et :: k
    let c1 : Call := ⟨View.allLive, fun _ => false, 1, [.int 5]⟩
    let c3 : Call := ⟨View.allLive, fun _ => true, 1, [.int 5]⟩
    client f Table.empty [c1, c1, c3] = [[.int 1, .int 5], [.int 1, .int 5], [.int 1, .int 5]] ∧
    Consistent f Table.empty := by
  refine ⟨by decide +kernel, ?_⟩
  intro e he; cases he

/-- **C07 / tracking_sound.**  For the acceptor: if the real table `r` (which also suffers
    invisible losses) is a sublist of the tracked loss-free table `u` (both with `Inv`), then every
    real step that is accepted is accepted on `u` as well -- as long as a tracked `add` finds
    its key absent -- and the inclusion is preserved; so hits never raise false alarms and the
    tracked count is an upper bound for every real cache counter. -/
theorem tracking_sound {r u r' : Table} {v : View} {op : Op}
    (hr : Inv r) (hu : Inv u) (hsub : r.entries.Sublist u.entries)
    (hstep : step r v op = some r')
    (hadd : ∀ e, op = .add e → u.lookup e.etype e.key = none) :
    ∃ u', stepObs u v op = some u' ∧ r'.entries.Sublist u'.entries ∧ Inv u' ∧
      ∀ n, r'.cc n ≤ u'.cc n := by
  -- the counter bound follows from the inclusion, both counters being exact
  suffices ∃ u', stepObs u v op = some u' ∧ r'.entries.Sublist u'.entries ∧ Inv u' by
    obtain ⟨u', h1, h2, h3⟩ := this
    refine ⟨u', h1, h2, h3, fun n => ?_⟩
    rw [(inv_step hr hstep).cc_ok, h3.cc_ok]
    exact total_le_of_sublist h2 n
  cases op with
  | add e =>
    obtain ⟨_, rfl⟩ := step_add.1 hstep
    exact ⟨u.add e, step_add (v := v) |>.2 ⟨hadd e rfl, rfl⟩, hsub.cons_cons e,
      inv_add hu e (hadd e rfl)⟩
  | find et key out =>
    cases out with
    | none => cases hstep; exact ⟨_, rfl, hsub.filter _, inv_discardWhere hu _⟩
    | some res =>
      -- the entry hit in `r` is also in `u`, where keys are distinct: `u` hits the same entry
      obtain ⟨e, hl, hres, hd, rfl⟩ := step_find_some.1 hstep
      obtain ⟨hmem, rfl, rfl⟩ := lookup_some hl
      exact ⟨u, step_find_some (v := v) |>.2
        ⟨e, lookup_of_mem hu.distinct (hsub.subset hmem), hres, hd, rfl⟩, hsub, hu⟩
  | lose p => cases hstep; exact ⟨u, rfl, List.filter_sublist.trans hsub, hu⟩
  | removeStales | removeAll =>
    cases hstep; exact ⟨_, rfl, hsub.filter _, inv_discardWhere hu _⟩

/-- non-vacuity: the real table silently lost an entry the tracked one still has; the next
    (accepted) hit on the other entry is accepted on the tracked table too -/
example :
    let e1 : Entry := ⟨0, [.int 1], [.int 10]⟩
    let e2 : Entry := ⟨0, [.int 2], [.int 20]⟩
    let u : Table := (Table.empty.add e1).add e2
    let r : Table := u.discardWhere (fun e => e == e2)
    (step r View.allLive (.find 0 [.int 1] (some [.int 10]))).isSome = true ∧
    (stepObs u View.allLive (.find 0 [.int 1] (some [.int 10]))).isSome = true ∧
    r.entries.Sublist u.entries := by
  refine ⟨by decide +kernel, by decide +kernel, ?_⟩
  exact List.Sublist.cons _ (List.Sublist.refl _)

/-- For the C++ code: what `find` does when nothing else is lost during the call (`Table.find`:
    newest equal entry; dead -> discard and miss, else hit) is an accepted behaviour of the
    specification automaton. -/
theorem find_accepted (t : Table) (v : View) (et : Nat) (key : List Item) :
    ∃ t', step t v (.find et key (t.find v et key).2) = some t' ∧
      t'.entries = (t.find v et key).1.entries := by
  unfold Table.find
  cases hl : t.lookup et key with
  | none =>
    exact ⟨_, rfl, List.filter_eq_self.mpr fun e he => congrArg (!·) (lookup_none_iff.mp hl e he)⟩
  | some e =>
    simp only
    cases hd : deadEntry v e with
    | true => exact ⟨_, rfl, rfl⟩
    | false =>
      refine ⟨t, ?_, rfl⟩
      simp [step, hl, hd]

/-- non-vacuity: a live entry is hit, and the outcome is accepted by `step` -/
example :
    let e : Entry := ⟨0, [.int 1], [.int 10]⟩
    let t : Table := Table.empty.add e
    (t.find View.allLive 0 [.int 1]).2 = some [.int 10] ∧
    (step t View.allLive (.find 0 [.int 1] (t.find View.allLive 0 [.int 1]).2)).isSome = true := by
  decide +kernel

end Meddly.CT

/-
  No theorem of this file rests on an axiom beyond `propext`, `Classical.choice`, `Quot.sound`
  (`#print axioms`); no `sorry`, `native_decide`, `unsafe` or `partial`.
-/
