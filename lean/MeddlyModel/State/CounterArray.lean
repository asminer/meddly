/-
  Model of `MEDDLY::counter_array` (src/arrays.h, src/arrays.cc).

  The C++ class stores `size` unsigned counters in ONE of three arrays
  (`data8` / `data16` / `data32`; `bytes` ∈ {1,2,4} says which) and keeps two tallies
      counts_09bit = #entries needing at least 9 bits  (value ≥ 256)
      counts_17bit = #entries needing at least 17 bits (value ≥ 65536).
  * WIDENING happens inside `increment` / `isZeroBeforeIncrement`, exactly when the stored
    element wraps to 0 (`expand8to16`, `expand16to32`), the wrapped element is then set to
    256 / 65536 and the matching tally is SET to 1.
  * NARROWING happens only inside `expand(ns)` / `shrink(ns)` (and only when they really
    resize, i.e. ns > size resp. ns < size): 16→8 when counts_09bit = 0, 32→16 when
    counts_17bit = 0 ≠ counts_09bit, 32→8 when both are 0.
  * `shrink` does NOT look at the entries it drops, so the tallies are not decremented
    for dropped large entries (see `Op.shrink` and theorem `tally_exact`).

  The model keeps the element values as `Nat` and performs every truncation the C++ code
  performs (`% 256`, `% 65536`, `% 2^32`) explicitly, so the theorems below really say
  "no truncation ever bites".

  Out-of-contract calls: `shrink(0)` on a non-empty array calls `realloc(p, 0)` (or `malloc(0)` on
  the narrowing path), whose result is implementation defined; with glibc `realloc(p, 0)` frees `p`
  and returns NULL, which the class reports as INSUFFICIENT_MEMORY while keeping the already freed
  pointer (double free in the destructor).  `node_headers` never shrinks below 512 entries.
  The model step returns `none`.
  An index ≥ size is undefined behaviour in the release build
  (`MEDDLY_CHECK_RANGE` is compiled out) → the model step returns `none`.
  Decrementing a zero counter wraps in the release build (`MEDDLY_DCASSERT` compiled out);
  the model wraps in the same way, but such runs are excluded from the theorems by
  the legality of the specification run.
-/
namespace Meddly.CounterArray

/-- Concrete state of a `counter_array`. `data` = contents of whichever of data8/16/32 is live. -/
structure CA where
  bytes : Nat
  data  : List Nat
  c09   : Nat
  c17   : Nat
  deriving Repr, DecidableEq

/-- state after the constructor: `bytes = sizeof(unsigned char)`, size 0, tallies 0 -/
def init : CA := { bytes := 1, data := [], c09 := 0, c17 := 0 }

/-- exclusive upper bound of a stored element -/
def lim (bytes : Nat) : Nat := 2 ^ (8 * bytes)

/-- `entry_bits()` -/
def CA.bits (c : CA) : Nat := 8 * c.bytes

/-- The public mutators / observers of the class (`show` is output only and omitted;
    `entry_bits` is modelled by `CA.bits`). -/
inductive Op where
  | expand (ns : Nat)
  | shrink (ns : Nat)
  | get (i : Nat)
  | swap (i j : Nat)
  | increment (i : Nat)
  | decrement (i : Nat)
  | isZeroBeforeIncrement (i : Nat)
  | isPositiveAfterDecrement (i : Nat)
  deriving Repr, DecidableEq

/-- The narrowing decision shared by `expand` and `shrink` (`switch (bytes)` in both):
    shrink16to8 / shrink32to16 / shrink32to8 copy with truncation. -/
def renarrow (c : CA) : CA :=
  if c.bytes = 1 then c
  else if c.bytes = 2 then
    (if c.c09 ≠ 0 then c else { c with bytes := 1, data := c.data.map (· % 256) })
  else
    (if c.c17 ≠ 0 then c
     else if c.c09 ≠ 0 then { c with bytes := 2, data := c.data.map (· % 65536) }
     else { c with bytes := 1, data := c.data.map (· % 256) })

/-- the `++` path of `increment` / `isZeroBeforeIncrement` on element `i` whose value is `v` -/
def bump (c : CA) (i v : Nat) : CA :=
  if c.bytes = 1 then
    let v' := (v + 1) % 256
    if v' = 0 then
      -- expand8to16(i): counts_09bit = 1; data16[i] = 256
      { bytes := 2, data := c.data.set i 256, c09 := 1, c17 := c.c17 }
    else { c with data := c.data.set i v' }
  else if c.bytes = 2 then
    let v' := (v + 1) % 65536
    let n09 := if v' = 256 then c.c09 + 1 else c.c09
    if v' = 0 then
      -- expand16to32(i): counts_17bit = 1; data32[i] = 65536
      { bytes := 4, data := c.data.set i 65536, c09 := n09, c17 := 1 }
    else { c with data := c.data.set i v', c09 := n09 }
  else
    let v' := (v + 1) % 4294967296
    { c with data := c.data.set i v',
             c09 := if v' = 256 then c.c09 + 1 else c.c09,
             c17 := if v' = 65536 then c.c17 + 1 else c.c17 }

/-- `decrement` / `isPositiveAfterDecrement` on element `i` whose value is `v` -/
def drop1 (c : CA) (i v : Nat) : CA :=
  if c.bytes = 1 then { c with data := c.data.set i ((v + 255) % 256) }
  else if c.bytes = 2 then
    { c with data := c.data.set i ((v + 65535) % 65536),
             c09 := if v = 256 then c.c09 - 1 else c.c09 }
  else
    { c with data := c.data.set i ((v + 4294967295) % 4294967296),
             c09 := if v = 256 then c.c09 - 1 else c.c09,
             c17 := if v = 65536 then c.c17 - 1 else c.c17 }

/-- One call.  Result: the new state and the returned value (`bool` as 0/1, `void` as 0).
    `none` = index out of range (undefined behaviour in C++) or `shrink(0)` of a non-empty array. -/
def step (c : CA) : Op → Option (CA × Nat)
  | .expand ns =>
      if ns ≤ c.data.length then some (c, 0)
      else
        let c' := renarrow c
        some ({ c' with data := c'.data ++ List.replicate (ns - c.data.length) 0 }, 0)
  | .shrink ns =>
      if c.data.length ≤ ns then some (c, 0)
      else if ns = 0 then none   -- realloc(p, 0) / malloc(0): implementation defined, see the head comment
      else
        let c' := renarrow c
        some ({ c' with data := c'.data.take ns }, 0)
  | .get i => if i < c.data.length then some (c, c.data.getD i 0) else none
  | .swap i j =>
      if i < c.data.length ∧ j < c.data.length then
        some ({ c with data := (c.data.set i (c.data.getD j 0)).set j (c.data.getD i 0) }, 0)
      else none
  | .increment i =>
      if i < c.data.length then some (bump c i (c.data.getD i 0), 0) else none
  | .decrement i =>
      if i < c.data.length then some (drop1 c i (c.data.getD i 0), 0) else none
  | .isZeroBeforeIncrement i =>
      if i < c.data.length then
        (if c.data.getD i 0 = 0 then some ({ c with data := c.data.set i 1 }, 1)
         else some (bump c i (c.data.getD i 0), 0))
      else none
  | .isPositiveAfterDecrement i =>
      if i < c.data.length then
        let c' := drop1 c i (c.data.getD i 0)
        some (c', if 0 < c'.data.getD i 0 then 1 else 0)
      else none

def run (c : CA) : List Op → Option (CA × List Nat)
  | [] => some (c, [])
  | op :: ops =>
    match step c op with
    | none => none
    | some (c', r) =>
      match run c' ops with
      | none => none
      | some (c'', rs) => some (c'', r :: rs)

/-- The same call on a plain `List Nat`.  `none` = the call is outside the contract
    (index out of range, decrement of a zero count, count reaching 2^32, `shrink(0)` of a non-empty array). -/
def specStep (a : List Nat) : Op → Option (List Nat × Nat)
  | .expand ns => some (a ++ List.replicate (ns - a.length) 0, 0)
  | .shrink ns => if a.length ≤ ns ∨ ns ≠ 0 then some (a.take ns, 0) else none
  | .get i => if i < a.length then some (a, a.getD i 0) else none
  | .swap i j =>
      if i < a.length ∧ j < a.length then
        some ((a.set i (a.getD j 0)).set j (a.getD i 0), 0)
      else none
  | .increment i =>
      if i < a.length ∧ a.getD i 0 + 1 < 4294967296 then some (a.set i (a.getD i 0 + 1), 0) else none
  | .decrement i =>
      if i < a.length ∧ 0 < a.getD i 0 then some (a.set i (a.getD i 0 - 1), 0) else none
  | .isZeroBeforeIncrement i =>
      if i < a.length ∧ a.getD i 0 + 1 < 4294967296 then
        some (a.set i (a.getD i 0 + 1), if a.getD i 0 = 0 then 1 else 0)
      else none
  | .isPositiveAfterDecrement i =>
      if i < a.length ∧ 0 < a.getD i 0 then
        some (a.set i (a.getD i 0 - 1), if 0 < a.getD i 0 - 1 then 1 else 0)
      else none

def specRun (a : List Nat) : List Op → Option (List Nat × List Nat)
  | [] => some (a, [])
  | op :: ops =>
    match specStep a op with
    | none => none
    | some (a', r) =>
      match specRun a' ops with
      | none => none
      | some (a'', rs) => some (a'', r :: rs)

/-- number of entries ≥ k -/
def big (k : Nat) (l : List Nat) : Nat := l.countP (fun x => decide (k ≤ x))

/-- a `shrink` drops only entries below 256 (this is how `node_headers` uses the class:
    the dropped handles are all free, their counts are 0) -/
def cleanOp (a : List Nat) : Op → Prop
  | .shrink ns => ∀ x ∈ a.drop ns, x < 256
  | _ => True

def cleanShrinks (a : List Nat) : List Op → Prop
  | [] => True
  | op :: ops =>
    cleanOp a op ∧
    (match specStep a op with
     | none => True
     | some (a', _) => cleanShrinks a' ops)

instance (a : List Nat) (op : Op) : Decidable (cleanOp a op) := by
  cases op <;> simp only [cleanOp] <;> infer_instance

instance decCleanShrinks : (a : List Nat) → (ops : List Op) → Decidable (cleanShrinks a ops)
  | _, [] => isTrue trivial
  | a, op :: ops =>
    match h : specStep a op with
    | none =>
      if hc : cleanOp a op then isTrue (by simp only [cleanShrinks, h]; exact ⟨hc, trivial⟩)
      else isFalse (by simp only [cleanShrinks, h]; exact fun x => hc x.1)
    | some (a', _) =>
      if hc : cleanOp a op then
        match decCleanShrinks a' ops with
        | isTrue ht => isTrue (by simp only [cleanShrinks, h]; exact ⟨hc, ht⟩)
        | isFalse hf => isFalse (by simp only [cleanShrinks, h]; exact fun x => hf x.2)
      else isFalse (by simp only [cleanShrinks, h]; exact fun x => hc x.1)

/-- width is sufficient, tallies are upper bounds of the true tallies and are consistent
    with the width -/
structure Inv (c : CA) : Prop where
  bytesOK : c.bytes = 1 ∨ c.bytes = 2 ∨ c.bytes = 4
  fits    : ∀ x ∈ c.data, x < lim c.bytes
  t09     : big 256 c.data ≤ c.c09
  t17     : big 65536 c.data ≤ c.c17
  w1      : c.bytes = 1 → c.c09 = 0 ∧ c.c17 = 0
  w2      : c.bytes = 2 → c.c17 = 0

def Exact (c : CA) : Prop := c.c09 = big 256 c.data ∧ c.c17 = big 65536 c.data

theorem lim1 : lim 1 = 256 := by decide
theorem lim2 : lim 2 = 65536 := by decide
theorem lim4 : lim 4 = 4294967296 := by decide

/-- `--` on an unsigned type of `p + 1` values does not wrap on a positive value -/
theorem pred_mod {p v : Nat} (h0 : 0 < v) (hv : v < p + 1) : (v + p) % (p + 1) = v - 1 := by
  rw [show v + p = v - 1 + (p + 1) by omega, Nat.add_mod_right, Nat.mod_eq_of_lt (by omega)]

section
variable {c : CA} {k : Nat} {l : List Nat} {i v : Nat}

theorem getD_eq_getElem (h : i < l.length) : l.getD i 0 = l[i] := by
  simp [List.getD_eq_getElem?_getD, List.getElem?_eq_getElem h]

theorem big_set (h : i < l.length) :
    big k (l.set i v) + (if k ≤ l.getD i 0 then 1 else 0) = big k l + (if k ≤ v then 1 else 0) := by
  unfold big
  rw [List.countP_set h, getD_eq_getElem h]
  have hb := List.boole_getElem_le_countP (p := fun x => decide (k ≤ x)) (l := l) h
  simp only [decide_eq_true_eq] at hb ⊢
  omega

/-- Entry `i` is raised by one.  A tally for threshold `k` that is raised exactly when the new value is `k`
    keeps its distance to the true count (so an upper bound stays one and an exact tally stays exact). -/
theorem big_set_succ (h : i < l.length) (t : Nat) :
    big k (l.set i (l.getD i 0 + 1)) + t = big k l + if l.getD i 0 + 1 = k then t + 1 else t := by
  have s := big_set (k := k) (v := l.getD i 0 + 1) h
  by_cases g : k ≤ l.getD i 0
  · rw [if_pos g, if_pos (Nat.le_succ_of_le g)] at s
    rw [if_neg (Nat.ne_of_gt (Nat.lt_succ_of_le g))]
    omega
  · rw [if_neg g] at s
    by_cases e : l.getD i 0 + 1 = k
    · rw [if_pos (Nat.le_of_eq e.symm)] at s
      rw [if_pos e]
      omega
    · rw [if_neg (fun h => e (Nat.le_antisymm (Nat.succ_le_of_lt (Nat.lt_of_not_le g)) h))] at s
      rw [if_neg e]
      omega

/-- Entry `i` is lowered by one; the tally is lowered exactly when the old value is `k`.  The tally is positive
    then, because it bounds a count that includes entry `i`. -/
theorem big_set_pred (h : i < l.length) (h0 : 0 < l.getD i 0) {t : Nat}
    (ht : big k l ≤ t) :
    big k (l.set i (l.getD i 0 - 1)) + t = big k l + if l.getD i 0 = k then t - 1 else t := by
  have s := big_set (k := k) (v := l.getD i 0 - 1) h
  by_cases g : k ≤ l.getD i 0 - 1
  · rw [if_pos (Nat.le_trans g (Nat.sub_le _ 1)), if_pos g] at s
    rw [if_neg (by omega)]
    omega
  · rw [if_neg g] at s
    by_cases e : l.getD i 0 = k
    · rw [if_pos (Nat.le_of_eq e.symm)] at s
      rw [if_pos e]
      omega
    · rw [if_neg (by omega)] at s
      rw [if_neg e]
      omega

theorem tally_ok {a b t x : Nat} (s : a + t = b + x) : (b ≤ t → a ≤ x) ∧ (t = b → x = a) := by
  omega

theorem big_eq_zero : big k l = 0 ↔ ∀ x ∈ l, x < k := by
  simp [big, List.countP_eq_zero]

theorem big_append (k : Nat) (l m : List Nat) : big k (l ++ m) = big k l + big k m := by
  unfold big; simp

theorem big_take_drop (k n : Nat) (l : List Nat) : big k l = big k (l.take n) + big k (l.drop n) := by
  rw [← big_append, List.take_append_drop]

theorem map_mod_id {m : Nat} (h : ∀ x ∈ l, x < m) : l.map (· % m) = l :=
  (List.map_congr_left fun x hx => Nat.mod_eq_of_lt (h x hx)).trans (List.map_id' l)

theorem getD_mem (h : i < l.length) : l.getD i 0 ∈ l := by
  rw [getD_eq_getElem h]; exact List.getElem_mem h

theorem getD_set_self (h : i < l.length) : (l.set i v).getD i 0 = v := by
  simp [List.getD_eq_getElem?_getD, h]

theorem fits_set {m : Nat} (hf : ∀ x ∈ l, x < m) (hv : v < m) :
    ∀ x ∈ l.set i v, x < m :=
  fun x hx => (List.mem_or_eq_of_mem_set hx).elim (hf x) (· ▸ hv)

theorem inv_init : Inv init := by
  refine ⟨Or.inl rfl, ?_, ?_, ?_, ?_, ?_⟩ <;> simp [init, big]

theorem exact_init : Exact init := by simp [Exact, init, big]

/-- `w1`, `w2` in terms of the limit: a tally whose threshold the width cannot exceed is 0 -/
theorem Inv.zeros (h : Inv c) : (lim c.bytes ≤ 256 → c.c09 = 0) ∧ (lim c.bytes ≤ 65536 → c.c17 = 0) := by
  rcases h.bytesOK with e | e | e <;> rw [e]
  · exact ⟨fun _ => (h.w1 e).1, fun _ => (h.w1 e).2⟩
  · exact ⟨fun hl => absurd hl (by decide), fun _ => h.w2 e⟩
  · exact ⟨fun hl => absurd hl (by decide), fun hl => absurd hl (by decide)⟩

theorem Inv.of_lim (hb : c.bytes = 1 ∨ c.bytes = 2 ∨ c.bytes = 4) (hf : ∀ x ∈ c.data, x < lim c.bytes)
    (h9 : big 256 c.data ≤ c.c09) (h17 : big 65536 c.data ≤ c.c17)
    (z9 : lim c.bytes ≤ 256 → c.c09 = 0) (z17 : lim c.bytes ≤ 65536 → c.c17 = 0) : Inv c :=
  ⟨hb, hf, h9, h17, fun e => ⟨z9 (by rw [e]; decide), z17 (by rw [e]; decide)⟩, fun e => z17 (by rw [e]; decide)⟩

theorem renarrow_ok (h : Inv c) :
    (renarrow c).data = c.data ∧ Inv (renarrow c) ∧ (renarrow c).c09 = c.c09 ∧ (renarrow c).c17 = c.c17 := by
  -- a zero tally bounds every entry, so a narrowing copy truncates nothing
  have d9 : c.c09 = 0 → ∀ x ∈ c.data, x < 256 := fun z => big_eq_zero.mp (Nat.le_zero.mp (z ▸ h.t09))
  have d17 : c.c17 = 0 → ∀ x ∈ c.data, x < 65536 := fun z => big_eq_zero.mp (Nat.le_zero.mp (z ▸ h.t17))
  have to1 : c.c09 = 0 → c.c17 = 0 →
      c.data.map (· % 256) = c.data ∧ Inv { c with bytes := 1, data := c.data.map (· % 256) } := fun z z17 => by
    rw [map_mod_id (d9 z)]
    exact ⟨rfl, .inl rfl, lim1.symm ▸ d9 z, h.t09, h.t17, fun _ => ⟨z, z17⟩, nofun⟩
  unfold renarrow
  by_cases b1 : c.bytes = 1
  · rw [if_pos b1]; exact ⟨rfl, h, rfl, rfl⟩
  · rw [if_neg b1]
    by_cases b2 : c.bytes = 2
    · rw [if_pos b2]
      by_cases z : c.c09 = 0
      · rw [if_neg (not_not_intro z)]
        obtain ⟨a, b⟩ := to1 z (h.w2 b2)
        exact ⟨a, b, rfl, rfl⟩
      · rw [if_pos z]; exact ⟨rfl, h, rfl, rfl⟩
    · rw [if_neg b2]
      by_cases z17 : c.c17 = 0
      · rw [if_neg (not_not_intro z17)]
        by_cases z : c.c09 = 0
        · rw [if_neg (not_not_intro z)]
          obtain ⟨a, b⟩ := to1 z z17
          exact ⟨a, b, rfl, rfl⟩
        · rw [if_pos z, map_mod_id (d17 z17)]
          exact ⟨rfl, ⟨.inr (.inl rfl), lim2.symm ▸ d17 z17, h.t09, h.t17, nofun, fun _ => z17⟩, rfl, rfl⟩
      · rw [if_pos z17]; exact ⟨rfl, h, rfl, rfl⟩

/-- Under the invariant the `++` path wraps nowhere: it stores `v + 1`, raises each tally exactly when `v + 1`
    reaches its threshold, and leaves a width (the old one, or twice it when `v + 1` reaches the limit) that
    holds `v + 1`. -/
theorem bump_eq (h : Inv c) (hv : v < lim c.bytes) (hv' : v + 1 < 4294967296) :
    ∃ b, (b = 1 ∨ b = 2 ∨ b = 4) ∧ lim c.bytes ≤ lim b ∧ v + 1 < lim b ∧
      bump c i v = { bytes := b, data := c.data.set i (v + 1)
                     c09 := if v + 1 = 256 then c.c09 + 1 else c.c09
                     c17 := if v + 1 = 65536 then c.c17 + 1 else c.c17 } := by
  obtain ⟨b, d, n9, n17⟩ := c
  rcases h.bytesOK with e | e | e <;> simp only at e <;> subst e
  · obtain ⟨rfl, rfl⟩ := h.w1 rfl
    rw [lim1] at hv
    by_cases e : v + 1 = 256
    · obtain rfl : v = 255 := by omega
      exact ⟨2, by decide, (by decide : lim 1 ≤ lim 2), by decide, rfl⟩
    · refine ⟨1, by decide, Nat.le_refl _, by rw [lim1]; omega, ?_⟩
      simp [bump, Nat.mod_eq_of_lt (show v + 1 < 256 by omega), e]
      omega
  · obtain rfl : n17 = 0 := h.w2 rfl
    rw [lim2] at hv
    by_cases e : v + 1 = 65536
    · obtain rfl : v = 65535 := by omega
      exact ⟨4, by decide, (by decide : lim 2 ≤ lim 4), by decide, rfl⟩
    · refine ⟨2, by decide, Nat.le_refl _, by rw [lim2]; omega, ?_⟩
      simp [bump, Nat.mod_eq_of_lt (show v + 1 < 65536 by omega), e]
  · refine ⟨4, by decide, Nat.le_refl _, by rw [lim4]; omega, ?_⟩
    simp [bump, Nat.mod_eq_of_lt hv']

theorem bump_ok (h : Inv c) (hi : i < c.data.length)
    (hv : c.data.getD i 0 + 1 < 4294967296) :
    (bump c i (c.data.getD i 0)).data = c.data.set i (c.data.getD i 0 + 1) ∧
    Inv (bump c i (c.data.getD i 0)) ∧ (Exact c → Exact (bump c i (c.data.getD i 0))) := by
  obtain ⟨t9, x9⟩ := tally_ok (big_set_succ (k := 256) hi c.c09)
  obtain ⟨t17, x17⟩ := tally_ok (big_set_succ (k := 65536) hi c.c17)
  obtain ⟨b, hb, hm, hvb, e⟩ := bump_eq (i := i) h (h.fits _ (getD_mem hi)) hv
  rw [e]
  exact ⟨rfl, .of_lim hb (fits_set (fun x hx => Nat.lt_of_lt_of_le (h.fits x hx) hm) hvb) (t9 h.t09) (t17 h.t17)
      (fun hk => (if_neg (Nat.ne_of_lt (Nat.lt_of_lt_of_le hvb hk))).trans (h.zeros.1 (Nat.le_trans hm hk)))
      (fun hk => (if_neg (Nat.ne_of_lt (Nat.lt_of_lt_of_le hvb hk))).trans (h.zeros.2 (Nat.le_trans hm hk))),
    fun e => ⟨x9 e.1, x17 e.2⟩⟩

/-- Below the limit the `--` path wraps nowhere: it stores `v - 1` and lowers each tally exactly when `v` is its
    threshold. -/
theorem drop1_eq (hb : c.bytes = 1 ∨ c.bytes = 2 ∨ c.bytes = 4) (hv : v < lim c.bytes)
    (h0 : 0 < v) :
    drop1 c i v = { c with data := c.data.set i (v - 1)
                           c09 := if v = 256 then c.c09 - 1 else c.c09
                           c17 := if v = 65536 then c.c17 - 1 else c.c17 } := by
  obtain ⟨b, d, n9, n17⟩ := c
  rcases hb with e | e | e <;> simp only at e <;> subst e
  · rw [lim1] at hv
    simp [drop1, show (v + 255) % 256 = v - 1 from pred_mod h0 hv, Nat.ne_of_lt hv, show v ≠ 65536 by omega]
  · rw [lim2] at hv
    simp [drop1, show (v + 65535) % 65536 = v - 1 from pred_mod h0 hv, Nat.ne_of_lt hv]
  · rw [lim4] at hv
    simp [drop1, show (v + 4294967295) % 4294967296 = v - 1 from pred_mod h0 hv]

theorem drop1_ok (h : Inv c) (hi : i < c.data.length)
    (hv : 0 < c.data.getD i 0) :
    (drop1 c i (c.data.getD i 0)).data = c.data.set i (c.data.getD i 0 - 1) ∧
    Inv (drop1 c i (c.data.getD i 0)) ∧ (Exact c → Exact (drop1 c i (c.data.getD i 0))) := by
  obtain ⟨t9, x9⟩ := tally_ok (big_set_pred (k := 256) hi hv h.t09)
  obtain ⟨t17, x17⟩ := tally_ok (big_set_pred (k := 65536) hi hv h.t17)
  have hvm := h.fits _ (getD_mem hi)
  rw [drop1_eq h.bytesOK hvm hv]
  exact ⟨rfl, .of_lim h.bytesOK (fits_set h.fits (Nat.lt_of_le_of_lt (Nat.sub_le _ 1) hvm)) (t9 h.t09) (t17 h.t17)
      (fun hk => (if_neg (Nat.ne_of_lt (Nat.lt_of_lt_of_le hvm hk))).trans (h.zeros.1 hk))
      (fun hk => (if_neg (Nat.ne_of_lt (Nat.lt_of_lt_of_le hvm hk))).trans (h.zeros.2 hk)),
    fun e => ⟨x9 e.1, x17 e.2⟩⟩

theorem Inv.of_data (h : Inv c) {d : List Nat} (hf : ∀ x ∈ d, x < lim c.bytes)
    (e9 : big 256 d ≤ big 256 c.data) (e17 : big 65536 d ≤ big 65536 c.data) : Inv { c with data := d } :=
  ⟨h.bytesOK, hf, Nat.le_trans e9 h.t09, Nat.le_trans e17 h.t17, h.w1, h.w2⟩

theorem bump_zero (c : CA) (i : Nat) : bump c i 0 = { c with data := c.data.set i 1 } := by
  simp [bump]

theorem big_swap {j : Nat} (hi : i < l.length) (hj : j < l.length) (k : Nat) :
    big k ((l.set i (l.getD j 0)).set j (l.getD i 0)) = big k l := by
  have a := big_set (k := k) (v := l.getD j 0) hi
  have b := big_set (k := k) (l := l.set i (l.getD j 0)) (v := l.getD i 0) (i := j) (by simpa using hj)
  have g : (l.set i (l.getD j 0)).getD j 0 = l.getD j 0 := by
    by_cases e : i = j
    · subst e; exact getD_set_self hi
    · simp [List.getD_eq_getElem?_getD, e]
  rw [g] at b
  omega

theorem big_append_zeros (hk : 0 < k) (l : List Nat) (n : Nat) :
    big k (l ++ List.replicate n 0) = big k l := by
  rw [big_append, (big_eq_zero (l := List.replicate n 0)).mpr fun x hx => (List.mem_replicate.mp hx).2 ▸ hk, Nat.add_zero]

theorem of_ite_some {α : Type} {p : Prop} [Decidable p] {o : Option α} {y : α}
    (h : (if p then o else none) = some y) : p ∧ o = some y := by
  split at h
  · exact ⟨‹p›, h⟩
  · cases h

theorem step_sim (h : Inv c) {op : Op} {a' : List Nat} {r : Nat}
    (hs : specStep c.data op = some (a', r)) :
    ∃ c', step c op = some (c', r) ∧ c'.data = a' ∧ Inv c' ∧ (Exact c → cleanOp c.data op → Exact c') := by
  cases op with
  | expand ns =>
    cases hs
    by_cases hle : ns ≤ c.data.length
    · refine ⟨c, if_pos hle, ?_, h, fun e _ => e⟩
      rw [Nat.sub_eq_zero_of_le hle, List.replicate_zero, List.append_nil]
    · obtain ⟨hd, hI, e9, e17⟩ := renarrow_ok h
      have z := fun k (hk : 0 < k) => big_append_zeros hk (renarrow c).data (ns - c.data.length)
      refine ⟨_, if_neg hle, congrArg (· ++ _) hd,
        hI.of_data (fun x hx => ?_) (Nat.le_of_eq (z _ (by decide))) (Nat.le_of_eq (z _ (by decide))),
        fun e _ => ⟨?_, ?_⟩⟩
      · rcases List.mem_append.mp hx with hx | hx
        · exact hI.fits x hx
        · rw [(List.mem_replicate.mp hx).2]; exact Nat.pow_pos (by decide)
      · dsimp only; rw [z _ (by decide), hd, e9]; exact e.1
      · dsimp only; rw [z _ (by decide), hd, e17]; exact e.2
  | shrink ns =>
    obtain ⟨hok, e⟩ := of_ite_some hs
    cases e
    by_cases hle : c.data.length ≤ ns
    · exact ⟨c, if_pos hle, (List.take_of_length_le hle).symm, h, fun e _ => e⟩
    · have hn0 : ns ≠ 0 := hok.resolve_left hle
      obtain ⟨hd, hI, e9, e17⟩ := renarrow_ok h
      have t9 := big_take_drop 256 ns c.data
      have t17 := big_take_drop 65536 ns c.data
      refine ⟨_, (if_neg hle).trans (if_neg hn0), congrArg (·.take ns) hd,
        hI.of_data (fun x hx => hI.fits x (List.mem_of_mem_take hx)) (by rw [hd]; omega) (by rw [hd]; omega),
        fun e hc => ?_⟩
      have z9 : big 256 (c.data.drop ns) = 0 := big_eq_zero.mpr hc
      have z17 : big 65536 (c.data.drop ns) = 0 := big_eq_zero.mpr fun x hx => Nat.lt_trans (hc x hx) (by decide)
      exact ⟨by have := e.1; dsimp only; rw [hd]; omega, by have := e.2; dsimp only; rw [hd]; omega⟩
  | get i =>
    obtain ⟨hi, e⟩ := of_ite_some hs
    cases e
    exact ⟨c, if_pos hi, rfl, h, fun e _ => e⟩
  | swap i j =>
    obtain ⟨hij, e⟩ := of_ite_some hs
    cases e
    have sw := big_swap hij.1 hij.2
    exact ⟨_, if_pos hij, rfl,
      h.of_data (fits_set (fits_set h.fits (h.fits _ (getD_mem hij.2))) (h.fits _ (getD_mem hij.1)))
        (Nat.le_of_eq (sw _)) (Nat.le_of_eq (sw _)),
      fun e _ => ⟨e.1.trans (sw _).symm, e.2.trans (sw _).symm⟩⟩
  | increment i =>
    obtain ⟨hi, e⟩ := of_ite_some hs
    cases e
    obtain ⟨hd, hI, hE⟩ := bump_ok h hi.1 hi.2
    exact ⟨_, if_pos hi.1, hd, hI, fun e _ => hE e⟩
  | decrement i =>
    obtain ⟨hi, e⟩ := of_ite_some hs
    cases e
    obtain ⟨hd, hI, hE⟩ := drop1_ok h hi.1 hi.2
    exact ⟨_, if_pos hi.1, hd, hI, fun e _ => hE e⟩
  | isZeroBeforeIncrement i =>
    obtain ⟨hi, e⟩ := of_ite_some hs
    cases e
    obtain ⟨hd, hI, hE⟩ := bump_ok h hi.1 hi.2
    refine ⟨_, (if_pos hi.1).trans ?_, hd, hI, fun e _ => hE e⟩
    -- writing 1 over 0 is the `++` path too
    by_cases z : c.data.getD i 0 = 0
    · rw [if_pos z, if_pos z, z, bump_zero]
    · rw [if_neg z, if_neg z]
  | isPositiveAfterDecrement i =>
    obtain ⟨hi, e⟩ := of_ite_some hs
    cases e
    obtain ⟨hd, hI, hE⟩ := drop1_ok h hi.1 hi.2
    refine ⟨_, (if_pos hi.1).trans ?_, hd, hI, fun e _ => hE e⟩
    rw [hd, getD_set_self hi.1]

end

theorem specRun_cons {a : List Nat} {op : Op} {ops : List Op} {a' rs : List Nat}
    (h : specRun a (op :: ops) = some (a', rs)) :
    ∃ a1 r rs', specStep a op = some (a1, r) ∧ specRun a1 ops = some (a', rs') ∧ rs = r :: rs' := by
  simp only [specRun] at h
  split at h
  · cases h
  · split at h <;> cases h
    exact ⟨_, _, _, ‹_›, ‹_›, rfl⟩

theorem run_sim : ∀ (ops : List Op) {c : CA}, Inv c → ∀ {a rs}, specRun c.data ops = some (a, rs) →
    ∃ c', run c ops = some (c', rs) ∧ c'.data = a ∧ Inv c' ∧
      (Exact c → cleanShrinks c.data ops → Exact c')
  | [], c, h, a, rs, hs => by
    cases hs
    exact ⟨c, rfl, rfl, h, fun e _ => e⟩
  | op :: ops, c, h, a, rs, hs => by
    obtain ⟨a1, r, rs', h1, h2, rfl⟩ := specRun_cons hs
    obtain ⟨c1, s1, rfl, i1, e1⟩ := step_sim h h1
    obtain ⟨c2, s2, d2, i2, e2⟩ := run_sim ops i1 h2
    refine ⟨c2, by simp only [run, s1, s2], d2, i2, fun ex cl => ?_⟩
    simp only [cleanShrinks, h1] at cl
    exact e2 (e1 ex cl.1) cl.2

/-- `counter_refines`: for every call sequence on a freshly constructed array that stays inside the
    contract (indices in range, no decrement of a zero count, every count below 2^32, no `shrink(0)`
    of a non-empty array) the real `counter_array` — with all its
    8→16→32-bit widening and its narrowing inside `expand`/`shrink` — returns exactly the values a
    plain array of naturals returns and holds exactly the same contents afterwards. -/
theorem counter_refines (ops : List Op) (a : List Nat) (rs : List Nat)
    (h : specRun [] ops = some (a, rs)) :
    ∃ c, run init ops = some (c, rs) ∧ c.data = a := by
  obtain ⟨c, hr, hd, _, _⟩ := run_sim ops inv_init (c := init) h
  exact ⟨c, hr, hd⟩

example :
    let ops := [Op.expand 3] ++ List.replicate 256 (Op.increment 1) ++
               [Op.get 1, Op.isPositiveAfterDecrement 1, Op.get 1, Op.shrink 2, Op.get 1, Op.isZeroBeforeIncrement 0]
    (specRun [] ops).map (·.1) = some [1, 255] ∧ ((run init ops).map (·.1.data)) = some [1, 255]
      ∧ ((run init ops).map (·.1.bytes)) = some 1 := by
  decide +kernel

/-- `width_inv`: in every state reachable by in-contract calls the element width (1, 2 or 4 bytes)
    is large enough for every stored count, `counts_09bit` / `counts_17bit` never under-count the
    entries ≥ 256 / ≥ 65536 (so narrowing never truncates), a 1-byte array has both tallies 0 and a
    2-byte array has `counts_17bit = 0`. -/
theorem width_inv (ops : List Op) (a : List Nat) (rs : List Nat)
    (h : specRun [] ops = some (a, rs)) :
    ∃ c, run init ops = some (c, rs) ∧
      (c.bytes = 1 ∨ c.bytes = 2 ∨ c.bytes = 4) ∧ (∀ x ∈ c.data, x < 2 ^ (8 * c.bytes)) ∧
      big 256 c.data ≤ c.c09 ∧ big 65536 c.data ≤ c.c17 ∧
      (c.bytes = 1 → c.c09 = 0 ∧ c.c17 = 0) ∧ (c.bytes = 2 → c.c17 = 0) := by
  obtain ⟨c, hr, _, hI, _⟩ := run_sim ops inv_init (c := init) h
  exact ⟨c, hr, hI.bytesOK, hI.fits, hI.t09, hI.t17, hI.w1, hI.w2⟩

example :
    let ops := [Op.expand 2] ++ List.replicate 256 (Op.increment 0)
    (specRun [] ops).isSome = true ∧ (run init ops).map (·.1) = some ⟨2, [256, 0], 1, 0⟩ := by
  decide +kernel

/-- `tally_exact`: if moreover every `shrink` drops only entries below 256 (true for the way
    `node_headers` uses the class: dropped handles are free and have count 0), the two tallies
    EQUAL the true numbers of entries ≥ 256 and ≥ 65536 in every reachable state.
    Without that hypothesis the equality is false for the code as written: `shrink` does not
    inspect the entries it drops (see the counterexample below), only `width_inv` holds. -/
theorem tally_exact (ops : List Op) (a : List Nat) (rs : List Nat)
    (h : specRun [] ops = some (a, rs)) (hc : cleanShrinks [] ops) :
    ∃ c, run init ops = some (c, rs) ∧ c.c09 = big 256 c.data ∧ c.c17 = big 65536 c.data := by
  obtain ⟨c, hr, _, _, hE⟩ := run_sim ops inv_init (c := init) h
  exact ⟨c, hr, hE exact_init hc⟩

example :
    let ops := [Op.expand 4] ++ List.replicate 300 (Op.increment 1) ++ [Op.shrink 2]
    (specRun [] ops).isSome = true ∧ cleanShrinks [] ops ∧
      (run init ops).map (·.1) = some ⟨2, [0, 300], 1, 0⟩ := by
  decide +kernel

/-- the stale tally: shrinking away a large entry leaves `counts_09bit = 1` although no entry ≥ 256
    remains, so the array stays 16 bits wide at the next resize (harmless, and not reachable through
    `node_headers`). -/
example :
    let ops := [Op.expand 4] ++ List.replicate 300 (Op.increment 3) ++ [Op.shrink 2, Op.expand 8]
    (run init ops).map (·.1) = some ⟨2, [0, 0, 0, 0, 0, 0, 0, 0], 1, 0⟩ := by
  decide +kernel

end Meddly.CounterArray

/-
`#print axioms` (Lean 4.33.0):
  counter_refines  [propext, Classical.choice, Quot.sound]
  width_inv        [propext, Classical.choice, Quot.sound]
  tally_exact      [propext, Classical.choice, Quot.sound]
-/
