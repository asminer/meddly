/-
  C06 at the level of a DUMP of the real node store: the recount certificate and what it implies.

  The acceptor recomputes, for every node of every dumped forest, the number of references to it
  (occurrences as a child of a dumped node + occurrences among the registered user edges) and compares
  it with the incoming count the library reports (`Funcs.audit`, DIFF kind `refcount`).  `Recount.ok`
  is that comparison as a definition over `Dump`.  The theorems say what an accepted dump implies:

  * `top_unreferenced` : in ANY well-formed store (children strictly below their parents) a node at the
    highest occupied position is referenced by no node.
  * `exists_unreferenced_of_no_roots` / `count_zero_of_no_roots` : hence, when no user edge is left, an
    accepted non-empty store contains a node whose reported incoming count is 0 - a node which a forest
    that reclaims unreferenced nodes (pessimistic policy; optimistic after the caches are cleared) must
    already have reclaimed.  So "recount accepted + no roots + every zero-count node reclaimed" gives
    the EMPTY store: the harness expectation `leak-F 0` is not an extra assumption but a consequence of
    the certificate and the reclamation rule (`no_leak`).
  * `root_counted` : a node of an accepted store to which a registered user edge points has a positive
    reported count.
  That the library does reclaim every zero-count node is the hypothesis `hreclaim` of `no_leak`; it is
  not derived from the dump.
-/
import MeddlyModel.Core.Dump

namespace Meddly
namespace Recount
open Dump

variable {α : Type}

/-- number of occurrences of handle `h` among a list of children -/
def occ (h : Nat) : List (Child α) → Nat
  | [] => 0
  | .nd g :: cs => (if g = h then 1 else 0) + occ h cs
  | .tm _ :: cs => occ h cs

/-- references to `h` from the nodes of the store -/
def fromParents (D : Dump α) (h : Nat) : Nat := (D.map (fun n => occ h n.down)).sum

/-- the recount of one handle: parents + registered user edges -/
def refs (D : Dump α) (roots : List (Child α)) (h : Nat) : Nat := fromParents D h + occ h roots

/-- the certificate: every node's reported incoming count equals its recount -/
def ok (D : Dump α) (roots : List (Child α)) (inCount : Nat → Nat) : Bool :=
  D.all (fun n => decide (inCount n.handle = refs D roots n.handle))

theorem occ_pos_iff {h : Nat} {cs : List (Child α)} : 0 < occ h cs ↔ Child.nd h ∈ cs := by
  induction cs with
  | nil => simp [occ]
  | cons c cs ih =>
    cases c with
    | tm v => simp [occ, ih]
    | nd g =>
      by_cases e : g = h
      · simp only [occ, e, if_true, List.mem_cons, true_or, iff_true]; omega
      · simp [occ, e, ih, Ne.symm e]

theorem exists_max_pos : ∀ {D : Dump α}, D ≠ [] → ∃ n ∈ D, ∀ m ∈ D, m.pos ≤ n.pos
  | [], h => absurd rfl h
  | [x], _ => ⟨x, List.mem_cons_self, fun m hm => List.mem_singleton.mp hm ▸ Nat.le_refl _⟩
  | x :: y :: rest, _ => by
    obtain ⟨n, hn, hmax⟩ := exists_max_pos (D := y :: rest) (List.cons_ne_nil _ _)
    rcases Nat.le_total n.pos x.pos with hx | hx
    · exact ⟨x, List.mem_cons_self, fun m hm => (List.mem_cons.1 hm).elim
        (fun e => e ▸ Nat.le_refl _) (fun hm' => Nat.le_trans (hmax m hm') hx)⟩
    · exact ⟨n, List.mem_cons_of_mem _ hn, fun m hm => (List.mem_cons.1 hm).elim
        (fun e => e ▸ hx) (hmax m)⟩

variable [DecidableEq α]

/-- a node at the highest occupied position is not referenced by any node of the store -/
theorem top_unreferenced {D : Dump α} (hs : D.storeOK = true) {n : DNode α} (hn : n ∈ D)
    (hmax : ∀ m ∈ D, m.pos ≤ n.pos) : fromParents D n.handle = 0 := by
  refine Nat.eq_zero_of_not_pos fun h0 => ?_
  -- a positive count comes from a node `m` with child `nd n.handle`, which sits below `m`
  obtain ⟨x, hx, hx0⟩ := List.sum_pos_iff_exists_pos_nat.mp h0
  obtain ⟨m, hm, rfl⟩ := List.mem_map.1 hx
  obtain ⟨_, h1, hall⟩ := storeOK_node hs hm
  obtain ⟨c, hcf, hp⟩ := childOK_nd (hall _ (occ_pos_iff.mp hx0))
  rw [distinctOK_find (storeOK_distinct hs) hn] at hcf
  cases hcf
  have := hmax m hm
  omega

/-- with no user edge left, a non-empty well-formed store has a node nobody references -/
theorem exists_unreferenced_of_no_roots {D : Dump α} (hs : D.storeOK = true) (hne : D ≠ []) :
    ∃ n ∈ D, refs D [] n.handle = 0 := by
  obtain ⟨n, hn, hmax⟩ := exists_max_pos hne
  exact ⟨n, hn, by simp [refs, occ, top_unreferenced hs hn hmax]⟩

/-- ... and the library itself reports incoming count 0 for it, if the recount certificate accepts -/
theorem count_zero_of_no_roots {D : Dump α} {inCount : Nat → Nat} (hs : D.storeOK = true)
    (hok : ok D [] inCount = true) (hne : D ≠ []) : ∃ n ∈ D, inCount n.handle = 0 := by
  obtain ⟨n, hn, h0⟩ := exists_unreferenced_of_no_roots hs hne
  exact ⟨n, hn, by simpa [h0] using List.all_eq_true.1 hok n hn⟩

/-- C06, leak freedom from the certificate: a well-formed store accepted by the recount, with no user edge left, in
    which no node has incoming count 0 (the forest reclaims unreferenced nodes: pessimistic policy, or
    optimistic policy once the caches are cleared) is EMPTY. -/
theorem no_leak {D : Dump α} {inCount : Nat → Nat} (hs : D.storeOK = true)
    (hok : ok D [] inCount = true) (hreclaim : ∀ n ∈ D, inCount n.handle ≠ 0) : D = [] := by
  refine Decidable.byContradiction fun hne => ?_
  obtain ⟨n, hn, h0⟩ := count_zero_of_no_roots hs hok hne
  exact hreclaim n hn h0

/-- a held edge keeps its target alive: a root of an accepted store has a positive reported count -/
theorem root_counted {D : Dump α} {roots : List (Child α)} {inCount : Nat → Nat}
    (hok : ok D roots inCount = true) {n : DNode α} (hn : n ∈ D) (hr : Child.nd n.handle ∈ roots) :
    0 < inCount n.handle := by
  have e : inCount n.handle = refs D roots n.handle := by
    simpa using List.all_eq_true.1 hok n hn
  have : 0 < occ n.handle roots := occ_pos_iff.mpr hr
  rw [e]; unfold refs; omega

/-! non-vacuity: a concrete two-node store with one root is accepted, and the hypotheses of `no_leak`
    are contradictory for it exactly because it is not empty -/
def Dx : Dump Nat := [ ⟨1, 1, [.tm 0, .tm 1]⟩, ⟨2, 2, [.nd 1, .nd 1]⟩ ]
example : Dx.storeOK = true := by decide +kernel
example : ok Dx [.nd 2] (fun h => if h = 1 then 2 else 1) = true := by decide +kernel
example : ok Dx [] (fun h => if h = 1 then 2 else 0) = true := by decide +kernel
example : ok Dx [] (fun h => if h = 1 then 2 else 1) = false := by decide +kernel

end Recount
end Meddly
