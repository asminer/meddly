/-
  Lifecycle model (property C17: "library, domain and forest lifecycles are
  safe in any order").

  What is modelled (file / function in /repo/src it mirrors):

  * `running`                 `initializer_list::isRunning`
  * `domains`                 the global `domain::domain_list`
  * `forests`, `nextFid`      `forest::all_forests` : slot `fid` is non-null iff the
                              forest is in `forests`; `nextFid = all_forests.size()`
                              (`registerForest`: `f->fid = all_forests.size()`), so
                              `MaxFID() = nextFid - 1`.  `freeStatics` / `initStatics`
                              reset the vector on cleanup / initialise (to empty resp. to the
                              one null slot 0; the model has `nextFid = 1` in both cases).
  * `edges`                   every `dd_edge` object the client owns, with its
                              `parentFID` (`none` = 0 = "no forest")
  * `iters`                   `dd_edge::iterator` objects with the forest they were
                              built for (`none` = that forest is gone: the iterator may
                              only be destroyed)
  * `ops`                     operations built through `build(UNION|COPY, …)` /
                              `apply(UNION|COPY, …)` that the client has seen, with the
                              forests in their `FList` (the per-factory move-to-front
                              cache is keyed by exactly this forest tuple)
  * `ct`                      one element per *live* compute-table entry (entry whose
                              `ct_entry_type` is not marked for deletion): the set of
                              forests its entry type mentions

  `step` is deterministic and total.  `Out.illegal` marks calls whose C++
  counterpart has undefined behaviour (dangling pointer arguments, …) or that
  make no sense (unknown ids); the harness never performs them and the acceptor
  reports one if it ever sees it.

  Results: the invariant `WF` holds in every reachable state (`wf_reachable`); FIDs increase and
  are not reused within one initialisation and restart at 1 after `cleanup` (`fid_fresh`,
  `fid_fresh_unmentioned`, `fid_never_reused`, `fid_restart`); destroying a forest or a domain
  detaches exactly its edges, purges what mentions it and touches nothing else
  (`destroy_detaches_forest`, `destroy_detaches_domain`, `destroy_purges`, `no_dangling`,
  `others_untouched_forest`, `others_untouched_domain`, `att_frame`); using an edge without forest
  raises an error and changes nothing (`detached_use_errors`, `detached_use_errors_exact`,
  `detached_evaluate_errors`); `cleanup` returns to the initial state, up to the client's edge and
  iterator objects, which remain without forest, and `initialize` / `cleanup` can be repeated
  (`reinit_clean`, `init_cleanup_outcomes`, `init_cleanup_roundtrip`, `uninitialized_errors`).

  Not modelled: the function an edge encodes, nodes and their storage (an edge is its attachment
  only), and the contents of a compute-table entry beyond the forests it mentions.
-/
namespace Meddly.Lifecycle

abbrev Fid := Nat
abbrev DomId := Nat
abbrev EdgeId := Nat
abbrev IterId := Nat
abbrev OpId := Nat

/-- the error codes of `MEDDLY::error` that lifecycle operations can raise -/
inductive Err
  | UNINITIALIZED | ALREADY_INITIALIZED | NOT_IMPLEMENTED
  | DOMAIN_MISMATCH | TYPE_MISMATCH | FOREST_MISMATCH
  deriving DecidableEq, Repr, Inhabited

def Err.name : Err → String
  | .UNINITIALIZED => "UNINITIALIZED"
  | .ALREADY_INITIALIZED => "ALREADY_INITIALIZED"
  | .NOT_IMPLEMENTED => "NOT_IMPLEMENTED"
  | .DOMAIN_MISMATCH => "DOMAIN_MISMATCH"
  | .TYPE_MISMATCH => "TYPE_MISMATCH"
  | .FOREST_MISMATCH => "FOREST_MISMATCH"

/-- the part of a forest's type that decides which operations can be built -/
structure Kind where
  /-- relation (MxD) forest? -/
  rel : Bool
  /-- multi-terminal (`true`) or EV+ (`false`) -/
  mt : Bool
  deriving DecidableEq, Repr, Inhabited

structure Forest where
  fid : Fid
  dom : DomId
  kind : Kind
  deriving DecidableEq, Repr, Inhabited

inductive OpKind
  | union | copy
  deriving DecidableEq, Repr, Inhabited

structure OpRec where
  id : OpId
  kind : OpKind
  fids : List Fid
  deriving DecidableEq, Repr, Inhabited

structure State where
  running : Bool
  domains : List DomId
  forests : List Forest
  nextFid : Nat
  edges : List (EdgeId × Option Fid)
  iters : List (IterId × Option Fid)
  ops : List OpRec
  ct : List (List Fid)
  deriving DecidableEq, Repr, Inhabited

/-- the state of a process that has not called `MEDDLY::initialize` yet -/
def State.initial : State := ⟨false, [], [], 1, [], [], [], []⟩

inductive Op
  | init | cleanup
  | mkDomain (d : DomId) | rmDomain (d : DomId)
  | mkForest (d : DomId) (k : Kind) | rmForest (f : Fid)
  | mkEdge (e : EdgeId) (a : Option Fid)
  | copyEdge (e e' : EdgeId)
  | assignEdge (dst src : EdgeId)
  | rmEdge (e : EdgeId)
  | attach (e : EdgeId) (f : Fid) | detach (e : EdgeId)
  | fill (e : EdgeId)
  | evaluate (e : EdgeId)
  | mkIter (i : IterId) (e : EdgeId) | advIter (i : IterId) | rmIter (i : IterId)
  | buildOp (o : OpId) (k : OpKind) (fs : List Fid)
  | apply (o : OpId) (k : OpKind) (es : List EdgeId)
  | ctAdd (fs : List Fid) | ctEvict (fs : List Fid) | ctClear (f : Fid)
  deriving DecidableEq, Repr, Inhabited

inductive Out
  | ok
  | err (c : Err)
  | fid (f : Fid)
  /-- an operation object: its id and whether it was built by this call -/
  | op (o : OpId) (fresh : Bool)
  | illegal
  deriving DecidableEq, Repr, Inhabited

/-- FIDs of the live forests (non-null slots of `all_forests`) -/
def fids (s : State) : List Fid := s.forests.map (·.fid)

/-- `forest::getForestWithID(f) != nullptr` -/
def liveF (s : State) (f : Fid) : Bool := decide (f ∈ fids s)

def findF (s : State) (f : Fid) : Option Forest := s.forests.find? (fun F => F.fid == f)

/-- `dd_edge::getForest()` seen through the registry: a FID whose slot is null reads as "no forest" -/
def liveAtt (s : State) : Option Fid → Option Fid
  | some f => if liveF s f then some f else none
  | none => none

/-- attachment of edge `e` (`none` = no such edge object) -/
def att (s : State) (e : EdgeId) : Option (Option Fid) :=
  (s.edges.find? (fun p => p.1 == e)).map (·.2)

def hasEdge (s : State) (e : EdgeId) : Bool := s.edges.any (fun p => p.1 == e)

def setAtt (s : State) (e : EdgeId) (a : Option Fid) : State :=
  { s with edges := s.edges.map (fun p => if p.1 == e then (p.1, a) else p) }

def iterOf (s : State) (i : IterId) : Option (Option Fid) :=
  (s.iters.find? (fun p => p.1 == i)).map (·.2)

/-- what `forest::unregisterDDEdges` does to one edge when the forests in `dead` die -/
def detachDead (dead : List Fid) : Option Fid → Option Fid
  | some f => if f ∈ dead then none else some f
  | none => none

/-- does the forest list `fs` mention a forest in `dead`? -/
def hits (dead fs : List Fid) : Bool := fs.any (fun f => decide (f ∈ dead))

/-- `~forest` for every forest in `dead`: zero the registered edges, drop the registry slot,
    `operation::destroyAllWithForest`, and (through the destroyed operations'
    `ct_entry_type::markForDestroy`) kill the cache entries. -/
def destroy (dead : List Fid) (s : State) : State :=
  { s with
    forests := s.forests.filter (fun F => !decide (F.fid ∈ dead))
    edges := s.edges.map (fun p => (p.1, detachDead dead p.2))
    iters := s.iters.map (fun p => (p.1, detachDead dead p.2))
    ops := s.ops.filter (fun o => !hits dead o.fids)
    ct := s.ct.filter (fun c => !hits dead c) }

/-- FIDs of the forests of domain `d` (`domain::forestReg`) -/
def fidsOfDom (s : State) (d : DomId) : List Fid :=
  (s.forests.filter (fun F => F.dom == d)).map (·.fid)

/-- Result of the constructor checks of `union_mt` / `COPY_factory::build_new`:
    `none` = undefined (unknown forest or wrong arity), `some none` = the operation can be
    built, `some (some c)` = the constructor throws `c`. -/
def checkOp (s : State) : OpKind → List Fid → Option (Option Err)
  | .union, [a, b, c] =>
    match findF s a, findF s b, findF s c with
    | some A, some B, some C =>
      some (
        if A.dom != C.dom || B.dom != C.dom then some .DOMAIN_MISMATCH
        else if A.kind.rel != C.kind.rel || B.kind.rel != C.kind.rel then some .TYPE_MISMATCH
        else if !(A.kind.mt && B.kind.mt && C.kind.mt) then some .TYPE_MISMATCH
        else none)
    | _, _, _ => none
  | .copy, [a, c] =>
    match findF s a, findF s c with
    | some A, some C =>
      some (
        if A.kind.rel != C.kind.rel then some .TYPE_MISMATCH
        else if a == c then none
        else if A.dom != C.dom then some .DOMAIN_MISMATCH
        else none)
    | _, _ => none
  | _, _ => none

/-- `binary_factory::build` / `unary_factory::build`: look in the factory's cache, else construct -/
def buildCore (s : State) (o : OpId) (k : OpKind) (fs : List Fid) : State × Out :=
  match s.ops.find? (fun r => r.kind == k && r.fids == fs) with
  | some r => (s, .op r.id false)
  | none =>
    match checkOp s k fs with
    | none => (s, .illegal)
    | some (some c) => (s, .err c)
    | some none =>
      if s.ops.any (fun r => r.id == o) then (s, .illegal)
      else ({ s with ops := ⟨o, k, fs⟩ :: s.ops }, .op o true)

def atts (s : State) : List EdgeId → Option (List (Option Fid))
  | [] => some []
  | e :: es =>
    match att s e, atts s es with
    | some a, some as => some (a :: as)
    | _, _ => none

def arityOk : OpKind → Nat → Bool
  | .union, 3 => true
  | .copy, 2 => true
  | _, _ => false

/-- domains of the listed forests (unknown forests are skipped) -/
def domsOf (s : State) (fs : List Fid) : List DomId :=
  fs.filterMap (fun f => (findF s f).map (·.dom))

def allEq : List Nat → Bool
  | [] => true
  | x :: xs => xs.all (· == x)

/-- forests destroyed by a step (used to state the frame properties) -/
def destroyedBy (s : State) : Op → List Fid
  | .cleanup => if s.running then fids s else []
  | .rmDomain d => if s.running && decide (d ∈ s.domains) then fidsOfDom s d else []
  | .rmForest f => if s.running && liveF s f then [f] else []
  | _ => []

/-- edges whose *function* a step may change (all other edges keep theirs) -/
def writes : Op → List EdgeId
  | .mkEdge e _ => [e]
  | .copyEdge _ e' => [e']
  | .assignEdge d _ => [d]
  | .rmEdge e => [e]
  | .attach e _ => [e]
  | .detach e => [e]
  | .fill e => [e]
  | .apply _ _ es => match es.getLast? with | some e => [e] | none => []
  | _ => []

def step (s : State) : Op → State × Out
  | .init =>
    -- initializer_list::initializeLibrary
    if s.running then (s, .err .ALREADY_INITIALIZED)
    else ({ s with running := true, domains := [], forests := [], nextFid := 1, ops := [], ct := [] }, .ok)
  | .cleanup =>
    -- initializer_list::cleanupLibrary: markDomList (zeroes every registered edge),
    -- destroyAllOps, deleteDomList (deletes every forest), forest::freeStatics
    if !s.running then (s, .err .UNINITIALIZED)
    else ({ destroy (fids s) s with
            running := false, domains := [], forests := [], nextFid := 1, ops := [], ct := [] }, .ok)
  | .mkDomain d =>
    if !s.running then (s, .err .UNINITIALIZED)
    else if d ∈ s.domains then (s, .illegal)
    else ({ s with domains := d :: s.domains }, .ok)
  | .rmDomain d =>
    -- domain::destroy: the running check comes before the pointer is used
    if !s.running then (s, .err .UNINITIALIZED)
    else if d ∉ s.domains then (s, .illegal)
    else ({ destroy (fidsOfDom s d) s with domains := s.domains.filter (· != d) }, .ok)
  | .mkForest d k =>
    if !s.running || decide (d ∉ s.domains) then (s, .illegal)
    else ({ s with forests := ⟨s.nextFid, d, k⟩ :: s.forests, nextFid := s.nextFid + 1 }, .fid s.nextFid)
  | .rmForest f =>
    -- forest::destroy: the running check comes before the pointer is used
    if !s.running then (s, .err .UNINITIALIZED)
    else if !liveF s f then (s, .illegal)
    else (destroy [f] s, .ok)
  | .mkEdge e a =>
    if hasEdge s e then (s, .illegal)
    else match a with
      | none => ({ s with edges := (e, none) :: s.edges }, .ok)
      | some f => if liveF s f then ({ s with edges := (e, some f) :: s.edges }, .ok) else (s, .illegal)
  | .copyEdge e e' =>
    match att s e with
    | none => (s, .illegal)
    | some a =>
      if hasEdge s e' then (s, .illegal)
      else ({ s with edges := (e', liveAtt s a) :: s.edges }, .ok)
  | .assignEdge dst src =>
    match att s dst, att s src with
    | some _, some a => (setAtt s dst (liveAtt s a), .ok)
    | _, _ => (s, .illegal)
  | .rmEdge e =>
    if hasEdge s e then ({ s with edges := s.edges.filter (fun p => p.1 != e) }, .ok)
    else (s, .illegal)
  | .attach e f =>
    if hasEdge s e && liveF s f then (setAtt s e (some f), .ok) else (s, .illegal)
  | .detach e =>
    if hasEdge s e then (setAtt s e none, .ok) else (s, .illegal)
  | .fill e =>
    match att s e with
    | some (some f) => if liveF s f then (s, .ok) else (s, .illegal)
    | _ => (s, .illegal)
  | .evaluate e =>
    -- dd_edge::evaluate: `if (!fp) throw FOREST_MISMATCH`
    match att s e with
    | none => (s, .illegal)
    | some a => match liveAtt s a with
      | none => (s, .err .FOREST_MISMATCH)
      | some _ => (s, .ok)
  | .mkIter i e =>
    -- building an iterator for an edge without forest dereferenced a null pointer in the
    -- library (finding F-C17-1, repaired in /repo by "fix: iterator over a detached dd_edge is
    -- an end iterator"); the model keeps it an illegal call
    match att s e with
    | some (some f) =>
      if liveF s f && !(s.iters.any (fun p => p.1 == i)) then
        ({ s with iters := (i, some f) :: s.iters }, .ok)
      else (s, .illegal)
    | _ => (s, .illegal)
  | .advIter i =>
    match iterOf s i with
    | some (some f) => if liveF s f then (s, .ok) else (s, .illegal)
    | _ => (s, .illegal)
  | .rmIter i =>
    if s.iters.any (fun p => p.1 == i) then ({ s with iters := s.iters.filter (fun p => p.1 != i) }, .ok)
    else (s, .illegal)
  | .buildOp o k fs => buildCore s o k fs
  | .apply o k es =>
    -- binary_factory::apply / unary_factory::apply:
    --   bop = build(a.getForest(), …); if (!bop) throw NOT_IMPLEMENTED; bop->compute(…)
    match atts s es with
    | none => (s, .illegal)
    | some as =>
      if !arityOk k es.length then (s, .illegal)
      else if as.any (fun a => (liveAtt s a).isNone) then (s, .err .NOT_IMPLEMENTED)
      else buildCore s o k (as.filterMap id)
  | .ctAdd fs =>
    if s.running && !fs.isEmpty && fs.all (liveF s) && allEq (domsOf s fs) then
      ({ s with ct := fs :: s.ct }, .ok)
    else (s, .illegal)
  | .ctEvict fs =>
    if fs ∈ s.ct then ({ s with ct := s.ct.erase fs }, .ok) else (s, .illegal)
  | .ctClear f =>
    -- forest::removeAllComputeTableEntries
    if liveF s f then ({ s with ct := s.ct.filter (fun c => !decide (f ∈ c)) }, .ok) else (s, .illegal)

def run (s : State) : List Op → State
  | [] => s
  | o :: os => run (step s o).1 os

/-- outputs produced along a run -/
def outs (s : State) : List Op → List Out
  | [] => []
  | o :: os => (step s o).2 :: outs (step s o).1 os

/-- Well-formedness: what holds in every reachable state. -/
structure WF (s : State) : Prop where
  next_pos : 1 ≤ s.nextFid
  fid_lt : ∀ f ∈ fids s, f < s.nextFid
  fid_nodup : (fids s).Nodup
  dom_live : ∀ F ∈ s.forests, F.dom ∈ s.domains
  edge_live : ∀ p ∈ s.edges, ∀ f, p.2 = some f → f ∈ fids s
  iter_live : ∀ p ∈ s.iters, ∀ f, p.2 = some f → f ∈ fids s
  op_live : ∀ o ∈ s.ops, ∀ f ∈ o.fids, f ∈ fids s
  ct_live : ∀ c ∈ s.ct, ∀ f ∈ c, f ∈ fids s
  stopped : s.running = false →
    s.domains = [] ∧ s.forests = [] ∧ s.ops = [] ∧ s.ct = [] ∧ s.nextFid = 1

section
variable {s s' : State} {w : List EdgeId} {dead : List Fid} {f : Fid} {a : Option Fid} {e : EdgeId}

theorem wf_initial : WF State.initial := by
  constructor <;> simp [State.initial, fids]

theorem mem_fids_destroy :
    f ∈ fids (destroy dead s) ↔ f ∈ fids s ∧ f ∉ dead := by
  simp only [fids, destroy, List.mem_map, List.mem_filter]
  constructor
  · rintro ⟨F, ⟨hF, hd⟩, rfl⟩
    exact ⟨⟨F, hF, rfl⟩, by simpa using hd⟩
  · rintro ⟨⟨F, hF, rfl⟩, hd⟩
    exact ⟨F, ⟨hF, by simpa using hd⟩, rfl⟩

theorem detachDead_some :
    detachDead dead a = some f ↔ a = some f ∧ f ∉ dead := by
  cases a with
  | none => simp [detachDead]
  | some g =>
    by_cases h : g ∈ dead
    · simp [detachDead, h]; rintro rfl; exact h
    · simp [detachDead, h]; rintro rfl; exact h

theorem hits_false {fs : List Fid} : hits dead fs = false ↔ ∀ f ∈ fs, f ∉ dead := by
  simp [hits]

theorem mem_detach {l : List (Nat × Option Fid)} {p : Nat × Option Fid}
    (hp : p ∈ l.map (fun p => (p.1, detachDead dead p.2))) (hpf : p.2 = some f) :
    f ∉ dead ∧ ∃ q ∈ l, q.2 = some f := by
  obtain ⟨q, hq, rfl⟩ := List.mem_map.mp hp
  exact ⟨(detachDead_some.mp hpf).2, q, hq, (detachDead_some.mp hpf).1⟩

theorem mem_unhit {α : Type} {g : α → List Fid} {l : List α} {o : α}
    (ho : o ∈ l.filter (fun o => !hits dead (g o))) : o ∈ l ∧ ∀ f ∈ g o, f ∉ dead :=
  ⟨(List.mem_filter.mp ho).1, hits_false.mp (by simpa using (List.mem_filter.mp ho).2)⟩

theorem wf_destroy (h : WF s) (dead : List Fid) (hr : s.running = true) :
    WF (destroy dead s) := by
  refine ⟨h.next_pos, fun f hf => h.fid_lt f (mem_fids_destroy.mp hf).1,
    List.Nodup.sublist (List.Sublist.map _ List.filter_sublist) h.fid_nodup,
    fun F hF => h.dom_live F (List.mem_filter.mp hF).1, ?_, ?_, ?_, ?_,
    fun hs => nomatch hr.symm.trans hs⟩
  · intro p hp f hpf
    obtain ⟨hd, q, hq, hqf⟩ := mem_detach hp hpf
    exact mem_fids_destroy.mpr ⟨h.edge_live q hq f hqf, hd⟩
  · intro p hp f hpf
    obtain ⟨hd, q, hq, hqf⟩ := mem_detach hp hpf
    exact mem_fids_destroy.mpr ⟨h.iter_live q hq f hqf, hd⟩
  · intro o ho f hf
    exact mem_fids_destroy.mpr ⟨h.op_live o (mem_unhit ho).1 f hf, (mem_unhit ho).2 f hf⟩
  · intro c hc f hf
    have hu := mem_unhit (g := id) hc
    exact mem_fids_destroy.mpr ⟨h.ct_live c hu.1 f hf, hu.2 f hf⟩

theorem findF_some_mem {F : Forest} (h : findF s f = some F) :
    F ∈ s.forests ∧ F.fid = f := by
  unfold findF at h
  exact ⟨List.mem_of_find?_eq_some h, by simpa using List.find?_some h⟩

theorem findF_some_fids {F : Forest} (h : findF s f = some F) : f ∈ fids s := by
  obtain ⟨hm, rfl⟩ := findF_some_mem h
  exact List.mem_map.mpr ⟨F, hm, rfl⟩

theorem liveF_iff : liveF s f = true ↔ f ∈ fids s := by simp [liveF]

theorem liveAtt_some :
    liveAtt s a = some f ↔ a = some f ∧ f ∈ fids s := by
  cases a with
  | none => simp [liveAtt]
  | some g =>
    by_cases h : g ∈ fids s
    · simp [liveAtt, liveF, h]; rintro rfl; exact h
    · simp [liveAtt, liveF, h]; rintro rfl; exact h

theorem stopped_fids (h : WF s) (hr : s.running = false) : fids s = [] := by
  simp [fids, (h.stopped hr).2.1]

theorem stopped_none (h : WF s) (hr : s.running = false)
    (hl : ∀ f, a = some f → f ∈ fids s) : a = none := by
  cases a with
  | none => rfl
  | some f => exact nomatch (stopped_fids h hr ▸ hl f rfl :)

theorem checkOp_live {k : OpKind} {fs : List Fid} {r : Option Err}
    (h : checkOp s k fs = some r) : fs ≠ [] ∧ ∀ f ∈ fs, f ∈ fids s := by
  unfold checkOp at h
  split at h
  · split at h
    · rename_i A B C hA hB hC
      simp only [List.forall_mem_cons]
      exact ⟨List.cons_ne_nil _ _, findF_some_fids hA, findF_some_fids hB, findF_some_fids hC, nofun⟩
    · cases h
  · split at h
    · rename_i A C hA hC
      simp only [List.forall_mem_cons]
      exact ⟨List.cons_ne_nil _ _, findF_some_fids hA, findF_some_fids hC, nofun⟩
    · cases h
  · cases h

theorem detachDead_nil (a : Option Fid) : detachDead [] a = a := by
  cases a <;> simp [detachDead]

theorem att_destroy :
    att (destroy dead s) e = (att s e).map (detachDead dead) := by
  simp only [att, destroy, List.find?_map, Option.map_map]
  rfl

/-- `s'` differs from `s` only in the client's tables (edges, iterators, built operations, cache
    entries) and, while the library runs, by new domains: the forest registry is as it was, edges
    outside `w` keep their attachment, and whatever is new in a table names live forests (a new
    operation or cache entry at least one, so that it cannot appear while the library is stopped). -/
structure Local (w : List EdgeId) (s s' : State) : Prop where
  running : s'.running = s.running
  domains : s'.domains = s.domains ∨ (s.running = true ∧ ∀ d ∈ s.domains, d ∈ s'.domains)
  forests : s'.forests = s.forests
  nextFid : s'.nextFid = s.nextFid
  att_eq : ∀ e, e ∉ w → att s' e = att s e
  edge_live : ∀ p ∈ s'.edges, p ∈ s.edges ∨ ∀ f, p.2 = some f → f ∈ fids s
  iter_live : ∀ p ∈ s'.iters, p ∈ s.iters ∨ ∀ f, p.2 = some f → f ∈ fids s
  op_live : ∀ o ∈ s'.ops, o ∈ s.ops ∨ (o.fids ≠ [] ∧ ∀ f ∈ o.fids, f ∈ fids s)
  ct_live : ∀ c ∈ s'.ct, c ∈ s.ct ∨ (c ≠ [] ∧ ∀ f ∈ c, f ∈ fids s)

namespace Local

theorem refl (w : List EdgeId) (s : State) : Local w s s :=
  ⟨rfl, .inl rfl, rfl, rfl, fun _ _ => rfl, fun _ h => .inl h, fun _ h => .inl h,
    fun _ h => .inl h, fun _ h => .inl h⟩

theorem fids_eq (l : Local w s s') : fids s' = fids s :=
  congrArg (List.map Forest.fid) l.forests

theorem wf (l : Local w s s') (h : WF s) : WF s' := by
  constructor
  · rw [l.nextFid]; exact h.next_pos
  · rw [l.fids_eq, l.nextFid]; exact h.fid_lt
  · rw [l.fids_eq]; exact h.fid_nodup
  · rw [l.forests]
    intro F hF
    rcases l.domains with e | ⟨_, hsub⟩
    · rw [e]; exact h.dom_live F hF
    · exact hsub _ (h.dom_live F hF)
  · rw [l.fids_eq]; exact fun p hp => (l.edge_live p hp).elim (h.edge_live p) id
  · rw [l.fids_eq]; exact fun p hp => (l.iter_live p hp).elim (h.iter_live p) id
  · rw [l.fids_eq]; exact fun o ho => (l.op_live o ho).elim (h.op_live o) And.right
  · rw [l.fids_eq]; exact fun c hc => (l.ct_live c hc).elim (h.ct_live c) And.right
  · intro hr
    rw [l.running] at hr
    obtain ⟨h1, h2, h3, h4, h5⟩ := h.stopped hr
    -- no forest is live, so what is new in a table names none
    have dead : ∀ fs : List Fid, (∀ f ∈ fs, f ∈ fids s) → fs = [] := fun fs hl =>
      List.eq_nil_iff_forall_not_mem.mpr fun f hf => nomatch (stopped_fids h hr ▸ hl f hf :)
    rw [l.forests, l.nextFid]
    refine ⟨?_, h2, List.eq_nil_iff_forall_not_mem.mpr fun o ho => ?_,
      List.eq_nil_iff_forall_not_mem.mpr fun c hc => ?_, h5⟩
    · rcases l.domains with e | ⟨hr', _⟩
      · rw [e]; exact h1
      · exact nomatch hr'.symm.trans hr
    · rcases l.op_live o ho with ho | ⟨hne, hl⟩
      · rw [h3] at ho; cases ho
      · exact hne (dead _ hl)
    · rcases l.ct_live c hc with hc | ⟨hne, hl⟩
      · rw [h4] at hc; cases hc
      · exact hne (dead _ hl)

theorem edges {es : List (EdgeId × Option Fid)}
    (hatt : ∀ e, e ∉ w → att { s with edges := es } e = att s e)
    (hl : ∀ p ∈ es, p ∈ s.edges ∨ ∀ f, p.2 = some f → f ∈ fids s) :
    Local w s { s with edges := es } :=
  { refl w s with att_eq := hatt, edge_live := hl }

theorem consEdge (ha : ∀ f, a = some f → f ∈ fids s) :
    Local [e] s { s with edges := (e, a) :: s.edges } :=
  edges (fun x hx => by
      have : (e == x) = false := beq_false_of_ne fun h => hx (h ▸ List.mem_singleton_self e)
      simp only [att, List.find?_cons, this])
    (fun _ hp => (List.mem_cons.mp hp).elim (fun h => .inr (h ▸ ha)) .inl)

theorem setAtt (ha : ∀ f, a = some f → f ∈ fids s) :
    Local [e] s (setAtt s e a) := by
  refine edges (fun x hx => ?_) fun p hp => ?_
  · have hne : (e == x) = false := beq_false_of_ne fun h => hx (h ▸ List.mem_singleton_self e)
    simp only [att]
    congr 1
    induction s.edges with
    | nil => rfl
    | cons p ps ih =>
      rw [List.map_cons, List.find?_cons, List.find?_cons, ih]
      by_cases hp : p.1 = e
      · simp [hp, hne]
      · simp [hp]
  · obtain ⟨q, hq, rfl⟩ := List.mem_map.mp hp
    split
    · exact .inr ha
    · exact .inl hq

theorem rmEdge :
    Local [e] s { s with edges := s.edges.filter (fun p => p.1 != e) } :=
  edges (fun x hx => by
      have hne : x ≠ e := mt List.mem_singleton.mpr hx
      simp only [att, List.find?_filter]
      congr 2
      funext p
      by_cases hp : p.1 = x
      · simp [hp, hne]
      · simp [hp])
    (fun _ hp => .inl (List.mem_filter.mp hp).1)

theorem buildCore {o : OpId} {k : OpKind} {fs : List Fid} :
    Local w s (buildCore s o k fs).1 := by
  unfold Lifecycle.buildCore
  split
  · exact refl w s
  · split
    · exact refl w s
    · exact refl w s
    · rename_i hc
      split
      · exact refl w s
      · exact { refl w s with
          op_live := fun _ ho => (List.mem_cons.mp ho).elim (fun h => .inr (h ▸ checkOp_live hc)) .inl }

end Local

/-- Every operation other than the five that act on the forest registry (`init`, `cleanup`, creating
    a forest, destroying a forest or a domain) destroys nothing and is local. -/
theorem step_local (s : State) (op : Op) :
    (destroyedBy s op = [] ∧ Local (writes op) s (step s op).1) ∨ op = .init ∨ op = .cleanup ∨
      (∃ d k, op = .mkForest d k) ∨ (∃ f, op = .rmForest f) ∨ ∃ d, op = .rmDomain d := by
  cases op
  case init => exact .inr (.inl rfl)
  case cleanup => exact .inr (.inr (.inl rfl))
  case mkForest d k => exact .inr (.inr (.inr (.inl ⟨d, k, rfl⟩)))
  case rmForest f => exact .inr (.inr (.inr (.inr (.inl ⟨f, rfl⟩))))
  case rmDomain d => exact .inr (.inr (.inr (.inr (.inr ⟨d, rfl⟩))))
  all_goals refine .inl ⟨rfl, ?_⟩; simp only [step]
  case mkDomain d =>
    split
    · exact .refl _ s
    · split
      · exact .refl _ s
      · rename_i hr _
        exact { Local.refl _ s with
          domains := .inr ⟨by simpa using hr, fun _ => List.mem_cons_of_mem d⟩ }
  case mkEdge e a =>
    cases hasEdge s e
    · cases a with
      | none => exact .consEdge (fun _ h => nomatch h)
      | some g =>
        simp only [Bool.false_eq_true, if_false]
        cases hl : liveF s g
        · exact .refl _ s
        · exact .consEdge (fun f h => Option.some.inj h ▸ liveF_iff.mp hl)
    · exact .refl _ s
  case copyEdge e e' =>
    cases att s e with
    | none => exact .refl _ s
    | some a =>
      cases hasEdge s e'
      · exact .consEdge (fun f h => (liveAtt_some.mp h).2)
      · exact .refl _ s
  case assignEdge dst src =>
    split
    · exact .setAtt (fun f h => (liveAtt_some.mp h).2)
    · exact .refl _ s
  case rmEdge e =>
    cases hasEdge s e
    · exact .refl _ s
    · exact .rmEdge
  case attach e f =>
    cases hasEdge s e
    · exact .refl _ s
    · cases hl : liveF s f
      · exact .refl _ s
      · exact .setAtt (fun g h => Option.some.inj h ▸ liveF_iff.mp hl)
  case detach e =>
    cases hasEdge s e
    · exact .refl _ s
    · exact .setAtt (fun _ h => nomatch h)
  case fill e =>
    split
    · split <;> exact .refl _ s
    · exact .refl _ s
  case evaluate e =>
    split
    · exact .refl _ s
    · split <;> exact .refl _ s
  case mkIter i e =>
    split
    · rename_i f _
      cases hl : liveF s f
      · exact .refl _ s
      · cases s.iters.any (fun p => p.1 == i)
        · exact { Local.refl _ s with
            iter_live := fun p hp => (List.mem_cons.mp hp).elim
              (fun h => .inr (h ▸ fun g hg => Option.some.inj hg ▸ liveF_iff.mp hl)) .inl }
        · exact .refl _ s
    · exact .refl _ s
  case advIter i =>
    split
    · split <;> exact .refl _ s
    · exact .refl _ s
  case rmIter i =>
    cases s.iters.any (fun p => p.1 == i)
    · exact .refl _ s
    · exact { Local.refl _ s with iter_live := fun _ hp => .inl (List.mem_filter.mp hp).1 }
  case buildOp o k fs => exact .buildCore
  case apply o k es =>
    cases atts s es with
    | none => exact .refl _ s
    | some as =>
      simp only
      cases arityOk k es.length
      · exact .refl _ s
      · cases as.any (fun a => (liveAtt s a).isNone)
        · exact .buildCore
        · exact .refl _ s
  case ctAdd fs =>
    split
    · rename_i hc
      simp only [Bool.and_eq_true, Bool.not_eq_true', List.isEmpty_eq_false_iff, List.all_eq_true] at hc
      exact { Local.refl _ s with
        ct_live := fun c hc' => (List.mem_cons.mp hc').elim
          (fun h => .inr (h ▸ ⟨hc.1.1.2, fun f hf => liveF_iff.mp (hc.1.2 f hf)⟩)) .inl }
    · exact .refl _ s
  case ctEvict fs =>
    split
    · exact { Local.refl _ s with ct_live := fun _ hc => .inl (List.mem_of_mem_erase hc) }
    · exact .refl _ s
  case ctClear f =>
    cases liveF s f
    · exact .refl _ s
    · exact { Local.refl _ s with ct_live := fun _ hc => .inl (List.mem_filter.mp hc).1 }

theorem destroy_nil (s : State) : destroy [] s = s := by
  have hd : ∀ l : List (Nat × Option Fid), l.map (fun p => (p.1, detachDead [] p.2)) = l := fun l =>
    (List.map_congr_left fun p _ => by rw [detachDead_nil]).trans (List.map_id' l)
  have hh : ∀ fs : List Fid, (!hits [] fs) = true := fun fs => by
    rw [hits_false.mpr fun _ _ => List.not_mem_nil]; rfl
  unfold destroy
  rw [hd, hd, List.filter_eq_self.mpr fun _ _ => hh _, List.filter_eq_self.mpr fun _ _ => hh _,
    List.filter_eq_self (p := fun F : Forest => !decide (F.fid ∈ ([] : List Fid))) |>.mpr fun _ _ => rfl]

/-- destroying a forest or a domain is `destroy` of what the step destroys, up to the domain list
    (a failing step destroys nothing) -/
theorem step_rm {op : Op} (hop : (∃ f, op = .rmForest f) ∨ (∃ d, op = .rmDomain d)) :
    (step s op).1 = { destroy (destroyedBy s op) s with domains := (step s op).1.domains } := by
  have hnil : s = { destroy [] s with domains := s.domains } := by rw [destroy_nil]
  rcases hop with ⟨f, rfl⟩ | ⟨d, rfl⟩
  · simp only [step, destroyedBy]
    cases s.running
    · exact hnil
    · cases liveF s f
      · exact hnil
      · rfl
  · simp only [step, destroyedBy]
    cases s.running
    · exact hnil
    · by_cases hd : d ∈ s.domains
      · simp only [hd, decide_true, Bool.and_self, if_true, not_true_eq_false, if_false,
          Bool.not_true, Bool.false_eq_true]
      · simp only [hd, decide_false, Bool.and_false, Bool.false_eq_true, if_false,
          not_false_eq_true, if_true, Bool.not_true]
        exact hnil

theorem detachDead_eq_none (h : ∀ f, a = some f → f ∈ dead) :
    detachDead dead a = none := by
  cases a with
  | none => rfl
  | some f => exact if_pos (h f rfl)

theorem wf_reset (r : Bool) {es : List (EdgeId × Option Fid)} {is : List (IterId × Option Fid)}
    (he : ∀ p ∈ es, p.2 = none) (hi : ∀ p ∈ is, p.2 = none) : WF ⟨r, [], [], 1, es, is, [], []⟩ :=
  ⟨Nat.le_refl 1, nofun, List.nodup_nil, nofun, fun p hp _ hf => (nomatch (he p hp).symm.trans hf),
    fun p hp _ hf => (nomatch (hi p hp).symm.trans hf), nofun, nofun, fun _ => ⟨rfl, rfl, rfl, rfl, rfl⟩⟩

theorem wf_step (h : WF s) (op : Op) : WF (step s op).1 := by
  rcases step_local s op with l | rfl | rfl | ⟨d, k, rfl⟩ | ⟨f, rfl⟩ | ⟨d, rfl⟩
  · exact l.2.wf h
  · simp only [step]
    cases hr : s.running
    · exact wf_reset true (fun p hp => stopped_none h hr (h.edge_live p hp))
        (fun p hp => stopped_none h hr (h.iter_live p hp))
    · exact h
  · simp only [step]
    cases s.running
    · exact h
    · refine wf_reset false (fun p hp => ?_) (fun p hp => ?_)
      · obtain ⟨q, hq, rfl⟩ := List.mem_map.mp hp
        exact detachDead_eq_none (h.edge_live q hq)
      · obtain ⟨q, hq, rfl⟩ := List.mem_map.mp hp
        exact detachDead_eq_none (h.iter_live q hq)
  · simp only [step]
    split
    · exact h
    · rename_i hc
      simp only [Bool.or_eq_true, Bool.not_eq_true', decide_eq_true_eq, not_or, Bool.not_eq_false,
        Decidable.not_not] at hc
      constructor
      · exact Nat.le_add_left 1 _
      · intro f hf
        rcases List.mem_cons.mp hf with rfl | hf
        · exact Nat.lt_succ_self _
        · exact Nat.lt_succ_of_lt (h.fid_lt f hf)
      · exact List.nodup_cons.mpr ⟨fun hm => Nat.lt_irrefl _ (h.fid_lt _ hm), h.fid_nodup⟩
      · intro F hF
        rcases List.mem_cons.mp hF with rfl | hF
        · exact hc.2
        · exact h.dom_live F hF
      · intro p hp f hpf; exact List.mem_cons_of_mem _ (h.edge_live p hp f hpf)
      · intro p hp f hpf; exact List.mem_cons_of_mem _ (h.iter_live p hp f hpf)
      · intro o ho f hf; exact List.mem_cons_of_mem _ (h.op_live o ho f hf)
      · intro c hc' f hf; exact List.mem_cons_of_mem _ (h.ct_live c hc' f hf)
      · exact fun h' => nomatch hc.1.symm.trans h'
  · simp only [step]
    cases hr : s.running
    · exact h
    · cases liveF s f
      · exact h
      · exact wf_destroy h [f] hr
  · simp only [step]
    split
    · exact h
    · split
      · exact h
      · rename_i hr _
        have hr : s.running = true := by simpa using hr
        have hw := wf_destroy h (fidsOfDom s d) hr
        exact { hw with
          dom_live := by
            intro F hF
            obtain ⟨hFs, hnd⟩ :=
              List.mem_filter.mp (show F ∈ (destroy (fidsOfDom s d) s).forests from hF)
            have hnd : F.fid ∉ fidsOfDom s d := by simpa using hnd
            have hne : F.dom ≠ d := fun e =>
              hnd (List.mem_map.mpr ⟨F, List.mem_filter.mpr ⟨hFs, by simp [e]⟩, rfl⟩)
            exact List.mem_filter.mpr ⟨h.dom_live F hFs, by simpa using hne⟩
          stopped := fun h' => nomatch hr.symm.trans h' }

theorem wf_run (h : WF s) (ops : List Op) : WF (run s ops) := by
  induction ops generalizing s with
  | nil => exact h
  | cons o os ih => exact ih (wf_step h o)

theorem wf_reachable (ops : List Op) : WF (run State.initial ops) := wf_run wf_initial ops

theorem forest_unique {l : List Forest} (hn : (l.map (·.fid)).Nodup) {F G : Forest}
    (hF : F ∈ l) (hG : G ∈ l) (h : F.fid = G.fid) : F = G := by
  have hp : l.Pairwise (fun a b => a.fid ≠ b.fid) := List.pairwise_map.mp hn
  exact List.Pairwise.forall_of_forall_of_flip (R := fun a b => a.fid = b.fid → a = b) (fun _ _ _ => rfl)
    (hp.imp fun hne e => absurd e hne) (hp.imp fun hne e => absurd e.symm hne) hF hG h

theorem nextFid_mono (h : WF s) {op : Op} (hop : op ≠ .cleanup) :
    s.nextFid ≤ (step s op).1.nextFid := by
  rcases step_local s op with l | rfl | rfl | ⟨d, k, rfl⟩ | hrm
  · exact Nat.le_of_eq l.2.nextFid.symm
  · simp only [step]
    cases hr : s.running
    · exact Nat.le_of_eq (h.stopped hr).2.2.2.2
    · exact Nat.le_refl _
  · exact absurd rfl hop
  · simp only [step]
    split
    · exact Nat.le_refl _
    · exact Nat.le_succ _
  · rw [step_rm hrm]; exact Nat.le_refl _

theorem nextFid_mono_run (h : WF s) (ops : List Op) (hops : ∀ o ∈ ops, o ≠ .cleanup) :
    s.nextFid ≤ (run s ops).nextFid := by
  induction ops generalizing s with
  | nil => exact Nat.le_refl _
  | cons o os ih =>
    exact Nat.le_trans (nextFid_mono h (hops o List.mem_cons_self))
      (ih (wf_step h o) (fun o' ho' => hops o' (List.mem_cons_of_mem _ ho')))

theorem mkForest_out {d : DomId} {k : Kind}
    (h : (step s (.mkForest d k)).2 = .fid f) :
    f = s.nextFid ∧ (step s (.mkForest d k)).1.nextFid = f + 1 ∧
      (step s (.mkForest d k)).1.forests = ⟨f, d, k⟩ :: s.forests := by
  simp only [step] at h ⊢
  split at h
  · cases h
  · rename_i hc
    simp only [hc]
    cases h
    exact ⟨rfl, rfl, rfl⟩

theorem fids_step (op : Op) (hf : f ∈ fids (step s op).1) :
    f ∈ fids s ∨ (f = s.nextFid ∧ ∃ d k, op = .mkForest d k) := by
  rcases step_local s op with l | rfl | rfl | ⟨d, k, rfl⟩ | hrm
  · exact .inl (l.2.fids_eq ▸ hf)
  · simp only [step] at hf
    split at hf
    · exact .inl hf
    · cases hf
  · simp only [step] at hf
    split at hf
    · exact .inl hf
    · cases hf
  · simp only [step] at hf
    split at hf
    · exact .inl hf
    · rcases List.mem_cons.mp hf with rfl | hf
      · exact .inr ⟨rfl, d, k, rfl⟩
      · exact .inl hf
  · rw [step_rm hrm] at hf
    exact .inl (mem_fids_destroy.mp hf).1

theorem destroy_keeps (dead : List Fid) (s : State) :
    (∀ F ∈ s.forests, F.fid ∉ dead → F ∈ (destroy dead s).forests) ∧
    (∀ e f, att s e = some (some f) → f ∉ dead → att (destroy dead s) e = some (some f)) ∧
    (∀ e, att s e = some none → att (destroy dead s) e = some none) ∧
    (∀ o ∈ s.ops, hits dead o.fids = false → o ∈ (destroy dead s).ops) ∧
    (∀ c, hits dead c = false → (destroy dead s).ct.count c = s.ct.count c) := by
  refine ⟨fun F hF hd => List.mem_filter.mpr ⟨hF, by simpa using hd⟩, fun e f h hd => ?_, fun e h => ?_,
    fun o ho hh => List.mem_filter.mpr ⟨ho, by simp [hh]⟩, fun c hh => List.count_filter (by simp [hh])⟩
  · rw [att_destroy, h]; simp [detachDead, hd]
  · rw [att_destroy, h]; rfl

theorem atts_mem {es : List EdgeId} {as : List (Option Fid)} (h : atts s es = some as)
    (he : e ∈ es) : ∃ a ∈ as, att s e = some a := by
  induction es generalizing as with
  | nil => cases he
  | cons x xs ih =>
    simp only [atts] at h
    split at h
    · rename_i a as' ha has
      cases h
      rcases List.mem_cons.mp he with rfl | he
      · exact ⟨a, by simp, ha⟩
      · obtain ⟨b, hb, hb'⟩ := ih has he
        exact ⟨b, List.mem_cons_of_mem _ hb, hb'⟩
    · cases h

theorem any_none {as : List (Option Fid)} (h : none ∈ as) : (as.any fun a => (liveAtt s a).isNone) = true :=
  List.any_eq_true.mpr ⟨none, h, rfl⟩

end

/-- **fid_fresh.**  Two forests created in the same initialisation (no `cleanup` between the two
    `forest::create` calls, anything else allowed, in particular destroying the first forest)
    get strictly increasing FIDs: `all_forests` only grows, so a FID is never handed out twice. -/
theorem fid_fresh (pre mid : List Op) (d₁ d₂ : DomId) (k₁ k₂ : Kind) (f g : Fid)
    (hmid : ∀ o ∈ mid, o ≠ .cleanup)
    (h1 : (step (run State.initial pre) (.mkForest d₁ k₁)).2 = .fid f)
    (h2 : (step (run (step (run State.initial pre) (.mkForest d₁ k₁)).1 mid) (.mkForest d₂ k₂)).2
            = .fid g) :
    f < g := by
  have hm := nextFid_mono_run (wf_step (wf_reachable pre) (.mkForest d₁ k₁)) mid hmid
  rw [(mkForest_out h1).2.1] at hm
  rw [(mkForest_out h2).1]
  exact hm

example : (step (run State.initial [.init, .mkDomain 1]) (.mkForest 1 ⟨false, true⟩)).2 = .fid 1 ∧
    (step (run (step (run State.initial [.init, .mkDomain 1]) (.mkForest 1 ⟨false, true⟩)).1
        [.rmForest 1]) (.mkForest 1 ⟨true, true⟩)).2 = .fid 2 := by decide +kernel

/-- **fid_fresh (state form).**  In a reachable state the FID given to a new forest is larger than
    the FID of every live forest and is mentioned by no edge, iterator, operation or cache entry. -/
theorem fid_fresh_unmentioned (pre : List Op) (d : DomId) (k : Kind) (f : Fid)
    (h : (step (run State.initial pre) (.mkForest d k)).2 = .fid f) :
    let s := run State.initial pre
    (∀ g ∈ fids s, g < f) ∧ (∀ p ∈ s.edges, p.2 ≠ some f) ∧ (∀ p ∈ s.iters, p.2 ≠ some f) ∧
      (∀ o ∈ s.ops, f ∉ o.fids) ∧ (∀ c ∈ s.ct, f ∉ c) := by
  intro s
  have hw : WF s := wf_reachable pre
  obtain ⟨hf, _, _⟩ := mkForest_out h
  have hnot : f ∉ fids s := fun hm => Nat.lt_irrefl _ (hf ▸ hw.fid_lt f hm)
  exact ⟨fun g hg => hf ▸ hw.fid_lt g hg, fun p hp hpf => hnot (hw.edge_live p hp f hpf),
    fun p hp hpf => hnot (hw.iter_live p hp f hpf), fun o ho hfo => hnot (hw.op_live o ho f hfo),
    fun c hc hfc => hnot (hw.ct_live c hc f hfc)⟩

example : (step (run State.initial [.init, .mkDomain 1, .mkForest 1 ⟨false, true⟩, .mkEdge 1 (some 1),
    .buildOp 1 .copy [1, 1], .ctAdd [1]]) (.mkForest 1 ⟨true, false⟩)).2 = .fid 2 := by decide +kernel

/-- **fid_never_reused.**  Once a FID has been issued in this initialisation (`f < nextFid`) and its
    forest is gone, no later step of the same initialisation makes that FID live again. -/
theorem fid_never_reused (pre post : List Op) (f : Fid)
    (hissued : f < (run State.initial pre).nextFid) (hdead : f ∉ fids (run State.initial pre))
    (hpost : ∀ o ∈ post, o ≠ .cleanup) :
    f ∉ fids (run (run State.initial pre) post) := by
  have hw := wf_reachable pre
  generalize run State.initial pre = s at *
  induction post generalizing s with
  | nil => exact hdead
  | cons o os ih =>
    have hmono := nextFid_mono hw (hpost o (by simp))
    apply ih (fun o' ho' => hpost o' (by simp [ho'])) (step s o).1
        (Nat.lt_of_lt_of_le hissued hmono) _ (wf_step hw o)
    intro hm
    rcases fids_step o hm with h' | ⟨h', _⟩
    · exact hdead h'
    · exact Nat.lt_irrefl _ (h' ▸ hissued)

example : (1 : Fid) < (run State.initial [.init, .mkDomain 1, .mkForest 1 ⟨false, true⟩, .rmForest 1]).nextFid
    ∧ 1 ∉ fids (run State.initial [.init, .mkDomain 1, .mkForest 1 ⟨false, true⟩, .rmForest 1]) := by
  decide +kernel

/-- **fid_restart.**  `cleanup` empties `all_forests`, so after `cleanup; initialize` numbering
    restarts at 1 (and by `reinit_clean` below no edge still carries an old FID). -/
theorem fid_restart (s : State) (hr : s.running = true) (d : DomId) (k : Kind) :
    (step (run s [.cleanup, .init, .mkDomain d]) (.mkForest d k)).2 = .fid 1 := by
  simp [run, step, hr]

example : (step (run (run State.initial [.init, .mkDomain 1, .mkForest 1 ⟨false, true⟩, .mkForest 1 ⟨false, true⟩])
    [.cleanup, .init, .mkDomain 5]) (.mkForest 5 ⟨false, true⟩)).2 = .fid 1 := by decide +kernel

/-- **destroy_detaches (forest).**  `forest::destroy(f)`: exactly the edges attached to `f` become
    detached (`getForest() == nullptr`); every other edge keeps its attachment. -/
theorem destroy_detaches_forest (s : State) (f : Fid) (hr : s.running = true) (hl : liveF s f = true) :
    (step s (.rmForest f)).2 = .ok ∧
    (step s (.rmForest f)).1.edges
      = s.edges.map (fun p => (p.1, if p.2 = some f then none else p.2)) := by
  simp only [step, hr, hl, destroy]
  refine ⟨by simp, ?_⟩
  simp only [Bool.not_true, Bool.false_eq_true, if_false]
  apply List.map_congr_left
  intro p _
  cases h : p.2 with
  | none => simp [detachDead]
  | some g =>
    by_cases hg : g = f <;> simp [detachDead, hg]

example : (step (run State.initial [.init, .mkDomain 1, .mkForest 1 ⟨false, true⟩, .mkForest 1 ⟨false, true⟩,
      .mkEdge 1 (some 1), .mkEdge 2 (some 2), .mkEdge 3 none]) (.rmForest 1)).1.edges
    = [(3, none), (2, some 2), (1, none)] := by decide +kernel

/-- **destroy_detaches (domain).**  `domain::destroy(d)`: exactly the edges attached to a forest of
    `d` become detached; every other edge keeps its attachment. -/
theorem destroy_detaches_domain (s : State) (d : DomId) (hr : s.running = true) (hd : d ∈ s.domains) :
    (step s (.rmDomain d)).2 = .ok ∧
    (step s (.rmDomain d)).1.edges = s.edges.map (fun p => (p.1, detachDead (fidsOfDom s d) p.2)) := by
  simp [step, hr, hd, destroy]

example : (step (run State.initial [.init, .mkDomain 1, .mkDomain 2, .mkForest 1 ⟨false, true⟩,
      .mkForest 2 ⟨false, true⟩, .mkEdge 1 (some 1), .mkEdge 2 (some 2)]) (.rmDomain 1)).1.edges
    = [(2, some 2), (1, none)] := by decide +kernel

/-- **destroy_purges.**  After `forest::destroy(f)` (resp. `domain::destroy(d)`) no live forest,
    edge, iterator, built operation or live compute-table entry mentions `f` (resp. any forest of
    `d`). -/
theorem destroy_purges (s : State) (op : Op) (hop : (∃ f, op = .rmForest f) ∨ (∃ d, op = .rmDomain d))
    (hok : (step s op).2 = .ok) :
    let s' := (step s op).1
    let dead := destroyedBy s op
    (∀ f ∈ dead, f ∉ fids s') ∧ (∀ p ∈ s'.edges, ∀ f ∈ dead, p.2 ≠ some f) ∧
    (∀ p ∈ s'.iters, ∀ f ∈ dead, p.2 ≠ some f) ∧
    (∀ o ∈ s'.ops, ∀ f ∈ dead, f ∉ o.fids) ∧ (∀ c ∈ s'.ct, ∀ f ∈ dead, f ∉ c) := by
  -- `hok` is not needed: a failing step destroys nothing
  have _ := hok
  rw [step_rm hop]
  exact ⟨fun f hf hm => (mem_fids_destroy.mp hm).2 hf,
    fun p hp f hf hpf => (mem_detach hp hpf).1 hf, fun p hp f hf hpf => (mem_detach hp hpf).1 hf,
    fun o ho f hf hfo => (mem_unhit ho).2 f hfo hf, fun c hc f hf hfc => (mem_unhit (g := id) hc).2 f hfc hf⟩

example : (run State.initial [.init, .mkDomain 1, .mkForest 1 ⟨false, true⟩, .mkForest 1 ⟨false, true⟩,
      .buildOp 1 .copy [1, 2], .buildOp 2 .copy [2, 2], .ctAdd [1, 2], .ctAdd [2], .rmForest 1]).ops
      = [⟨2, .copy, [2, 2]⟩] ∧
    (run State.initial [.init, .mkDomain 1, .mkForest 1 ⟨false, true⟩, .mkForest 1 ⟨false, true⟩,
      .buildOp 1 .copy [1, 2], .buildOp 2 .copy [2, 2], .ctAdd [1, 2], .ctAdd [2], .rmForest 1]).ct
      = [[2]] := by decide +kernel

/-- **no_dangling.**  In every reachable state attached edges, built operations and live cache entries
    name live forests only; every live forest belongs to a registered domain and has a FID below the
    counter; and when the library is not running no domain, forest, operation or cache entry is
    registered and every edge is without forest.  (Iterators are not in the statement; for them see
    `WF.iter_live` with `wf_reachable`.) -/
theorem no_dangling (ops : List Op) :
    let s := run State.initial ops
    (∀ p ∈ s.edges, ∀ f, p.2 = some f → liveF s f = true) ∧
    (∀ o ∈ s.ops, ∀ f ∈ o.fids, liveF s f = true) ∧
    (∀ c ∈ s.ct, ∀ f ∈ c, liveF s f = true) ∧
    (∀ F ∈ s.forests, F.dom ∈ s.domains ∧ F.fid < s.nextFid) ∧
    (s.running = false → s.domains = [] ∧ s.forests = [] ∧ s.ops = [] ∧ s.ct = [] ∧
        ∀ p ∈ s.edges, p.2 = none) := by
  intro s
  have hw : WF s := wf_reachable ops
  refine ⟨fun p hp f h => liveF_iff.mpr (hw.edge_live p hp f h),
    fun o ho f h => liveF_iff.mpr (hw.op_live o ho f h),
    fun c hc f h => liveF_iff.mpr (hw.ct_live c hc f h),
    fun F hF => ⟨hw.dom_live F hF, hw.fid_lt _ (List.mem_map.mpr ⟨F, hF, rfl⟩)⟩, ?_⟩
  intro hr
  obtain ⟨h1, h2, h3, h4, _⟩ := hw.stopped hr
  exact ⟨h1, h2, h3, h4, fun p hp => stopped_none hw hr (hw.edge_live p hp)⟩

example : (run State.initial [.init, .mkDomain 1, .mkForest 1 ⟨false, true⟩, .mkForest 1 ⟨false, true⟩,
    .mkEdge 1 (some 1), .mkEdge 2 (some 2), .buildOp 1 .copy [1, 2], .ctAdd [1, 2], .rmForest 1]) =
  ⟨true, [1], [⟨2, 1, ⟨false, true⟩⟩], 3, [(2, some 2), (1, none)], [], [], []⟩ := by decide +kernel

/-- **others_untouched (forest).**  `forest::destroy(f)` changes nothing but `f` and what mentions `f`:
    the library keeps running, domains and the FID counter are unchanged, every other forest
    survives, edges of other forests keep their attachment, operations and cache entries that do not
    mention `f` survive (cache entries with their multiplicity). -/
theorem others_untouched_forest (s : State) (f : Fid) (hr : s.running = true) (hl : liveF s f = true) :
    let s' := (step s (.rmForest f)).1
    s'.running = true ∧ s'.domains = s.domains ∧ s'.nextFid = s.nextFid ∧
    (∀ F ∈ s.forests, F.fid ≠ f → F ∈ s'.forests) ∧
    (∀ e g, att s e = some (some g) → g ≠ f → att s' e = some (some g)) ∧
    (∀ e, att s e = some none → att s' e = some none) ∧
    (∀ o ∈ s.ops, f ∉ o.fids → o ∈ s'.ops) ∧
    (∀ c, f ∉ c → s'.ct.count c = s.ct.count c) := by
  intro s'
  have hs' : s' = destroy [f] s := by simp [s', step, hr, hl]
  have hh : ∀ c : List Fid, f ∉ c → hits [f] c = false := fun c hn =>
    hits_false.mpr fun g hg hm => hn (List.mem_singleton.mp hm ▸ hg)
  obtain ⟨h4, h5, h6, h8, h9⟩ := destroy_keeps [f] s
  rw [hs']
  exact ⟨hr, rfl, rfl, fun F hF hne => h4 F hF (mt List.mem_singleton.mp hne),
    fun e g hg hne => h5 e g hg (mt List.mem_singleton.mp hne), h6,
    fun o ho hn => h8 o ho (hh _ hn), fun c hn => h9 c (hh c hn)⟩

example :
    let s := run State.initial [.init, .mkDomain 1, .mkForest 1 ⟨false, true⟩, .mkForest 1 ⟨false, true⟩,
      .mkForest 1 ⟨false, true⟩, .mkEdge 1 (some 1), .mkEdge 2 (some 2), .buildOp 1 .union [1, 2, 3],
      .buildOp 2 .copy [2, 3], .ctAdd [1, 2, 3], .ctAdd [2, 3], .ctAdd [2, 3]]
    let s' := (step s (.rmForest 1)).1
    s'.forests = [⟨3, 1, ⟨false, true⟩⟩, ⟨2, 1, ⟨false, true⟩⟩] ∧ att s' 2 = some (some 2) ∧
      s'.ops = [⟨2, .copy, [2, 3]⟩] ∧ s'.ct.count [2, 3] = 2 ∧ s'.ct.count [1, 2, 3] = 0 := by
  decide +kernel

/-- **others_untouched (domain).**  `domain::destroy(d)` in a reachable state never affects the
    forests of other domains: they survive, their edges keep their attachment, and operations and
    cache entries over them survive; the other domains stay registered. -/
theorem others_untouched_domain (pre : List Op) (d : DomId)
    (hr : (run State.initial pre).running = true) (hd : d ∈ (run State.initial pre).domains) :
    let s := run State.initial pre
    let s' := (step s (.rmDomain d)).1
    s'.running = true ∧ s'.nextFid = s.nextFid ∧
    (∀ d' ∈ s.domains, d' ≠ d → d' ∈ s'.domains) ∧
    (∀ F ∈ s.forests, F.dom ≠ d → F ∈ s'.forests) ∧
    (∀ e g G, att s e = some (some g) → findF s g = some G → G.dom ≠ d → att s' e = some (some g)) ∧
    (∀ e, att s e = some none → att s' e = some none) ∧
    (∀ o ∈ s.ops, (∀ g ∈ o.fids, ∀ G, findF s g = some G → G.dom ≠ d) → o ∈ s'.ops) ∧
    (∀ c, (∀ g ∈ c, ∀ G, findF s g = some G → G.dom ≠ d) → s'.ct.count c = s.ct.count c) := by
  intro s s'
  have hw : WF s := wf_reachable pre
  have hr' : s.running = true := hr
  have hd' : d ∈ s.domains := hd
  have hs' : s' = { destroy (fidsOfDom s d) s with domains := s.domains.filter (· != d) } := by
    simp [s', step, hr', hd']
  have hother : ∀ G ∈ s.forests, G.dom ≠ d → G.fid ∉ fidsOfDom s d := by
    intro G hG hne hm
    simp only [fidsOfDom, List.mem_map, List.mem_filter] at hm
    obtain ⟨H, ⟨hH, hHd⟩, hfid⟩ := hm
    have : H = G := forest_unique hw.fid_nodup hH hG hfid
    subst this
    exact hne (by simpa using hHd)
  -- a forest of `d` named by `c` is live, so `findF` finds it, with its domain
  have hhits : ∀ c : List Fid, (∀ g ∈ c, ∀ G, findF s g = some G → G.dom ≠ d) →
      hits (fidsOfDom s d) c = false := by
    intro c hc
    apply hits_false.mpr
    intro g hg hm
    cases hfd : findF s g with
    | some G =>
      obtain ⟨hGm, hGf⟩ := findF_some_mem hfd
      exact hother G hGm (hc g hg G hfd) (hGf.symm ▸ hm)
    | none =>
      obtain ⟨H, hH, rfl⟩ := List.mem_map.mp hm
      have := List.find?_eq_none.mp hfd H (List.mem_filter.mp hH).1
      simp at this
  obtain ⟨h4, h5, h6, h8, h9⟩ := destroy_keeps (fidsOfDom s d) s
  rw [hs']
  refine ⟨hr, rfl, fun d' hd' hne => List.mem_filter.mpr ⟨hd', by simpa using hne⟩,
    fun F hF hne => h4 F hF (hother F hF hne), fun e g G hg hG hne => ?_, h6,
    fun o ho hc => h8 o ho (hhits o.fids hc), fun c hc => h9 c (hhits c hc)⟩
  obtain ⟨hGm, hGf⟩ := findF_some_mem hG
  exact h5 e g hg (hGf ▸ hother G hGm hne)

example :
    let s := run State.initial [.init, .mkDomain 1, .mkDomain 2, .mkForest 1 ⟨false, true⟩,
      .mkForest 2 ⟨false, true⟩, .mkForest 2 ⟨false, true⟩, .mkEdge 1 (some 1), .mkEdge 2 (some 2),
      .buildOp 1 .copy [2, 3], .buildOp 2 .copy [1, 1], .ctAdd [2, 3], .ctAdd [1]]
    let s' := (step s (.rmDomain 1)).1
    s'.forests = [⟨3, 2, ⟨false, true⟩⟩, ⟨2, 2, ⟨false, true⟩⟩] ∧ att s' 2 = some (some 2) ∧
      att s' 1 = some none ∧ s'.ops = [⟨1, .copy, [2, 3]⟩] ∧ s'.ct = [[2, 3]] ∧ s'.domains = [2] := by
  decide +kernel

/-- A step changes the attachment of an edge it does not write only by detaching it when
    its forest is destroyed by that step; in particular steps that destroy nothing leave all other
    edges exactly as they were. -/
theorem att_frame (s : State) (op : Op) (e : EdgeId) (he : e ∉ writes op) :
    att (step s op).1 e = (att s e).map (detachDead (destroyedBy s op)) := by
  have hid : att s e = (att s e).map (detachDead []) := by
    cases att s e <;> simp [detachDead_nil]
  rcases step_local s op with l | rfl | rfl | ⟨d, k, rfl⟩ | hrm
  · rw [l.2.att_eq e he, l.1]; exact hid
  · simp only [step, destroyedBy]
    cases s.running <;> exact hid
  · simp only [step, destroyedBy]
    cases s.running
    · exact hid
    · exact att_destroy
  · simp only [step, destroyedBy]
    split <;> exact hid
  · rw [step_rm hrm]; exact att_destroy

example : att (step (run State.initial [.init, .mkDomain 1, .mkForest 1 ⟨false, true⟩, .mkForest 1 ⟨false, true⟩,
      .mkEdge 1 (some 1), .mkEdge 2 (some 2)]) (.rmForest 1)).1 2 = some (some 2) ∧
    att (step (run State.initial [.init, .mkDomain 1, .mkForest 1 ⟨false, true⟩, .mkForest 1 ⟨false, true⟩,
      .mkEdge 1 (some 1), .mkEdge 2 (some 2)]) (.apply 1 .copy [1, 2])).1 1 = some (some 1) := by decide +kernel

/-- **detached_use_errors.**  `apply(UNION|COPY, …)` with an operand or result edge that has no forest
    (never attached, detached, or orphaned by the destruction of its forest or domain or by cleanup)
    never succeeds and changes nothing: the factory finds a null forest and throws NOT_IMPLEMENTED
    before any operation is looked up, built or run.  (The other outcome in the statement,
    `illegal`, is a call with an unknown edge id or the wrong number of edges.) -/
theorem detached_use_errors (s : State) (o : OpId) (k : OpKind) (es : List EdgeId) (e : EdgeId)
    (he : e ∈ es) (hdet : att s e = some none) :
    (step s (.apply o k es)).1 = s ∧
    ((step s (.apply o k es)).2 = .err .NOT_IMPLEMENTED ∨ (step s (.apply o k es)).2 = .illegal) := by
  simp only [step]
  split
  · exact ⟨rfl, Or.inr rfl⟩
  · rename_i as has
    split
    · exact ⟨rfl, Or.inr rfl⟩
    · obtain ⟨a, ha, ha'⟩ := atts_mem has he
      rw [hdet] at ha'
      cases ha'
      rw [any_none ha]
      exact ⟨rfl, Or.inl rfl⟩

/-- with well-formed arguments the outcome is exactly NOT_IMPLEMENTED -/
theorem detached_use_errors_exact (s : State) (o : OpId) (k : OpKind) (es : List EdgeId)
    (as : List (Option Fid)) (has : atts s es = some as) (har : arityOk k es.length = true)
    (hdet : none ∈ as) :
    step s (.apply o k es) = (s, .err .NOT_IMPLEMENTED) := by
  simp [step, has, har, any_none hdet]

example : step (run State.initial [.init, .mkDomain 1, .mkForest 1 ⟨false, true⟩, .mkEdge 1 (some 1),
      .mkEdge 2 (some 1), .mkEdge 3 (some 1), .buildOp 1 .union [1, 1, 1], .detach 2])
      (.apply 2 .union [1, 2, 3]) =
    (run State.initial [.init, .mkDomain 1, .mkForest 1 ⟨false, true⟩, .mkEdge 1 (some 1),
      .mkEdge 2 (some 1), .mkEdge 3 (some 1), .buildOp 1 .union [1, 1, 1], .detach 2],
      .err .NOT_IMPLEMENTED) := by decide +kernel

/-- an orphaned edge (its forest was destroyed) behaves the same: `destroy` left it without forest -/
example : (step (run State.initial [.init, .mkDomain 1, .mkForest 1 ⟨false, true⟩, .mkForest 1 ⟨false, true⟩,
      .mkEdge 1 (some 1), .mkEdge 2 (some 2), .rmForest 2]) (.apply 1 .copy [2, 1])).2
      = .err .NOT_IMPLEMENTED := by decide +kernel

/-- `dd_edge::evaluate` on an edge without forest throws FOREST_MISMATCH -/
theorem detached_evaluate_errors (s : State) (e : EdgeId) (hdet : att s e = some none) :
    step s (.evaluate e) = (s, .err .FOREST_MISMATCH) := by
  simp [step, hdet, liveAtt]

example : step (run State.initial [.init, .mkDomain 1, .mkForest 1 ⟨false, true⟩, .mkEdge 1 (some 1), .rmDomain 1])
    (.evaluate 1) = (run State.initial [.init, .mkDomain 1, .mkForest 1 ⟨false, true⟩, .mkEdge 1 (some 1), .rmDomain 1],
      .err .FOREST_MISMATCH) := by decide +kernel

/-- **reinit_clean.**  `MEDDLY::cleanup()` from any reachable running state succeeds and leaves exactly
    the state of a process that never initialised the library, except that the client's edge and
    iterator objects still exist — all of them without forest.  No counter survives: `all_forests`,
    the domain list, the operation registry and the entry-type registry are all emptied. -/
theorem reinit_clean (pre : List Op) (hr : (run State.initial pre).running = true) :
    step (run State.initial pre) .cleanup =
      ({ State.initial with
          edges := (run State.initial pre).edges.map (fun p => (p.1, none))
          iters := (run State.initial pre).iters.map (fun p => (p.1, none)) }, .ok) := by
  have hw := wf_reachable pre
  generalize run State.initial pre = s at *
  simp only [step, hr, Bool.not_true, Bool.false_eq_true, if_false, State.initial, destroy]
  congr 2
  · exact List.map_congr_left fun p hp => by rw [detachDead_eq_none (hw.edge_live p hp)]
  · exact List.map_congr_left fun p hp => by rw [detachDead_eq_none (hw.iter_live p hp)]

example : step (run State.initial [.init, .mkDomain 1, .mkForest 1 ⟨false, true⟩, .mkEdge 1 (some 1),
      .mkEdge 2 none, .buildOp 1 .copy [1, 1], .ctAdd [1]]) .cleanup =
    ({ State.initial with edges := [(2, none), (1, none)] }, .ok) := by decide +kernel

/-- In any state `initialize` succeeds iff the library is stopped, `cleanup` succeeds iff it is
    running, the failing call raises ALREADY_INITIALIZED resp. UNINITIALIZED and changes nothing. -/
theorem init_cleanup_outcomes (s : State) :
    (s.running = false → (step s .init).2 = .ok ∧ (step s .init).1.running = true ∧
        step s .cleanup = (s, .err .UNINITIALIZED)) ∧
    (s.running = true → (step s .cleanup).2 = .ok ∧ (step s .cleanup).1.running = false ∧
        step s .init = (s, .err .ALREADY_INITIALIZED)) := by
  constructor <;> intro hr <;> simp [step, hr]

example : (step State.initial .init).2 = .ok ∧ (step (step State.initial .init).1 .init).2 = .err .ALREADY_INITIALIZED ∧
    (step State.initial .cleanup).2 = .err .UNINITIALIZED := by decide +kernel

/-- From a reachable stopped state, `initialize; cleanup` returns to exactly
    the same state, so any number of such cycles does. -/
theorem init_cleanup_roundtrip (pre : List Op) (hr : (run State.initial pre).running = false)
    (n : Nat) :
    run (run State.initial pre) ((List.replicate n [Op.init, Op.cleanup]).flatten)
      = run State.initial pre := by
  have hw := wf_reachable pre
  generalize run State.initial pre = s at *
  induction n with
  | zero => rfl
  | succ n ih =>
    simp only [List.replicate_succ, List.flatten_cons, List.cons_append, List.nil_append, run]
    have hone : (step (step s .init).1 .cleanup).1 = s := by
      obtain ⟨h1, h2, h3, h4, h5⟩ := hw.stopped hr
      -- `init` empties registries that are empty already, and `cleanup` then destroys no forest
      have hi : (step s .init).1 = { s with running := true } := by
        simp only [step, hr, Bool.false_eq_true, if_false]
        rw [← h1, ← h2, ← h3, ← h4, ← h5]
      rw [hi]
      conv => rhs; rw [← destroy_nil s]
      simp only [step, Bool.not_true, Bool.false_eq_true, if_false, destroy, fids, h2, List.map_nil,
        h1, h3, h4, h5, hr, List.filter_nil]
    rw [hone]
    exact ih

example : run State.initial ((List.replicate 3 [Op.init, Op.cleanup]).flatten) = State.initial := by
  decide +kernel

/-- uninitialised use: creating a domain, destroying a domain or destroying a forest while the
    library is not running raises UNINITIALIZED and changes nothing (creating a forest is not in the
    statement: `step` makes it `illegal` when the library is not running, since `forest::create` has
    no running check of its own but needs a domain, and a stopped library has none) -/
theorem uninitialized_errors (s : State) (hr : s.running = false) (d : DomId) (f : Fid) :
    step s (.mkDomain d) = (s, .err .UNINITIALIZED) ∧
    step s (.rmDomain d) = (s, .err .UNINITIALIZED) ∧
    step s (.rmForest f) = (s, .err .UNINITIALIZED) := by
  simp [step, hr]

example : step (run State.initial [.init, .mkDomain 1, .mkForest 1 ⟨false, true⟩, .cleanup]) (.rmForest 1) =
    (run State.initial [.init, .mkDomain 1, .mkForest 1 ⟨false, true⟩, .cleanup], .err .UNINITIALIZED) := by decide +kernel

end Meddly.Lifecycle

/-
  `#print axioms` of the property theorems (Lean 4.33.0):

    wf_reachable               [propext, Classical.choice, Quot.sound]
    fid_fresh                  [propext, Classical.choice, Quot.sound]
    fid_fresh_unmentioned      [propext, Classical.choice, Quot.sound]
    fid_never_reused           [propext, Classical.choice, Quot.sound]
    fid_restart                [propext, Quot.sound]
    destroy_detaches_forest    [propext, Quot.sound]
    destroy_detaches_domain    [propext, Quot.sound]
    destroy_purges             [propext, Quot.sound]
    no_dangling                [propext, Classical.choice, Quot.sound]
    others_untouched_forest    [propext, Quot.sound]
    others_untouched_domain    [propext, Classical.choice, Quot.sound]
    att_frame                  [propext, Classical.choice, Quot.sound]
    detached_use_errors        [propext, Quot.sound]
    detached_use_errors_exact  [propext, Quot.sound]
    detached_evaluate_errors   [propext, Quot.sound]
    reinit_clean               [propext, Classical.choice, Quot.sound]
    init_cleanup_outcomes      [propext, Quot.sound]
    init_cleanup_roundtrip     [propext, Classical.choice, Quot.sound]
    uninitialized_errors       [propext, Quot.sound]
-/
