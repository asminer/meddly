/-
  C18  "Memory managers never hand out overlapping or corrupted chunks".

  Model of MEDDLY's five memory-manager styles
  (src/memory.h, src/memory_managers/{orig_grid,array_grid,heap_manager,malloc_style,freelists}.cc,
  src/memory_managers/hole_base.h).

  * `Alloc`     – the specification automaton every style must satisfy (live chunks,
                  request / recycle legality).  Two address interpretations (`Mode`):
                  `slot`   – a handle is the index of the first slot of the chunk inside one
                             shared slot array (orig grid, array+grid, heap, free-lists:
                             `getChunkAddress(h) = base + sizeof(INT)*h`);
                  `opaque` – a handle is an opaque identifier owning a private address space
                             (malloc style: the handle is the `malloc` pointer itself, chunk
                             multiplier 1, base 0; all we may require is that a live handle
                             is not handed out again).
  * `Tiling`    – refinement model of the three hole-based managers (`hole_manager<INT>`):
                  the arena `1..last` is a sequence of tiles (live chunk / hole).
                  What the code does (read from the sources, NOT what one would expect):
                    - `requestChunk(n)` never changes `n` on success: got = want, always;
                    - a hole of size `s ≥ n` is used from its START; if `s > n` the remainder
                      `s-n` (ANY size ≥ 1, "we even recycle holes of size 1") becomes a hole;
                      there is no minimum hole size, holes too small for the index
                      (< 5 slots orig grid / heap, < 4 array+grid) simply stay untracked
                      until a neighbour is recycled;
                    - otherwise the chunk is taken from the end of the array
                      (`allocateFromArray`: handle = last_used_slot+1);
                    - `recycleChunk` turns the chunk into a hole, merges with the hole on its
                      left, then – if the result is the last tile – gives it back to the
                      array (`recycleHoleInArray`), else merges with the hole on its right.
                      Hence: never two adjacent holes, and the last tile is never a hole.
                  WHICH hole the index structure (grid / lists / heap / current hole) picks
                  is deliberately not modelled: the handle returned by the library is the
                  nondeterministic choice, validated by `Tiling.step`.
  * `FreeList`  – refinement model of the free-list manager (no merging at all, one list per
                  size 1..15, the array only grows).
  * `Mem`       – contents: memory as `Addr → Nat`, manager writes only outside chunks that
                  stay live across the step.

  Results (section `Properties`):
    - what every trace accepted by `Alloc` from the empty state guarantees: `alloc_no_overlap`,
      `alloc_size_ok`, `live_stable`, `reuse_only_after_recycle`;
    - the refinement models keep their invariants and each of their steps is a legal step of
      `Alloc` on the live chunks: `tiling_inv`, `tiling_refines_alloc`, `freelist_refines_alloc`
      (one step), `tiling_run_refines_alloc`, `freelist_run_refines_alloc` (traces);
    - contents: `live_contents_untouched`.
  Not covered: the failure paths (`requestChunk` returning 0 when the array cannot grow or the
  handle exceeds `max_handle()`, the free-list manager throwing on a request above 15 slots: the
  models have no step there); the malloc style has no refinement model, only the `opaque` mode
  of `Alloc`.
-/
namespace Meddly
namespace MemMan

/-! ## Styles -/

inductive Style where
  | origGrid | arrayGrid | heap | malloc | freeLists
  deriving DecidableEq, Repr, Inhabited

inductive Mode where
  | slot | opaque
  deriving DecidableEq, Repr

def Style.mode : Style → Mode
  | .malloc => .opaque
  | _ => .slot

/-- the three managers derived from `hole_manager<INT>` -/
def Style.holeBased : Style → Bool
  | .origGrid | .arrayGrid | .heap => true
  | _ => false

/-- `firstSlotMustClearMSB()` = `lastSlotMustClearMSB()` -/
def Style.mustClearMSB (s : Style) : Bool := s.holeBased

/-- `mustRecycleManually()` -/
def Style.manual : Style → Bool
  | .malloc => true
  | _ => false

/-- largest request the style accepts (`freelist_manager::maxEntrySize`) -/
def Style.maxRequest : Style → Option Nat
  | .freeLists => some 15
  | _ => none

/-- holes smaller than this are not entered into the index structure (never chosen) -/
def Style.minTracked : Style → Nat
  | .origGrid => 5
  | .heap => 5
  | .arrayGrid => 4
  | _ => 0

def Style.name : Style → String
  | .origGrid => "orig"
  | .arrayGrid => "array"
  | .heap => "heap"
  | .malloc => "malloc"
  | .freeLists => "free"

def Style.ofName : String → Option Style
  | "orig" => some .origGrid
  | "array" => some .arrayGrid
  | "heap" => some .heap
  | "malloc" => some .malloc
  | "free" => some .freeLists
  | _ => none

/-! ## Chunks, addresses, operations -/

structure Chunk where
  h : Nat
  size : Nat
  deriving DecidableEq, Repr, Inhabited

/-- an address: (space, index).  Slot mode: space 0, index = slot number.
    Opaque mode: space = handle, index = offset inside the chunk. -/
abbrev Addr := Nat × Nat

def owns (m : Mode) (c : Chunk) (a : Addr) : Prop :=
  match m with
  | .slot => a.1 = 0 ∧ c.h ≤ a.2 ∧ a.2 < c.h + c.size
  | .opaque => a.1 = c.h ∧ a.2 < c.size

instance (m : Mode) (c : Chunk) (a : Addr) : Decidable (owns m c a) := by
  cases m <;> unfold owns <;> infer_instance

def slotAddr (m : Mode) (c : Chunk) (i : Nat) : Addr :=
  match m with
  | .slot => (0, c.h + i)
  | .opaque => (c.h, i)

def disjoint (m : Mode) (a b : Chunk) : Prop :=
  match m with
  | .slot => a.h + a.size ≤ b.h ∨ b.h + b.size ≤ a.h
  | .opaque => a.h ≠ b.h

instance (m : Mode) (a b : Chunk) : Decidable (disjoint m a b) := by
  cases m <;> unfold disjoint <;> infer_instance

theorem disjoint_symm {m : Mode} {a b : Chunk} (h : disjoint m a b) : disjoint m b a := by
  cases m <;> simp only [disjoint] at * <;> omega

theorem owns_slotAddr {m : Mode} {c : Chunk} {i : Nat} (hi : i < c.size) :
    owns m c (slotAddr m c i) := by
  cases m <;> simp only [owns, slotAddr, true_and] <;> omega

theorem disjoint_no_common {m : Mode} {a b : Chunk} (h : disjoint m a b) (x : Addr) :
    ¬ (owns m a x ∧ owns m b x) := by
  cases m <;> simp only [disjoint, owns] at * <;> omega

/-- the decidable test is exactly "no common address" (so the specification is not
    stricter than the property), for non-empty chunks -/
theorem disjoint_iff_no_common {m : Mode} {a b : Chunk} (ha : 1 ≤ a.size) (hb : 1 ≤ b.size) :
    disjoint m a b ↔ ∀ x, ¬ (owns m a x ∧ owns m b x) := by
  refine ⟨disjoint_no_common, fun h => ?_⟩
  cases m
  · -- slot: if the chunks met, the larger of the two first slots would be common
    have h1 := h (0, a.h)
    have h2 := h (0, b.h)
    simp only [owns, true_and] at h1 h2
    simp only [disjoint]
    omega
  · exact fun heq => h (a.h, 0) ⟨⟨rfl, ha⟩, ⟨heq, hb⟩⟩

inductive Op where
  /-- `requestChunk(numSlots = want)` returned `handle`, `numSlots` became `got` -/
  | request (want got handle : Nat)
  /-- `recycleChunk(handle, size)` -/
  | recycle (handle size : Nat)
  deriving DecidableEq, Repr, Inhabited

/-! ## (a) Specification automaton -/

namespace Alloc

abbrev State := List Chunk

def legal (m : Mode) (s : State) : Op → Prop
  | .request want got h => 1 ≤ want ∧ want ≤ got ∧ 1 ≤ h ∧ ∀ c ∈ s, disjoint m ⟨h, got⟩ c
  | .recycle h n => (⟨h, n⟩ : Chunk) ∈ s

instance (m : Mode) (s : State) (op : Op) : Decidable (legal m s op) := by
  cases op <;> unfold legal <;> infer_instance

/-- effect of an operation (defined also for illegal ones, so that a checker can go on) -/
def apply (s : State) : Op → State
  | .request _ got h => ⟨h, got⟩ :: s
  | .recycle h n => s.filter (fun c => decide (c ≠ ⟨h, n⟩))

def step (m : Mode) (s : State) (op : Op) : Option State :=
  if legal m s op then some (apply s op) else none

def run (m : Mode) : State → List Op → Option State
  | s, [] => some s
  | s, op :: ops =>
    match step m s op with
    | none => none
    | some s' => run m s' ops

def Inv (m : Mode) (s : State) : Prop :=
  s.Pairwise (disjoint m) ∧ ∀ c ∈ s, 1 ≤ c.size ∧ 1 ≤ c.h

section
variable {m : Mode} {s s' : State} {op : Op} {ops : List Op}

theorem run_cons :
    run m s (op :: ops) = some s' ↔ legal m s op ∧ run m (apply s op) ops = some s' := by
  by_cases hl : legal m s op <;> simp [run, step, hl]

theorem inv_step (hi : Inv m s) (hl : legal m s op) :
    Inv m (apply s op) := by
  cases op with
  | request want got hd =>
    obtain ⟨h1, h2, h3, h4⟩ := hl
    exact ⟨List.pairwise_cons.mpr ⟨h4, hi.1⟩,
      List.forall_mem_cons.2 ⟨⟨Nat.le_trans h1 h2, h3⟩, hi.2⟩⟩
  | recycle hd n => exact ⟨hi.1.filter _, fun c hc => hi.2 c (List.mem_filter.mp hc).1⟩

theorem run_append {xs ys : List Op} :
    run m s (xs ++ ys) = some s' ↔ ∃ s1, run m s xs = some s1 ∧ run m s1 ys = some s' := by
  induction xs generalizing s with
  | nil => exact ⟨fun h => ⟨s, rfl, h⟩, fun ⟨s1, h1, h2⟩ => by cases h1; exact h2⟩
  | cons x xs ih =>
    simp only [List.cons_append, run_cons, ih]
    exact ⟨fun ⟨hl, s1, h1, h2⟩ => ⟨s1, ⟨hl, h1⟩, h2⟩, fun ⟨s1, ⟨hl, h1⟩, h2⟩ => ⟨hl, s1, h1, h2⟩⟩

theorem inv_run (hi : Inv m s)
    (h : run m s ops = some s') : Inv m s' := by
  induction ops generalizing s with
  | nil => cases h; exact hi
  | cons op ops ih =>
    obtain ⟨hl, h⟩ := run_cons.1 h
    exact ih (inv_step hi hl) h

theorem inv_nil (m : Mode) : Inv m [] := ⟨List.Pairwise.nil, fun _ h => nomatch h⟩

/-- every op of an accepted trace was legal: requests grant at least what was wanted -/
theorem run_requests_ok (h : run m s ops = some s') :
    ∀ w g hd, Op.request w g hd ∈ ops → 1 ≤ w ∧ w ≤ g ∧ 1 ≤ hd := by
  induction ops generalizing s with
  | nil => intro w g hd hm; cases hm
  | cons op ops ih =>
    obtain ⟨hl, h⟩ := run_cons.1 h
    intro w g hd hm
    rcases List.mem_cons.mp hm with rfl | hm
    · exact ⟨hl.1, hl.2.1, hl.2.2.1⟩
    · exact ih h w g hd hm

theorem run_live_origin (h : run m s ops = some s') :
    ∀ c ∈ s', c ∈ s ∨ ∃ w, Op.request w c.size c.h ∈ ops ∧ 1 ≤ w ∧ w ≤ c.size := by
  induction ops generalizing s with
  | nil => cases h; exact fun c hc => Or.inl hc
  | cons op ops ih =>
    obtain ⟨hl, h⟩ := run_cons.1 h
    intro c hc
    rcases ih h c hc with h1 | ⟨w, hw, hb⟩
    · cases op with
      | request want got hd =>
        rcases List.mem_cons.mp h1 with rfl | h1
        · exact Or.inr ⟨want, List.mem_cons_self, hl.1, hl.2.1⟩
        · exact Or.inl h1
      | recycle hd n => exact Or.inl (List.mem_filter.mp h1).1
    · exact Or.inr ⟨w, List.mem_cons_of_mem _ hw, hb⟩

theorem mem_apply {c : Chunk} (hc : c ∈ s)
    (hn : op ≠ Op.recycle c.h c.size) : c ∈ apply s op := by
  cases op with
  | request want got hd => exact List.mem_cons_of_mem _ hc
  | recycle hd n =>
    refine List.mem_filter.mpr ⟨hc, decide_eq_true fun heq => hn ?_⟩
    rw [heq]

theorem run_keeps {c : Chunk}
    (h : run m s ops = some s') (hc : c ∈ s) (hn : Op.recycle c.h c.size ∉ ops) : c ∈ s' := by
  induction ops generalizing s with
  | nil => cases h; exact hc
  | cons op ops ih =>
    obtain ⟨_, h⟩ := run_cons.1 h
    exact ih h (mem_apply hc fun e => hn (e ▸ List.mem_cons_self))
      fun hm => hn (List.mem_cons_of_mem _ hm)

end
end Alloc

/-! ## (b) Tiling refinement for the hole-based managers -/

structure Tile where
  live : Bool
  size : Nat
  deriving DecidableEq, Repr, Inhabited

namespace Tiling

/-- tiles in address order; the first tile starts at slot 1 (slot 0 is never used) -/
abbrev State := List Tile

/-- live chunks of a tile list whose first tile starts at `a` -/
def chunksFrom (a : Nat) : List Tile → List Chunk
  | [] => []
  | t :: ts =>
    if t.live then ⟨a, t.size⟩ :: chunksFrom (a + t.size) ts
    else chunksFrom (a + t.size) ts

def proj (t : State) : List Chunk := chunksFrom 1 t

/-- one past the last used slot -/
def endFrom (a : Nat) : List Tile → Nat
  | [] => a
  | t :: ts => endFrom (a + t.size) ts

/-- place a chunk of `n` slots at handle `h`: either at the start of a hole beginning
    exactly at `h` (remainder, of any size ≥ 1, stays a hole) or at the end of the arena. -/
def requestAt (a h n : Nat) : List Tile → Option (List Tile)
  | [] => if a = h then some [⟨true, n⟩] else none
  | t :: ts =>
    if a = h then
      if t.live = false ∧ n ≤ t.size then
        some (⟨true, n⟩ :: (if n < t.size then ⟨false, t.size - n⟩ :: ts else ts))
      else none
    else
      match requestAt (a + t.size) h n ts with
      | none => none
      | some ts' => some (t :: ts')

/-- turn the live tile `(h,n)` into a hole -/
def markAt (a h n : Nat) : List Tile → Option (List Tile)
  | [] => none
  | t :: ts =>
    if a = h then
      if t.live = true ∧ t.size = n then some (⟨false, n⟩ :: ts) else none
    else
      match markAt (a + t.size) h n ts with
      | none => none
      | some ts' => some (t :: ts')

/-- merge adjacent holes and give a trailing hole back to the array.  On a state that
    satisfies the invariant except around one freshly marked hole this is exactly
    "merge left, absorb at the end, else merge right" of `recycleChunk`
    (see `coalesce_id_of_inv`: everything else is left alone). -/
def coalesce : List Tile → List Tile
  | [] => []
  | t :: ts =>
    if t.live then t :: coalesce ts
    else
      match coalesce ts with
      | [] => []
      | u :: r => if u.live then t :: u :: r else ⟨false, t.size + u.size⟩ :: r

def step (t : State) : Op → Option State
  | .request want got h => if 1 ≤ want ∧ got = want then requestAt 1 h got t else none
  | .recycle h n =>
    match markAt 1 h n t with
    | none => none
    | some t' => some (coalesce t')

def run : State → List Op → Option State
  | s, [] => some s
  | s, op :: ops =>
    match step s op with
    | none => none
    | some s' => run s' ops

/-- positive sizes, no two adjacent holes, the last tile is not a hole
    (`prevHole`: the tile before the list is a hole). -/
def invAux (prevHole : Bool) : List Tile → Bool
  | [] => !prevHole
  | t :: ts => decide (1 ≤ t.size) && (t.live || !prevHole) && invAux (!t.live) ts

def inv (t : State) : Bool := invAux false t

theorem run_cons {s s' : State} {op : Op} {ops : List Op} :
    run s (op :: ops) = some s' ↔ ∃ s1, step s op = some s1 ∧ run s1 ops = some s' := by
  rw [run]; cases step s op <;> simp

section
variable {p : Bool} {a h n : Nat} {ts ts' : List Tile}

theorem invAux_cons {t : Tile} :
    invAux p (t :: ts) = true ↔
      1 ≤ t.size ∧ (t.live = true ∨ p = false) ∧ invAux (!t.live) ts = true := by
  simp only [invAux, Bool.and_eq_true, Bool.or_eq_true, decide_eq_true_eq, Bool.not_eq_true',
    and_assoc]

theorem invAux_weaken (h : invAux true ts = true) : invAux false ts = true := by
  cases ts with
  | nil => cases h
  | cons t ts =>
    obtain ⟨h1, _, h3⟩ := invAux_cons.1 h
    exact invAux_cons.2 ⟨h1, .inr rfl, h3⟩

theorem invAux_pos (h : invAux p ts = true) :
    ∀ t ∈ ts, 1 ≤ t.size := by
  induction ts generalizing p with
  | nil => intro t ht; cases ht
  | cons u us ih =>
    obtain ⟨h1, _, h3⟩ := invAux_cons.1 h
    exact List.forall_mem_cons.2 ⟨h1, ih h3⟩

theorem requestAt_inv (hn : 1 ≤ n)
    (hi : invAux p ts = true) (hr : requestAt a h n ts = some ts') : invAux p ts' = true := by
  fun_induction requestAt a h n ts generalizing p ts' with
  | case1 => cases hr; exact invAux_cons.2 ⟨hn, .inl rfl, rfl⟩
  | case3 t ts hc =>
    -- the new live tile; a remainder is a hole between it and what followed the old hole
    cases hr
    obtain ⟨hpos, hp, hrest⟩ := invAux_cons.1 hi
    rw [hc.1] at hp hrest
    refine invAux_cons.2 ⟨hn, .inl rfl, ?_⟩
    split
    · exact invAux_cons.2 ⟨by show 1 ≤ t.size - n; omega, .inr rfl, hrest⟩
    · exact invAux_weaken hrest
  | case6 a t ts hne ts1 hq ih =>
    cases hr
    obtain ⟨hpos, hp, hrest⟩ := invAux_cons.1 hi
    exact invAux_cons.2 ⟨hpos, hp, ih hrest hq⟩
  | case2 | case4 | case5 => cases hr

theorem markAt_pos (hp : ∀ t ∈ ts, 1 ≤ t.size)
    (hm : markAt a h n ts = some ts') : ∀ t ∈ ts', 1 ≤ t.size := by
  fun_induction markAt a h n ts generalizing ts' with
  | case2 t ts hc =>
    cases hm
    rw [List.forall_mem_cons] at hp
    exact List.forall_mem_cons.2 ⟨hc.2 ▸ hp.1, hp.2⟩
  | case5 a t ts hne ts1 hq ih =>
    cases hm
    rw [List.forall_mem_cons] at hp
    exact List.forall_mem_cons.2 ⟨hp.1, ih hp.2 hq⟩
  | case1 | case3 | case4 => cases hm

theorem coalesce_inv (hp : ∀ t ∈ ts, 1 ≤ t.size) :
    invAux false (coalesce ts) = true := by
  induction ts with
  | nil => rfl
  | cons t ts ih =>
    obtain ⟨ht, hp⟩ := List.forall_mem_cons.1 hp
    have ih := ih hp
    obtain ⟨l, sz⟩ := t
    cases l
    · simp only [coalesce, Bool.false_eq_true, if_false]
      cases hc : coalesce ts with
      | nil => rfl
      | cons u r =>
        rw [hc] at ih
        obtain ⟨ul, usz⟩ := u
        cases ul
        · simp [invAux] at ih ⊢
          exact ⟨by omega, ih.2⟩
        · simp [invAux] at ih ⊢
          exact ⟨ht, ih.1, ih.2⟩
    · simp [coalesce, invAux] at ht ⊢
      exact ⟨ht, ih⟩

end

/-- on a state satisfying the invariant `coalesce` changes nothing: a recycle only
    touches the neighbourhood of the freed chunk -/
theorem coalesce_id_of_inv {p : Bool} {ts : List Tile} (hi : invAux p ts = true) :
    coalesce ts = ts := by
  induction ts generalizing p with
  | nil => rfl
  | cons t ts ih =>
    simp only [invAux, Bool.and_eq_true] at hi
    have ih := ih hi.2
    obtain ⟨l, sz⟩ := t
    cases l
    · simp only [coalesce, ih, Bool.false_eq_true, if_false]
      cases ts with
      | nil => simp [invAux] at hi
      | cons u r =>
        obtain ⟨ul, usz⟩ := u
        cases ul
        · simp [invAux] at hi
        · simp
    · simp [coalesce, ih]

section
variable {a h n : Nat} {t : Tile} {ts ts' : List Tile}

theorem mem_chunksFrom_cons {c : Chunk} :
    c ∈ chunksFrom a (t :: ts) ↔
      (t.live = true ∧ c = ⟨a, t.size⟩) ∨ c ∈ chunksFrom (a + t.size) ts := by
  rw [chunksFrom]; split <;> simp [*]

theorem chunksFrom_hole (h : t.live = false) :
    chunksFrom a (t :: ts) = chunksFrom (a + t.size) ts := by
  rw [chunksFrom, if_neg (by rw [h]; exact Bool.false_ne_true)]

theorem chunksFrom_lb : ∀ c ∈ chunksFrom a ts, a ≤ c.h := by
  induction ts generalizing a with
  | nil => intro c hc; cases hc
  | cons t ts ih =>
    intro c hc
    rcases mem_chunksFrom_cons.1 hc with ⟨_, rfl⟩ | hc
    · exact Nat.le_refl _
    · have := ih c hc; omega

theorem chunksFrom_coalesce (a : Nat) (ts : List Tile) :
    chunksFrom a (coalesce ts) = chunksFrom a ts := by
  induction ts generalizing a with
  | nil => rfl
  | cons t ts ih =>
    obtain ⟨l, sz⟩ := t
    cases l
    · have h1 : chunksFrom a (⟨false, sz⟩ :: ts) = chunksFrom (a + sz) (coalesce ts) := by
        simp [chunksFrom, ih]
      rw [h1]
      simp only [coalesce, Bool.false_eq_true, if_false]
      cases hc : coalesce ts with
      | nil => rfl
      | cons u r =>
        obtain ⟨ul, usz⟩ := u
        cases ul
        · simp [chunksFrom, Nat.add_assoc]
        · simp [chunksFrom]
    · simp [coalesce, chunksFrom, ih]

theorem requestAt_spec (hr : requestAt a h n ts = some ts') :
    a ≤ h ∧ (∀ c ∈ chunksFrom a ts, c.h + c.size ≤ h ∨ h + n ≤ c.h) ∧
    (∀ c, c ∈ chunksFrom a ts' ↔ c = ⟨h, n⟩ ∨ c ∈ chunksFrom a ts) := by
  fun_induction requestAt a h n ts generalizing ts' with
  | case1 => cases hr; exact ⟨Nat.le_refl _, fun c hc => (by cases hc), fun c => List.mem_cons⟩
  | case3 t ts hc =>
    cases hr
    obtain ⟨hlive, hle⟩ := hc
    refine ⟨Nat.le_refl _, fun c hc => ?_, fun c => ?_⟩
    · rw [chunksFrom_hole hlive] at hc
      have := chunksFrom_lb c hc
      omega
    · -- with or without a remainder, what follows the new chunk starts where `ts` started
      have hrest : chunksFrom (h + n) (if n < t.size then ⟨false, t.size - n⟩ :: ts else ts)
          = chunksFrom (h + t.size) ts := by
        split
        · show chunksFrom (h + n + (t.size - n)) ts = _
          congr 1; omega
        · congr 1; omega
      show c ∈ (⟨h, n⟩ : Chunk) :: chunksFrom (h + n) _ ↔ _
      rw [List.mem_cons, hrest, chunksFrom_hole hlive]
  | case6 a t ts hne ts1 hq ih =>
    cases hr
    obtain ⟨h1, h2, h3⟩ := ih hq
    refine ⟨by omega, fun c hc => ?_, fun c => ?_⟩
    · rcases mem_chunksFrom_cons.1 hc with ⟨_, rfl⟩ | hc
      · exact .inl h1
      · exact h2 c hc
    · rw [mem_chunksFrom_cons, mem_chunksFrom_cons, h3]
      exact or_left_comm
  | case2 | case4 | case5 => cases hr

theorem markAt_spec (hp : ∀ t ∈ ts, 1 ≤ t.size)
    (hm : markAt a h n ts = some ts') :
    (⟨h, n⟩ : Chunk) ∈ chunksFrom a ts ∧
    (∀ c, c ∈ chunksFrom a ts' ↔ c ∈ chunksFrom a ts ∧ c ≠ ⟨h, n⟩) := by
  fun_induction markAt a h n ts generalizing ts' with
  | case2 t ts hc =>
    cases hm
    obtain ⟨hlive, rfl⟩ := hc
    refine ⟨mem_chunksFrom_cons.2 (.inl ⟨hlive, rfl⟩), fun c => ?_⟩
    -- chunks to the right start beyond this tile, which is not empty
    have hX : c ∈ chunksFrom (h + t.size) ts → c ≠ ⟨h, t.size⟩ := by
      rintro hc rfl
      have := chunksFrom_lb _ hc
      have := hp t List.mem_cons_self
      simp only at *
      omega
    rw [chunksFrom_hole rfl, mem_chunksFrom_cons]
    exact ⟨fun hc => ⟨.inr hc, hX hc⟩, fun ⟨h1, h2⟩ => h1.resolve_left fun h => h2 h.2⟩
  | case5 a t ts hne ts1 hq ih =>
    cases hm
    obtain ⟨h1, h2⟩ := ih (List.forall_mem_cons.1 hp).2 hq
    refine ⟨mem_chunksFrom_cons.2 (.inr h1), fun c => ?_⟩
    -- the tile at `a ≠ h` is not the chunk being freed
    have hL : t.live = true ∧ c = ⟨a, t.size⟩ → c ≠ ⟨h, n⟩ :=
      fun hl heq => hne (congrArg Chunk.h (hl.2.symm.trans heq))
    rw [mem_chunksFrom_cons, mem_chunksFrom_cons, h2, or_and_right, and_iff_left_of_imp hL]
  | case1 | case3 | case4 => cases hm

end
end Tiling

/-! ## Free-list refinement (freelists.cc) -/

namespace FreeList

/-- `fin` = `entriesSize` (first never-used slot), `free` = all chunks on the 15 lists -/
structure State where
  fin : Nat
  free : List Chunk
  deriving DecidableEq, Repr, Inhabited

def init : State := ⟨1, []⟩

def maxEntry : Nat := 15

/-- a request for `n` slots returns either a chunk of EXACTLY size `n` from the free list
    of size `n` or the next `n` never-used slots; a recycle pushes the chunk on its list. -/
def step (s : State) : Op → Option State
  | .request want got h =>
    if 1 ≤ want ∧ got = want ∧ want ≤ maxEntry then
      if (⟨h, got⟩ : Chunk) ∈ s.free then some ⟨s.fin, s.free.erase ⟨h, got⟩⟩
      else if h = s.fin then some ⟨s.fin + got, s.free⟩
      else none
    else none
  | .recycle h n => some ⟨s.fin, ⟨h, n⟩ :: s.free⟩

end FreeList

/-! ## (c) Contents -/

namespace Mem

abbrev Memory := Addr → Nat

def update (mem : Memory) (a : Addr) (v : Nat) : Memory := fun x => if x = a then v else mem x

def writeAll (mem : Memory) : List (Addr × Nat) → Memory
  | [] => mem
  | w :: ws => writeAll (update mem w.1 w.2) ws

structure State where
  live : Alloc.State
  mem : Memory

inductive Ev where
  /-- a manager call together with everything the manager wrote during the call -/
  | mgr (op : Op) (writes : List (Addr × Nat))
  /-- the client stores `v` at address `a` -/
  | client (a : Addr) (v : Nat)

/-- The manager may write only outside chunks that are live before AND after the call
    (i.e. into holes, unused array space, the chunk being handed out before it is returned,
    the chunk being recycled); the client writes only into its own live chunks. -/
def step (m : Mode) (st : State) : Ev → Option State
  | .mgr op ws =>
    match Alloc.step m st.live op with
    | none => none
    | some live' =>
      if ∀ w ∈ ws, ∀ c ∈ st.live, c ∈ live' → ¬ owns m c w.1 then
        some ⟨live', writeAll st.mem ws⟩
      else none
  | .client a v =>
    if ∃ c ∈ st.live, owns m c a then some ⟨st.live, update st.mem a v⟩ else none

def run (m : Mode) : State → List Ev → Option State
  | s, [] => some s
  | s, e :: es =>
    match step m s e with
    | none => none
    | some s' => run m s' es

section
variable {m : Mode} {st st' : State} {e : Ev} {es : List Ev} {a : Addr}

theorem run_cons :
    run m st (e :: es) = some st' ↔ ∃ s1, step m st e = some s1 ∧ run m s1 es = some st' := by
  rw [run]; cases step m st e <;> simp

theorem writeAll_other {mem : Memory} {ws : List (Addr × Nat)}
    (h : ∀ w ∈ ws, w.1 ≠ a) : writeAll mem ws a = mem a := by
  induction ws generalizing mem with
  | nil => rfl
  | cons w ws ih =>
    rw [List.forall_mem_cons] at h
    rw [writeAll, ih h.2]
    exact if_neg fun e => h.1 e.symm

/-- one event keeps an owner of `a` live and the value at `a`, unless the client writes to
    `a` or a chunk owning `a` is recycled -/
theorem step_preserves (hs : step m st e = some st') (hown : ∃ c ∈ st.live, owns m c a)
    (hnw : ∀ v', e ≠ Ev.client a v')
    (hnr : ∀ h n ws, e = Ev.mgr (.recycle h n) ws → ¬ owns m ⟨h, n⟩ a) :
    (∃ c ∈ st'.live, owns m c a) ∧ st'.mem a = st.mem a := by
  cases e with
  | client a' v' =>
    simp only [step] at hs
    split at hs
    · cases hs
      exact ⟨hown, if_neg fun e => hnw v' (by rw [e])⟩
    · cases hs
  | mgr op ws =>
    simp only [step, Alloc.step] at hs
    by_cases hl : Alloc.legal m st.live op
    · rw [if_pos hl] at hs
      simp only at hs
      split at hs
      · rename_i hw
        cases hs
        obtain ⟨c, hc, hca⟩ := hown
        have hc' : c ∈ Alloc.apply st.live op :=
          Alloc.mem_apply hc (by rintro rfl; exact hnr _ _ ws rfl hca)
        exact ⟨⟨c, hc', hca⟩, writeAll_other fun w hwm heq => hw w hwm c hc hc' (heq ▸ hca)⟩
      · cases hs
    · rw [if_neg hl] at hs; cases hs

theorem run_preserves {v : Nat} (hr : run m st es = some st')
    (hown : ∃ c ∈ st.live, owns m c a) (hv : st.mem a = v)
    (hsafe : ∀ e ∈ es, (∀ v', e ≠ Ev.client a v') ∧
      ∀ h n ws, e = Ev.mgr (.recycle h n) ws → ¬ owns m ⟨h, n⟩ a) :
    (∃ c ∈ st'.live, owns m c a) ∧ st'.mem a = v := by
  induction es generalizing st with
  | nil => cases hr; exact ⟨hown, hv⟩
  | cons e es ih =>
    obtain ⟨st1, hs, hr⟩ := run_cons.1 hr
    rw [List.forall_mem_cons] at hsafe
    obtain ⟨hown1, hv1⟩ := step_preserves hs hown hsafe.1.1 hsafe.1.2
    exact ih hr hown1 (hv1.trans hv) hsafe.2

end
end Mem

theorem disjoint_of_mem {m : Mode} {l : List Chunk} (hp : l.Pairwise (disjoint m)) {a b : Chunk}
    (ha : a ∈ l) (hb : b ∈ l) (hne : a ≠ b) : disjoint m a b := by
  refine List.Pairwise.forall_of_forall_of_flip (R := fun a b => a ≠ b → disjoint m a b)
    (fun _ _ h => absurd rfl h) (hp.imp ?_) (hp.imp ?_) ha hb hne
  · exact fun h _ => h
  · exact fun h _ => disjoint_symm h

namespace Alloc

theorem legal_congr {m : Mode} {s t : State} {op : Op} (he : ∀ c, c ∈ s ↔ c ∈ t) :
    legal m s op → legal m t op := by
  cases op with
  | request want got hd =>
    exact fun ⟨h1, h2, h3, h4⟩ => ⟨h1, h2, h3, fun c hc => h4 c ((he c).mpr hc)⟩
  | recycle hd n => exact (he _).mp

theorem apply_congr {s t : State} {op : Op} (he : ∀ c, c ∈ s ↔ c ∈ t) (c : Chunk) :
    c ∈ apply s op ↔ c ∈ apply t op := by
  cases op with
  | request want got hd => simp only [apply, List.mem_cons, he]
  | recycle hd n => simp only [apply, List.mem_filter, he]

end Alloc

namespace FreeList

def run : State → List Op → Option State
  | s, [] => some s
  | s, op :: ops =>
    match step s op with
    | none => none
    | some s' => run s' ops

theorem run_cons {s s' : State} {op : Op} {ops : List Op} :
    run s (op :: ops) = some s' ↔ ∃ s1, step s op = some s1 ∧ run s1 ops = some s' := by
  rw [run]; cases step s op <;> simp

/-- coupling invariant between the free-list manager state and the live chunks `s` -/
def Inv (fl : State) (s : Alloc.State) : Prop :=
  1 ≤ fl.fin ∧ s.Pairwise (disjoint .slot) ∧ fl.free.Pairwise (disjoint .slot) ∧
  (∀ a ∈ s, ∀ b ∈ fl.free, disjoint .slot a b) ∧
  (∀ c, c ∈ s ∨ c ∈ fl.free → 1 ≤ c.h ∧ 1 ≤ c.size ∧ c.h + c.size ≤ fl.fin)

theorem inv_init : Inv init [] := by
  refine ⟨Nat.le_refl 1, List.Pairwise.nil, List.Pairwise.nil, ?_, ?_⟩
  · intro a ha; cases ha
  · intro c hc; rcases hc with hc | hc <;> cases hc

section
variable {fl : State} {s : Alloc.State}

/-- the coupling invariant: live and free chunks together are pairwise disjoint and lie at
    slots ≥ 1 and below `fin` -/
theorem inv_iff :
    Inv fl s ↔ 1 ≤ fl.fin ∧ (s ++ fl.free).Pairwise (disjoint .slot) ∧
      ∀ c ∈ s ++ fl.free, 1 ≤ c.h ∧ 1 ≤ c.size ∧ c.h + c.size ≤ fl.fin := by
  simp only [Inv, List.pairwise_append, List.mem_append, and_assoc]

/-- so moving chunks between the live list and the free lists keeps it -/
theorem Inv.perm {s' free' : List Chunk} (hi : Inv fl s)
    (hp : (s' ++ free').Perm (s ++ fl.free)) : Inv ⟨fl.fin, free'⟩ s' := by
  rw [inv_iff] at hi ⊢
  exact ⟨hi.1, (hp.pairwise_iff disjoint_symm).2 hi.2.1, fun c hc => hi.2.2 c (hp.mem_iff.1 hc)⟩

/-- fresh slots: everything known so far ends at or before `fin` -/
theorem Inv.fresh (hi : Inv fl s) {n : Nat} (hn : 1 ≤ n) :
    Inv ⟨fl.fin + n, fl.free⟩ (⟨fl.fin, n⟩ :: s) := by
  rw [inv_iff] at hi ⊢
  obtain ⟨i0, hpw, hb⟩ := hi
  exact ⟨Nat.le_trans i0 (Nat.le_add_right ..),
    List.pairwise_cons.2 ⟨fun c hc => .inr (hb c hc).2.2, hpw⟩,
    List.forall_mem_cons.2 ⟨⟨i0, hn, Nat.le_refl _⟩, fun c hc =>
      ⟨(hb c hc).1, (hb c hc).2.1, Nat.le_trans (hb c hc).2.2 (Nat.le_add_right ..)⟩⟩⟩

end
end FreeList

section Properties
open Alloc

/-- C18, no overlap: in every state reachable by ANY accepted sequence of requests and
    recycles, no two live chunks share an address – `requestChunk` never hands out memory
    that belongs to a chunk its owner has not yet recycled. -/
theorem alloc_no_overlap (m : Mode) (ops : List Op) (s : Alloc.State)
    (h : Alloc.run m [] ops = some s) :
    s.Pairwise (fun a b => ∀ x : Addr, ¬ (owns m a x ∧ owns m b x)) :=
  (inv_run (inv_nil m) h).1.imp disjoint_no_common

example : Alloc.run .slot [] [.request 3 3 1, .request 5 5 4, .recycle 1 3, .request 2 3 1]
    = some [⟨1, 3⟩, ⟨4, 5⟩] := by decide +kernel

/-- C18, size: every request of an accepted trace was for ≥ 1 slot and was granted at least
    the requested number of slots at a non-null handle, and every live chunk has exactly
    the extent `(handle, got)` of some request of the trace that asked for no more than that. -/
theorem alloc_size_ok (m : Mode) (ops : List Op) (s : Alloc.State)
    (h : Alloc.run m [] ops = some s) :
    (∀ w g hd, Op.request w g hd ∈ ops → 1 ≤ w ∧ w ≤ g ∧ 1 ≤ hd) ∧
    (∀ c ∈ s, ∃ w, Op.request w c.size c.h ∈ ops ∧ 1 ≤ w ∧ w ≤ c.size) :=
  ⟨run_requests_ok h, fun c hc => (run_live_origin h c hc).resolve_left List.not_mem_nil⟩

example : Alloc.run .opaque [] [.request 3 4 7, .request 5 5 9] = some [⟨9, 5⟩, ⟨7, 4⟩] := by
  decide +kernel

/-- C18, stability: a chunk stays live with the extent it was granted, from its request until
    a recycle of exactly that chunk – the handle stays valid and its slots stay its own
    whatever other requests/recycles happen in between. -/
theorem live_stable (m : Mode) (pre mid post : List Op) (w g hd : Nat) (sf : Alloc.State)
    (h : Alloc.run m [] (pre ++ Op.request w g hd :: (mid ++ post)) = some sf)
    (hn : Op.recycle hd g ∉ mid) :
    ∃ s, Alloc.run m [] (pre ++ Op.request w g hd :: mid) = some s ∧ (⟨hd, g⟩ : Chunk) ∈ s ∧
      ∀ c ∈ s, c ≠ ⟨hd, g⟩ → ∀ x : Addr, ¬ (owns m ⟨hd, g⟩ x ∧ owns m c x) := by
  obtain ⟨s1, h1, h⟩ := Alloc.run_append.1 h
  obtain ⟨hl, h⟩ := run_cons.1 h
  obtain ⟨s3, h3, _⟩ := Alloc.run_append.1 h
  have hmem : (⟨hd, g⟩ : Chunk) ∈ s3 := run_keeps (c := ⟨hd, g⟩) h3 List.mem_cons_self hn
  exact ⟨s3, Alloc.run_append.2 ⟨s1, h1, run_cons.2 ⟨hl, h3⟩⟩, hmem, fun c hc hne => disjoint_no_common
    (disjoint_of_mem (inv_run (inv_step (inv_run (inv_nil m) h1) hl) h3).1 hmem hc (Ne.symm hne))⟩

/-- hypotheses of `live_stable` with pre = [req (1,2)], the chunk (3,3), mid = [req (6,4), rec (1,2)],
    post = [rec (3,3)] -/
example : Alloc.run .slot [] ([.request 2 2 1] ++ Op.request 3 3 3 ::
    ([.request 4 4 6, .recycle 1 2] ++ [.recycle 3 3])) = some [⟨6, 4⟩] ∧
    Op.recycle 3 3 ∉ [Op.request 4 4 6, Op.recycle 1 2] := by decide +kernel

/-- C18, reuse only after recycle: if two requests of an accepted trace are granted chunks
    that share an address, the first chunk was recycled in between – the memory of a chunk is
    never handed out again while its owner still holds it. -/
theorem reuse_only_after_recycle (m : Mode) (pre mid post : List Op) (w g hd w' g' hd' : Nat)
    (sf : Alloc.State) (x : Addr)
    (h : Alloc.run m [] (pre ++ Op.request w g hd :: (mid ++ Op.request w' g' hd' :: post))
      = some sf)
    (h1 : owns m ⟨hd, g⟩ x) (h2 : owns m ⟨hd', g'⟩ x) : Op.recycle hd g ∈ mid := by
  -- otherwise the first chunk is still live when the second request is checked against it
  apply Classical.byContradiction
  intro hn
  obtain ⟨_, _, h⟩ := Alloc.run_append.1 h
  obtain ⟨s, hmid, h⟩ := Alloc.run_append.1 (run_cons.1 h).2
  exact disjoint_no_common
    ((run_cons.1 h).1.2.2.2 _ (run_keeps (c := ⟨hd, g⟩) hmid List.mem_cons_self hn)) x ⟨h2, h1⟩

example : Alloc.run .slot [] ([.request 2 2 1] ++ Op.request 3 3 3 ::
    ([.request 4 4 6, .recycle 3 3] ++ Op.request 2 2 4 :: [])) = some [⟨4, 2⟩, ⟨6, 4⟩, ⟨1, 2⟩] := by
  decide +kernel
example : owns .slot ⟨3, 3⟩ (0, 4) ∧ owns .slot ⟨4, 2⟩ (0, 4) := by decide +kernel

/-- C18, hole-based managers keep a partition: every step of the tiling model (request from
    the start of any sufficiently large hole or from the end of the array; recycle with
    coalescing) preserves "sizes positive, no two adjacent holes, last tile live" – the arena
    `1..last_used_slot` of orig-grid / array+grid / heap is always exactly tiled by live chunks
    and maximal holes. -/
theorem tiling_inv (t t' : Tiling.State) (op : Op) (hi : Tiling.inv t = true)
    (h : Tiling.step t op = some t') : Tiling.inv t' = true := by
  cases op with
  | request want got hd =>
    simp only [Tiling.step] at h
    split at h
    · rename_i hc
      exact Tiling.requestAt_inv (by omega) hi h
    · cases h
  | recycle hd n =>
    simp only [Tiling.step] at h
    cases hm : Tiling.markAt 1 hd n t with
    | none => rw [hm] at h; cases h
    | some t1 =>
      rw [hm] at h
      cases h
      exact Tiling.coalesce_inv (Tiling.markAt_pos (Tiling.invAux_pos hi) hm)

example : Tiling.run [] [.request 3 3 1, .request 5 5 4, .request 2 2 9, .recycle 4 5,
    .request 2 2 4] = some [⟨true, 3⟩, ⟨true, 2⟩, ⟨false, 3⟩, ⟨true, 2⟩] := by decide +kernel
example : Tiling.inv [⟨true, 3⟩, ⟨true, 2⟩, ⟨false, 3⟩, ⟨true, 2⟩] = true := by decide +kernel

/-- C18, refinement: every step the tiling model can take from a state satisfying `Tiling.inv`
    is a legal step of the specification automaton on the live chunks of the arena, and leads
    to the corresponding set of live chunks – whichever hole the index structure selects, the
    hole-based managers never violate the allocation contract. -/
theorem tiling_refines_alloc (t t' : Tiling.State) (op : Op) (hi : Tiling.inv t = true)
    (h : Tiling.step t op = some t') :
    Alloc.legal .slot (Tiling.proj t) op ∧
    ∀ c, c ∈ Tiling.proj t' ↔ c ∈ Alloc.apply (Tiling.proj t) op := by
  cases op with
  | request want got hd =>
    simp only [Tiling.step] at h
    split at h
    · rename_i hc
      obtain ⟨hw, hg⟩ := hc
      subst hg
      obtain ⟨h1, h2, h3⟩ := Tiling.requestAt_spec h
      exact ⟨⟨hw, Nat.le_refl _, h1, fun c hc => (h2 c hc).symm⟩,
        fun c => (h3 c).trans List.mem_cons.symm⟩
    · cases h
  | recycle hd n =>
    simp only [Tiling.step] at h
    cases hm : Tiling.markAt 1 hd n t with
    | none => rw [hm] at h; cases h
    | some t1 =>
      rw [hm] at h
      injection h with h; subst h
      obtain ⟨h1, h2⟩ := Tiling.markAt_spec (Tiling.invAux_pos hi) hm
      refine ⟨h1, ?_⟩
      intro c
      simp only [Tiling.proj, Tiling.chunksFrom_coalesce, Alloc.apply, List.mem_filter,
        decide_eq_true_eq]
      exact h2 c

/-- trace form of the refinement: every trace accepted by the tiling model from the empty arena
    is accepted by the specification automaton, with the same live chunks, and the invariant
    holds at the end. -/
theorem tiling_run_refines_alloc (ops : List Op) (t : Tiling.State)
    (h : Tiling.run [] ops = some t) :
    Tiling.inv t = true ∧
    ∃ s, Alloc.run .slot [] ops = some s ∧ ∀ c, c ∈ Tiling.proj t ↔ c ∈ s := by
  -- generalise the two empty initial states to related ones
  have hi : Tiling.inv ([] : Tiling.State) = true := rfl
  have he : ∀ c, c ∈ Tiling.proj [] ↔ c ∈ ([] : Alloc.State) := fun c => Iff.rfl
  generalize ([] : Tiling.State) = t0 at h hi he
  generalize ([] : Alloc.State) = s0 at he ⊢
  induction ops generalizing t0 s0 with
  | nil => cases h; exact ⟨hi, s0, rfl, he⟩
  | cons op ops ih =>
    obtain ⟨t1, hs, hr⟩ := Tiling.run_cons.1 h
    obtain ⟨hl, hm⟩ := tiling_refines_alloc t0 t1 op hi hs
    obtain ⟨r1, s, r2, r3⟩ := ih t1 hr (tiling_inv t0 t1 op hi hs) (Alloc.apply s0 op)
      (fun c => (hm c).trans (Alloc.apply_congr he c))
    exact ⟨r1, s, run_cons.2 ⟨Alloc.legal_congr he hl, r2⟩, r3⟩

example : Tiling.proj [⟨true, 3⟩, ⟨true, 2⟩, ⟨false, 3⟩, ⟨true, 2⟩] = [⟨1, 3⟩, ⟨4, 2⟩, ⟨9, 2⟩] := by
  decide +kernel

/-- C18, free lists: as long as the client recycles only chunks it holds, every request served
    by the free-list model (a previously recycled chunk of EXACTLY the requested size, or fresh
    slots at the end of the array) is a legal step of the specification automaton, and the
    coupling invariant (live and free chunks pairwise disjoint, all at slots ≥ 1 and below
    `entriesSize`) is preserved. -/
theorem freelist_refines_alloc (fl fl' : FreeList.State) (s : Alloc.State) (op : Op)
    (hi : FreeList.Inv fl s) (h : FreeList.step fl op = some fl')
    (hc : ∀ hd n, op = .recycle hd n → (⟨hd, n⟩ : Chunk) ∈ s) :
    Alloc.legal .slot s op ∧ FreeList.Inv fl' (Alloc.apply s op) := by
  -- a request is legal because the live chunks stay pairwise disjoint with the new one in front
  cases op with
  | request want got hd =>
    simp only [FreeList.step] at h
    split at h
    · rename_i hc1
      obtain ⟨hw, rfl, _⟩ := hc1
      split at h
      · rename_i hmem
        cases h
        have hi' := hi.perm (s' := ⟨hd, got⟩ :: s)
          (List.perm_middle.symm.trans ((List.perm_cons_erase hmem).symm.append_left s))
        exact ⟨⟨hw, Nat.le_refl _, (hi.2.2.2.2 _ (.inr hmem)).1, (List.pairwise_cons.1 hi'.2.1).1⟩, hi'⟩
      · split at h
        · rename_i heq
          cases h
          subst heq
          have hi' := hi.fresh hw
          exact ⟨⟨hw, Nat.le_refl _, hi.1, (List.pairwise_cons.1 hi'.2.1).1⟩, hi'⟩
        · cases h
    · cases h
  | recycle hd n =>
    cases h
    have hm := hc hd n rfl
    -- live chunks are non-empty and pairwise disjoint, hence distinct: filtering erases one
    have hnd : s.Nodup := List.nodup_iff_pairwise_ne.2 <| hi.2.1.imp_of_mem fun {a b} ha _ hab heq => by
      subst heq
      have := (hi.2.2.2.2 a (.inl ha)).2.1
      simp only [disjoint] at hab
      omega
    refine ⟨hm, hi.perm ?_⟩
    show (s.filter (fun x => decide (x ≠ ⟨hd, n⟩)) ++ _).Perm _
    rw [show s.filter (fun x => decide (x ≠ ⟨hd, n⟩)) = s.erase ⟨hd, n⟩ by
      rw [hnd.erase_eq_filter]; congr; funext x; simp only [bne, decide_not]; rfl]
    exact List.perm_middle.trans ((List.perm_cons_erase hm).symm.append_right fl.free)

example : FreeList.run FreeList.init [.request 3 3 1, .request 2 2 4, .recycle 1 3, .request 2 2 6,
    .request 3 3 1] = some ⟨8, []⟩ := by decide +kernel

/-- trace form: a trace accepted by the free-list model in which every recycle is legal for the
    client (recycles a chunk that is live at that point) is accepted by the specification. -/
theorem freelist_run_refines_alloc (ops : List Op) (fl : FreeList.State)
    (h : FreeList.run FreeList.init ops = some fl)
    (hc : ∀ pre hd n post s, ops = pre ++ Op.recycle hd n :: post →
      Alloc.run .slot [] pre = some s → (⟨hd, n⟩ : Chunk) ∈ s) :
    ∃ s, Alloc.run .slot [] ops = some s ∧ FreeList.Inv fl s := by
  -- generalise the two initial states to coupled ones
  have hi := FreeList.inv_init
  generalize FreeList.init = fl0 at h hi
  generalize ([] : Alloc.State) = s0 at hc hi ⊢
  induction ops generalizing fl0 s0 with
  | nil => cases h; exact ⟨s0, rfl, hi⟩
  | cons op ops ih =>
    obtain ⟨fl1, hs, hr⟩ := FreeList.run_cons.1 h
    obtain ⟨hl, hi'⟩ := freelist_refines_alloc _ _ _ _ hi hs
      (fun hd n heq => hc [] hd n ops s0 (by rw [heq]; rfl) rfl)
    obtain ⟨s, r1, r2⟩ := ih fl1 hr (Alloc.apply s0 op)
      (fun pre hd n post s heq hrun =>
        hc (op :: pre) hd n post s (by rw [heq]; rfl) (run_cons.2 ⟨hl, hrun⟩)) hi'
    exact ⟨s, run_cons.2 ⟨hl, r1⟩, r2⟩

/-- C18, contents: along every accepted trace (manager writes only outside chunks that stay
    live across the call, client writes only into its own live chunks), a slot of a live chunk
    still holds the last value its owner stored there, until that chunk is recycled – the
    manager never alters the contents of a live chunk. -/
theorem live_contents_untouched (m : Mode) (st0 st : Mem.State) (pre mid : List Mem.Ev)
    (a : Addr) (v : Nat)
    (h : Mem.run m st0 (pre ++ Mem.Ev.client a v :: mid) = some st)
    (hnw : ∀ v', Mem.Ev.client a v' ∉ mid)
    (hnr : ∀ hd n ws, Mem.Ev.mgr (.recycle hd n) ws ∈ mid → ¬ owns m ⟨hd, n⟩ a) :
    st.mem a = v ∧ ∃ c ∈ st.live, owns m c a := by
  induction pre generalizing st0 with
  | cons e pre ih => obtain ⟨st1, _, h⟩ := Mem.run_cons.1 h; exact ih st1 h
  | nil =>
    obtain ⟨st2, h2, h⟩ := Mem.run_cons.1 h
    simp only [Mem.step] at h2
    split at h2
    · rename_i hown
      cases h2
      exact (Mem.run_preserves (v := v) h hown (if_pos rfl) fun e he =>
        ⟨fun v' heq => hnw v' (heq ▸ he), fun hd n ws heq => hnr hd n ws (heq ▸ he)⟩).symm
    · cases h2

/-- the client stores 7 into slot 2 of chunk (1,3); afterwards the manager serves a request,
    writes hole bookkeeping outside live chunks, recycles another chunk: the 7 is still there. -/
example :
    (Mem.run .slot ⟨[], fun _ => 0⟩
      ([.mgr (.request 3 3 1) [((0, 1), 99)], .mgr (.request 2 2 4) []] ++
        Mem.Ev.client (0, 2) 7 ::
        [.mgr (.request 4 4 6) [((0, 6), 0)], .mgr (.recycle 4 2) [((0, 4), 2), ((0, 5), 2)],
         .client (0, 3) 5])).map (fun st => (st.mem (0, 2), st.mem (0, 4), st.live))
    = some (7, 2, [⟨6, 4⟩, ⟨1, 3⟩]) := by decide +kernel

/-- a manager write into a chunk that stays live is rejected by the model -/
example : (Mem.run .slot ⟨[], fun _ => 0⟩
      [.mgr (.request 3 3 1) [], .mgr (.request 2 2 4) [((0, 2), 1)]]).isNone = true := by decide +kernel

end Properties

end MemMan
end Meddly

/-
  No theorem of this file rests on an axiom beyond `propext`, `Classical.choice`, `Quot.sound`
  (`#print axioms`).
-/
