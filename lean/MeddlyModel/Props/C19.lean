/-
  C19  "Values survive encoding into terminals and edge values".

  The definitions `Gen.Terminal.encInt / decInt / encRealBits / decRealBits / encBool / decBool /
  intMin / intMax / msb` are GENERATED from /repo/src/terminal.h by translate/terminal_to_lean.py
  (clang's typed AST -> Lean terms over `BitVec`).  Everything proved here is proved about those
  generated definitions, for ALL 2^64 `long`s, ALL 2^32 float bit patterns and ALL 2^32 handles:
  a change of terminal.h that breaks the property changes the generated file and breaks these proofs.

  Trusted base: the translation conventions listed in the header of Gen/Terminal.lean (validated by
  the differential family `terminal`, which runs the real library on boundary values, on all 2^16
  upper half-words of a float and on 10^5..10^6 random patterns and compares every handle / value
  with these very definitions), and -- for edge values (EV+, EV*) -- the small HAND-WRITTEN model in
  MeddlyModel/State/Terminal.lean, which is tied to forest.cc only by the differential run.

  All proofs are kernel-only (`decide`, `omega`, `simp`, `BitVec` lemmas); `bv_decide` is not used.
-/
import MeddlyModel.Gen.Terminal
import MeddlyModel.State.Terminal

namespace Meddly.C19
open Gen.Terminal Meddly.TerminalEV

/-- (core Lean has no `DecidableEq (Except ε α)`; needed by the `decide`d examples only) -/
instance instDecidableEqExcept {ε α : Type} [DecidableEq ε] [DecidableEq α] : DecidableEq (Except ε α)
  | .ok a, .ok b => if h : a = b then isTrue (by rw [h]) else isFalse (fun e => h (Except.ok.inj e))
  | .error a, .error b => if h : a = b then isTrue (by rw [h]) else isFalse (fun e => h (Except.error.inj e))
  | .ok _, .error _ => isFalse (fun e => nomatch e)
  | .error _, .ok _ => isFalse (fun e => nomatch e)

/-- the documented range of integer terminals: −2^30 ≤ v ≤ 2^30 − 1 (31 bits, signed) -/
def inRange (v : BitVec 64) : Prop := (-1073741824 : Int) ≤ v.toInt ∧ v.toInt ≤ 1073741823

instance (v : BitVec 64) : Decidable (inRange v) := by unfold inRange; exact inferInstance

/-- executable form of `inRange` (used by the acceptor) -/
def inRangeB (v : BitVec 64) : Bool :=
  BitVec.sle (BitVec.ofInt 64 (-1073741824)) v && BitVec.sle v (BitVec.ofInt 64 1073741823)

/-- the bit pattern is +0.0 or −0.0 -/
def isZeroBits (b : BitVec 32) : Prop := b = 0x00000000#32 ∨ b = 0x80000000#32

instance (b : BitVec 32) : Decidable (isZeroBits b) := by unfold isZeroBits; exact inferInstance

/-- drop the least significant fraction bit: the documented accuracy of real terminals
    ("single precision minus one bit") -/
def clearLsb (b : BitVec 32) : BitVec 32 := b &&& ~~~(1#32)

/-- a handle is "negative" (sign bit set): it can never be confused with a node handle (> 0) nor
    with the transparent handle 0 -/
def negHandle (h : BitVec 32) : Prop := h.msb = true

instance (h : BitVec 32) : Decidable (negHandle h) := by unfold negHandle; exact inferInstance

theorem msb32_eq : (0x80000000#32) = BitVec.twoPow 32 31 := by decide

theorem shl_or_msb (x : BitVec 32) : (x ||| 0x80000000#32) <<< 1 = x <<< 1 := by
  rw [BitVec.shiftLeft_or_distrib, show 0x80000000#32 <<< 1 = 0#32 by decide, BitVec.or_zero]

theorem msb_or_msb (x : BitVec 32) : (x ||| 0x80000000#32).msb = true := by
  rw [BitVec.msb_or, show (0x80000000#32).msb = true by decide, Bool.or_true]

theorem ne_zero_of_msb {x : BitVec 32} (h : x.msb = true) : x ≠ 0#32 := by
  intro e
  subst e
  exact absurd h (by decide)

theorem sext_intMin : (BitVec.signExtend 64 (0xc0000000#32)).toInt = -1073741824 := by decide
theorem sext_intMax : (BitVec.signExtend 64 (0x3fffffff#32)).toInt = 1073741823 := by decide
theorem trunc_sext_msb : BitVec.setWidth 32 (BitVec.signExtend 64 (0x80000000#32)) = 0x80000000#32 := by decide

theorem encInt_eq (v : BitVec 64) :
    encInt v =
      if v = 0#64 then .ok 0#32
      else if inRange v then .ok (BitVec.setWidth 32 v ||| 0x80000000#32) else .error () := by
  unfold encInt inRange
  simp only [intMin_val, intMax_val, msb_val, BitVec.slt_eq_decide, sext_intMin, sext_intMax,
    BitVec.setWidth_or, trunc_sext_msb, ← Int.not_lt, ← not_or, ite_not]
  by_cases h0 : v = 0#64 <;> simp [h0]

/-- `decInt` in arithmetic form: the handle's low 31 bits, read as a signed number.
    (`(2 * x) bmod 2^32 = 2 * (x bmod 2^31)`: the shift pair drops bit 31 and sign-extends from bit 30.) -/
theorem decInt_toInt (h : BitVec 32) : (decInt h).toInt = (h.toNat : Int).bmod (2 ^ 31) := by
  have key : ((2 : Int) * h.toNat).bmod 4294967296 = 2 * (h.toNat : Int).bmod 2147483648 :=
    Int.mod_bmod_mul_of_pos (a := 2) _ 2147483648 (by decide) (by decide)
  unfold decInt
  rw [BitVec.toInt_signExtend_of_le (by decide), BitVec.toInt_sshiftRight, BitVec.shiftLeft_eq,
    BitVec.toInt_shiftLeft]
  simp only [Int.shiftRight_eq_div_pow, Nat.shiftLeft_eq, Nat.reducePow, Int.natCast_mul]
  rw [Int.mul_comm]
  exact (congrArg (· / (2 : Int)) key).trans (Int.mul_ediv_cancel_left _ (by decide))

theorem decInt_or_msb (x : BitVec 32) : decInt (x ||| 0x80000000#32) = decInt x := by
  unfold decInt
  simp only [BitVec.shiftLeft_eq, shl_or_msb]

/-- decoding the truncation of an in-range value gives the value back: reducing `v` modulo 2^64, 2^32
    and 2^31 in turn is reducing it modulo 2^31, which fixes the range -/
theorem decInt_trunc {v : BitVec 64} (hr : inRange v) : decInt (BitVec.setWidth 32 v) = v := by
  apply BitVec.toInt_inj.mp
  rw [decInt_toInt, ← BitVec.toInt_setWidth, BitVec.setWidth_setWidth_of_le _ (by decide),
    BitVec.toInt_setWidth, ← Int.bmod_bmod_of_dvd (m := 2 ^ 64) ⟨2 ^ 33, by decide⟩,
    ← BitVec.toInt_eq_toNat_bmod]
  exact Int.bmod_eq_of_le (by have := hr.1; omega) (by have := hr.2; omega)

theorem inRange_zero : inRange 0#64 := by decide

theorem inRangeB_iff (v : BitVec 64) : inRangeB v = true ↔ inRange v := by
  unfold inRangeB inRange
  simp [BitVec.sle_eq_decide]

theorem floatNonzero_iff (b : BitVec 32) : floatNonzero b = true ↔ ¬ isZeroBits b := by
  unfold floatNonzero isZeroBits
  simp

theorem floatNonzero_eq (b : BitVec 32) : floatNonzero b = !decide (isZeroBits b) := by
  rw [Bool.eq_iff_iff, floatNonzero_iff]; simp

theorem encRealBits_nonzero {b : BitVec 32} (h : ¬ isZeroBits b) :
    encRealBits b = BitVec.sshiftRight b 1 ||| 0x80000000#32 := by
  simp [encRealBits, floatNonzero_eq, h, msb_val]

theorem encRealBits_zero {b : BitVec 32} (h : isZeroBits b) : encRealBits b = 0#32 := by
  simp [encRealBits, floatNonzero_eq, h]

theorem sshr_shl (b : BitVec 32) : (BitVec.sshiftRight b 1) <<< 1 = clearLsb b := by
  unfold clearLsb
  ext i hi
  simp only [BitVec.getElem_shiftLeft, BitVec.getElem_and, BitVec.getElem_not, BitVec.getElem_sshiftRight,
    BitVec.getElem_one]
  by_cases h0 : i = 0
  · simp [h0]
  · simp [h0, show ¬ i < 1 by omega, show 1 + (i - 1) = i by omega, hi]

theorem trunc_decInt_or (h : BitVec 32) (hm : h.msb = true) :
    BitVec.setWidth 32 (decInt h) ||| 0x80000000#32 = h := by
  unfold decInt
  ext i hi
  have h64 : i < 64 := by omega
  simp only [BitVec.getElem_or, BitVec.getElem_setWidth, BitVec.getLsbD_signExtend, msb32_eq,
    BitVec.getElem_twoPow, hi, h64, BitVec.getLsbD_sshiftRight, BitVec.shiftLeft_eq, BitVec.getLsbD_shiftLeft]
  by_cases h31 : i = 31
  · subst h31
    simp [BitVec.msb_eq_getLsbD_last] at hm
    simp [hm]
  · have h1 : 1 + i < 32 := by omega
    have h2 : ¬ 32 ≤ i := by omega
    simp [h31, h1, h2, BitVec.getLsbD_eq_getElem hi]

/-- Every integer in the documented terminal range −2^30 … 2^30−1 is encoded without error by
    `terminal::getIntegerHandle` and `setFromHandle(INTEGER, ·)` gives back exactly that integer. -/
theorem int_roundtrip {v : BitVec 64} (hr : inRange v) : (encInt v).map decInt = .ok v := by
  rw [encInt_eq, if_pos hr]
  split
  · subst_vars; decide
  · simp only [Except.map, decInt_or_msb, decInt_trunc hr]

example : inRange (BitVec.ofInt 64 (-1073741824)) ∧
    (encInt (BitVec.ofInt 64 (-1073741824))).map decInt = .ok (BitVec.ofInt 64 (-1073741824)) := by decide +kernel
example : (encInt 1073741823#64) = .ok 0xbfffffff#32 ∧ decInt 0xbfffffff#32 = 1073741823#64 := by decide +kernel

/-- Every `long` outside the range is rejected: `getIntegerHandle` throws (VALUE_OVERFLOW), it never
    silently wraps. -/
theorem int_overflow {v : BitVec 64} (hr : ¬ inRange v) : encInt v = .error () := by
  rw [encInt_eq, if_neg (fun (e : v = 0#64) => hr (e ▸ inRange_zero)), if_neg hr]

example : ¬ inRange 1073741824#64 ∧ encInt 1073741824#64 = .error () := by decide +kernel
example : ¬ inRange (BitVec.ofInt 64 (-1073741825)) ∧ encInt (BitVec.ofInt 64 (-1073741825)) = .error () := by
  decide +kernel
example : encInt_throws = ["VALUE_OVERFLOW"] := by decide +kernel

/-- Distinct integers in the range get distinct terminal handles. -/
theorem int_inj {v w : BitVec 64} (hv : inRange v) (hw : inRange w) (h : encInt v = encInt w) : v = w := by
  have h1 := int_roundtrip hv
  have h2 := int_roundtrip hw
  rw [h, h2] at h1
  exact (Except.ok.inj h1).symm

example : inRange 5#64 ∧ inRange 6#64 ∧ encInt 5#64 ≠ encInt 6#64 := by decide +kernel

/-- The handle of a non-zero integer terminal has its sign bit set, hence is neither a node handle
    (those are > 0) nor the transparent handle 0. -/
theorem enc_nonzero_negative_int {v : BitVec 64} {h : BitVec 32} (hv : v ≠ 0#64) (he : encInt v = .ok h) :
    negHandle h := by
  rw [encInt_eq, if_neg hv] at he
  split at he
  · cases he; exact msb_or_msb _
  · cases he

example : (1#64) ≠ 0#64 ∧ encInt 1#64 = .ok 0x80000001#32 ∧ negHandle 0x80000001#32 := by decide +kernel

/-- Handle 0 (the transparent terminal of MT integer forests) encodes the integer 0 and nothing else. -/
theorem int_zero_iff {v : BitVec 64} (_hr : inRange v) : encInt v = .ok 0#32 ↔ v = 0#64 := by
  constructor
  · intro he
    by_cases h0 : v = 0#64
    · exact h0
    · exact absurd (enc_nonzero_negative_int h0 he) (by decide)
  · intro h0; subst h0; decide

example : inRange 0#64 ∧ encInt 0#64 = .ok 0#32 := by decide +kernel

/-- Every value produced by `setFromHandle(INTEGER, h)` lies in the terminal range, for every handle. -/
theorem decInt_inRange (h : BitVec 32) : inRange (decInt h) := by
  unfold inRange
  rw [decInt_toInt]
  have := @Int.le_bmod h.toNat (2 ^ 31) (by decide)
  have := @Int.bmod_lt h.toNat (2 ^ 31) (by decide)
  omega

example : decInt 0x12345678#32 = 0x12345678#64 ∧ inRange (decInt 0x7fffffff#32) ∧
    decInt 0x7fffffff#32 = BitVec.ofInt 64 (-1) := by decide +kernel

/-- Onto: every handle with the sign bit set, except the bare sign bit, IS the handle of the integer
    it decodes to (so the 2^31−1 handles 0x80000001…0xFFFFFFFF and handle 0 are exactly the
    2^31 representable integer terminals). -/
theorem int_handle_roundtrip {h : BitVec 32} (hm : negHandle h) (hne : h ≠ 0x80000000#32) :
    encInt (decInt h) = .ok h := by
  rw [encInt_eq, if_pos (decInt_inRange h), trunc_decInt_or h hm, if_neg]
  exact fun e => hne ((trunc_decInt_or h hm).symm.trans (by rw [e]; decide))

example : negHandle 0xffffffff#32 ∧ decInt 0xffffffff#32 = BitVec.ofInt 64 (-1) ∧
    encInt (BitVec.ofInt 64 (-1)) = .ok 0xffffffff#32 := by decide +kernel

/-- Encoding a non-zero float as a real terminal and decoding it loses exactly the least significant
    fraction bit, nothing else (sign, exponent and the upper 22 fraction bits survive; ±infinity survives). -/
theorem real_roundtrip {b : BitVec 32} (hb : ¬ isZeroBits b) : decRealBits (encRealBits b) = clearLsb b := by
  rw [encRealBits_nonzero hb]
  unfold decRealBits
  rw [BitVec.shiftLeft_eq, shl_or_msb, sshr_shl]

/-- +0.0 and −0.0 both become the transparent handle and decode to +0.0. -/
theorem real_roundtrip_zero {b : BitVec 32} (hb : isZeroBits b) : decRealBits (encRealBits b) = 0#32 := by
  rw [encRealBits_zero hb]; decide

example : ¬ isZeroBits 0x3f800001#32 ∧ decRealBits (encRealBits 0x3f800001#32) = 0x3f800000#32 := by decide +kernel
example : ¬ isZeroBits 0x7f800000#32 ∧ decRealBits (encRealBits 0x7f800000#32) = 0x7f800000#32 := by decide +kernel
example : isZeroBits 0x80000000#32 ∧ decRealBits (encRealBits 0x80000000#32) = 0#32 := by decide +kernel

/-- Two non-zero floats that are still different after dropping the last fraction bit get different
    handles. -/
theorem real_inj {b₁ b₂ : BitVec 32} (h₁ : ¬ isZeroBits b₁) (h₂ : ¬ isZeroBits b₂)
    (hne : clearLsb b₁ ≠ clearLsb b₂) : encRealBits b₁ ≠ encRealBits b₂ := by
  intro e
  apply hne
  rw [← real_roundtrip h₁, ← real_roundtrip h₂, e]

example : clearLsb 0x3f800000#32 ≠ clearLsb 0x3f800002#32 ∧
    encRealBits 0x3f800000#32 ≠ encRealBits 0x3f800002#32 := by decide +kernel

/-- The handle of a non-zero real terminal has its sign bit set (never a node handle, never 0). -/
theorem enc_nonzero_negative_real {b : BitVec 32} (hb : ¬ isZeroBits b) : negHandle (encRealBits b) := by
  rw [encRealBits_nonzero hb]
  exact msb_or_msb _

example : ¬ isZeroBits 0x00000001#32 ∧ encRealBits 0x00000001#32 = 0x80000000#32 := by decide +kernel

/-- Handle 0 (the transparent terminal of MT real forests) is produced for ±0.0 and for nothing else. -/
theorem real_zero_iff (b : BitVec 32) : encRealBits b = 0#32 ↔ isZeroBits b := by
  constructor
  · intro he
    by_cases hb : isZeroBits b
    · exact hb
    · exact absurd he (ne_zero_of_msb (enc_nonzero_negative_real hb))
  · exact encRealBits_zero

example : encRealBits 0x80000000#32 = 0#32 ∧ encRealBits 0x00000002#32 ≠ 0#32 := by decide +kernel

/-- REMARK (not a violation of C19, see docs/NOTES_terminal.md): three real handles decode to a zero -- 0 (transparent),
    0x80000000 (what the smallest denormal 0x00000001 encodes to; decodes to +0.0) and 0xC0000000
    (from 0x80000001; decodes to −0.0) -- so `getRealHandle ∘ setFromHandle` is not the identity on them. -/
example : encRealBits 0x00000001#32 = 0x80000000#32 ∧ decRealBits 0x80000000#32 = 0#32 ∧
    encRealBits (decRealBits 0x80000000#32) = 0#32 ∧
    encRealBits 0x80000001#32 = 0xc0000000#32 ∧ decRealBits 0xc0000000#32 = 0x80000000#32 := by decide +kernel

/-- Both booleans survive; `false` is handle 0, `true` is handle −1. -/
theorem bool_roundtrip (x : Bool) : decBool (encBool x) = .ok x := by
  cases x <;> decide

example : decBool (encBool true) = .ok true ∧ decBool (encBool false) = .ok false := by decide +kernel

/-- `false` is the only boolean with the transparent handle, and the two handles differ. -/
theorem bool_zero_iff (x : Bool) : encBool x = 0#32 ↔ x = false := by
  cases x <;> decide

example : encBool false = 0#32 ∧ encBool true ≠ 0#32 := by decide +kernel

/-- `setFromHandle(BOOLEAN, h)` accepts exactly the two boolean handles 0 and −1 (every other handle
    throws), and returns the boolean that encodes to `h`. -/
theorem bool_decode_exact (h : BitVec 32) (x : Bool) : decBool h = .ok x ↔ h = encBool x := by
  have hm1 : (-(1#32)).toInt = -1 := by decide
  have h0 : (0#32).toInt = 0 := by decide
  simp only [decBool, BitVec.slt_eq_decide, Bool.or_eq_true, decide_eq_true_eq, hm1, h0]
  -- handles are compared by their signed value: the boolean handles are those of value -1 and 0
  split
  · cases x <;> simp [encBool, ← BitVec.toInt_inj, *] <;> omega
  · cases x <;> simp [encBool, ← BitVec.toInt_inj, *] <;> omega

example : decBool (BitVec.ofInt 32 (-2)) = .error () ∧ decBool 1#32 = .error () ∧ decBool_throws = ["MISCELLANEOUS"] := by
  decide +kernel

theorem enc_nonzero_negative_bool : negHandle (encBool true) := by decide

example : encBool true = 0xffffffff#32 ∧ encBool false = 0#32 ∧ decBool 0x80000000#32 = .error () := by decide +kernel

/-- EV+ : +infinity is represented by the edge (0, OMEGA_INFINITY) and is read back as +infinity. -/
theorem evplus_inf_preserved : evpDecode (evpEncode .inf) = .inf := by decide

/-- EV+ : every finite `long` (no 31-bit restriction: edge values are `long`s) is read back unchanged
    and is never mistaken for +infinity -- not even the value 0. -/
theorem evplus_fin_preserved (v : BitVec 64) :
    evpDecode (evpEncode (.fin v)) = .fin v ∧ evpEncode (.fin v) ≠ evpEncode .inf := by
  constructor
  · simp [evpDecode, evpEncode, omegaNormal, omegaInfinity]
  · simp [evpEncode, omegaNormal, omegaInfinity]

example : evpDecode (evpEncode (.fin 0#64)) = .fin 0#64 := by decide +kernel

/-- EV* : a float edge value is read back bit for bit, except that −0.0 is read back as +0.0;
    (·, OMEGA_ZERO) is used exactly for ±0.0. -/
theorem evtimes_preserved (b : BitVec 32) :
    evtDecode (evtEncode b) = (if isZeroBits b then 0#32 else b) ∧
    ((evtEncode b).node = omegaZero ↔ isZeroBits b) := by
  by_cases hb : isZeroBits b <;> simp [evtDecode, evtEncode, floatNonzero_eq, hb, omegaZero, omegaNormal]

example : evtDecode (evtEncode 0x3f800001#32) = 0x3f800001#32 := by decide +kernel

end Meddly.C19

/-
  #print axioms (Lean 4.33.0) -- no `sorry`, no `native_decide`, no `bv_decide`, no new axiom:

  int_roundtrip              [propext, Classical.choice, Quot.sound]
  int_overflow               [propext, Quot.sound]
  int_inj                    [propext, Classical.choice, Quot.sound]
  enc_nonzero_negative_int   [propext, Quot.sound]
  int_zero_iff               [propext, Quot.sound]
  decInt_inRange             [propext, Classical.choice, Quot.sound]
  int_handle_roundtrip       [propext, Classical.choice, Quot.sound]
  real_roundtrip             [propext, Classical.choice, Quot.sound]
  real_roundtrip_zero        [propext, Quot.sound]
  real_inj                   [propext, Classical.choice, Quot.sound]
  enc_nonzero_negative_real  [propext, Quot.sound]
  real_zero_iff              [propext, Quot.sound]
  bool_roundtrip             (none)
  bool_zero_iff              (none)
  bool_decode_exact          [propext, Classical.choice, Quot.sound]
  enc_nonzero_negative_bool  [propext]
  evplus_inf_preserved       (none)
  evplus_fin_preserved       [propext]
  evtimes_preserved          [propext, Classical.choice, Quot.sound]
  inRangeB_iff               [propext]
-/
