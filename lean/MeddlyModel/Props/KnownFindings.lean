/-
  Known findings, as NEGATIVE WITNESS THEOREMS.

  The positive theorems of this project are about the algorithm the library is meant to
  implement (`Satur.satur_eq_lfp`, `Reach.split_union`, `EDD.copyEVtoMT_eval`,
  `Arith.range_min_spec`, `Arith.arith_error_iff`, …).  Where the C++ code VIOLATES the property,
  the violation is recorded in /verif/known_findings.jsonl (status `known`; `fixed` once /repo
  has a `fix:` commit for it).  This file gives the findings below the treatment a proof-based
  verification owes them:

    * a small, executable model of the code AS IT IS (suffix `_asCoded` / `Jump`), next to the
      model of the corrected algorithm;  for F7, F4 and F10, which have been repaired in /repo
      (`fix:` 709bd2b, a94b689, 97fca01), "as it is" / "as coded" means the code BEFORE that
      commit, the cited lines of satur_sets.cc are those of the text before a94b689 (the first
      of the three), and on the repaired library the probe cases of the harness must return the
      specified result;
    * a theorem `<tag>_violates : ¬ (property instance)` established by evaluation (`decide`) on
      a concrete witness, which is the input of the harness probe that replays it on the library;
    * the name of the positive theorem it contrasts with, and (where the repair is known) the
      same evaluation with the repair switched on.

  Nothing here is an axiom about the C++: the `_asCoded` definitions are hand-written readings
  of the named source lines; they are tied to the library by the probe cases of the harness
  (the observed outputs quoted in the docstrings are the outputs of these definitions).
-/
import MeddlyModel.Ops.SaturationProofs
import MeddlyModel.Ops.Reach
import MeddlyModel.Spec.ReachTables
import MeddlyModel.Ops.EVApply
import MeddlyModel.Ops.Arith
import MeddlyModel.Spec.Arith
import MeddlyModel.State.ComputeTable

namespace Meddly
namespace KnownFindings
open DD

/-! ## 1. F12 (C20) — `forwd_dfs_by_events_mt::recFire` jumps over levels

  sat_pregen.cc:628-632, 707:

      const int rLevel = MAX(ABS(mxdLevel), mddLevel);
      unpacked_node* nb = unpacked_node::newWritable(resF, rLevel, rSize, FULL_ONLY);
      …
      saturateHelper(*nb);            // the events of level rLevel only

  The model: set nodes are trees `DD Bool` of a fully-reduced set forest `S`; relation nodes are
  trees `DD Bool` of the identity-reduced relation forest `relShape S` (position `2k` = unprimed
  level `k`, `2k-1` = primed level `-k`); `entry` is the unpacking `Ru` / `Rp`
  (`initRedundant` for a skipped unprimed level, `initIdentity` for a skipped primed level);
  the events are given by top level (`evs k` = `rel->arrayForLevel(k)`). -/

namespace F12

/-- the identity-reduced relation forest over the variables of the set forest `S` -/
def relShape (S : Shape) : Shape where
  top := 2 * S.top
  size := fun p => S.size ((p + 1) / 2)
  mode := fun p => if p % 2 = 1 then .ident else .red

/-- `ABS(relF->getNodeLevel(mxd))` -/
def mxLevel (m : DD Bool) : Nat := (m.pos + 1) / 2

/-- matrix entry `i → j` of the relation node `m` seen from level `k`:
    `Ru` (`initRedundant` if `m` skips the unprimed level) then `Rp`
    (`initIdentity(-k, i, ·)` if the row skips the primed level) -/
def entry (S : Shape) (m : DD Bool) (k i j : Nat) : DD Bool :=
  cofactor (relShape S) false (2*k - 1) (some i) (cofactor (relShape S) false (2*k) none m i) j

section Defs
variable (S : Shape) (evs : Nat → List (DD Bool))

/-- one round of `saturateHelper` at level `r`: for every event of that level, every `i`, `j`,
    in place, `nb[j] := nb[j] ∪ recFire(nb[i], R[i][j])` -/
def sweepN (fire : DD Bool → DD Bool → DD Bool) (r : Nat) (cs : List (DD Bool)) :
    List (DD Bool) :=
  (evs r).foldl (fun cs e =>
    (Satur.pairs (S.size r)).foldl (fun cs p =>
      Satur.addTo S (r - 1) cs p.2 (fire (cs.getD p.1 Satur.bot) (entry S e r p.1 p.2))) cs) cs

/-- `saturateHelper(nb)`: rounds until no child changes -/
def helperN (fire : DD Bool → DD Bool → DD Bool) (r : Nat) (cs : List (DD Bool)) :
    List (DD Bool) :=
  Satur.loop (sweepN S evs fire r) (Satur.numStates S r + 1) cs

/-- `forwd_dfs_by_events_mt::recFire(mdd, mxd)` AS CODED: the result node is built at
    `rLevel = MAX(|mxd level|, mdd level)` and only `saturateHelper(rLevel)` is run on it.
    The first argument is recursion fuel (an upper bound of `rLevel`). -/
def recFireJump : Nat → DD Bool → DD Bool → DD Bool
  | 0, n, m => .leaf (leafVal false n && leafVal false m)
  | f+1, n, m =>
    if m = .leaf false ∨ n = .leaf false then .leaf false
    else if mxLevel m = 0 then (if n.pos = 0 then .leaf true else n)      -- mxd is the identity
    else
      let r := max (mxLevel m) n.pos
      let first : List (DD Bool) :=
        if n.pos > mxLevel m then
          -- "skipped levels in the MXD": nb[i] = recFire(A[i], mxd)
          (List.range (S.size r)).map fun i =>
            recFireJump f (cofactor S false r none n i) m
        else
          (Satur.pairs (S.size r)).foldl (fun cs p =>
            Satur.addTo S (r - 1) cs p.2
              (recFireJump f (cofactor S false r none n p.1) (entry S m r p.1 p.2)))
            (List.replicate (S.size r) Satur.bot)
      mkNode S false r none (helperN S evs (recFireJump f) r first)

/-- `saturation_by_events_op::saturate(mdd, k)` (carries the level; expands skipped levels) -/
def saturateJump : Nat → DD Bool → DD Bool
  | 0, n => n
  | k+1, n =>
    if n.pos = 0 then n else
    mkNode S false (k+1) none (helperN S evs (recFireJump S evs k) (k+1)
      ((List.range (S.size (k+1))).map fun i =>
        saturateJump k (cofactor S false (k+1) none n i)))

/-- from- and to-state of a pair as one assignment of the relation forest -/
def pairAssign (x y : Assign) : Assign := fun q => if q % 2 = 0 then x (q / 2) else y ((q + 1) / 2)

/-- the SAME events in the semantic form `Satur.saturate` reads them: the sub-relation below
    the matrix entry `i → j` of level `k` of the union of the events with top level `k` -/
def evSem : Nat → Nat → Nat → Satur.Rel := fun k i j x y =>
  (evs k).any fun e => eval (relShape S) false (2*k - 2) (entry S e k i j) (pairAssign x y)

end Defs

/-- domain (2,2,2), fully-reduced set forest -/
def S222 : Shape := { top := 3, size := fun _ => 2, mode := fun _ => .red }

theorem S222_WF : S222.WF where
  size_ge := by intro p _ _; show 2 ≤ 2; omega
  ident_below_red := by intro p h; cases h

/-- `x₁ : a → b` as a node of the relation forest (positions 2, 1) -/
def move1 (a b : Nat) : DD Bool :=
  .node 2 ((List.range 2).map fun i =>
    if i = a then .node 1 ((List.range 2).map fun j => .leaf (decide (j = b))) else .leaf false)

/-- EV1 = `x₁ : 1 → 0 ∧ x₃ : 0 → 1`, `x₂` untouched (level 2 and its primed level skipped = identity) -/
def EV1 : DD Bool := .node 6 [.node 5 [.leaf false, move1 1 0], .leaf false]
/-- EV2 = `x₁ : 0 → 1 ∧ x₂ : 0 → 1`, top level 2 -/
def EV2 : DD Bool := .node 4 [.node 3 [.leaf false, move1 0 1], .leaf false]

def evs : Nat → List (DD Bool)
  | 3 => [EV1]
  | 2 => [EV2]
  | _ => []

/-- init = `{x₁ = 1, x₃ = 0}`, `x₂` free: the node skips level 2 -/
def init : DD Bool := .node 3 [.node 1 [.leaf false, .leaf true], .leaf false]

/-- the events are reduced nodes of the identity-reduced relation forest, the initial set is a
    reduced node of the fully-reduced set forest (level 2 really is skipped by all three) -/
example : Red (relShape S222) false 6 none EV1 = true ∧ Red (relShape S222) false 6 none EV2 = true
    ∧ Red S222 false 3 none init = true := by decide +kernel

/-- what the code returns: `{x₁=1,x₃=0} ∪ {x₁=0,x₃=1}`, `x₂` free — 4 states -/
theorem saturateJump_value :
    saturateJump S222 evs 3 init
      = .node 3 [.node 1 [.leaf false, .leaf true], .node 1 [.leaf true, .leaf false]] := by
  decide +kernel

/-- what saturation WITHOUT the jump returns (`Satur.saturate`, proved `= lfp`): 5 states -/
theorem saturate_value :
    Satur.saturate S222 (evSem S222 evs) 3 init
      = .node 3 [.node 1 [.leaf false, .leaf true],
                 .node 2 [.node 1 [.leaf true, .leaf false], .leaf true]] := by
  decide +kernel

/-- the missed state `(x₁, x₂, x₃) = (1, 1, 1)`: reachable (`EV1` then `EV2`), not in the result -/
theorem F12_witness :
    [1, 1, 1] ∈ Pregen.reachFix (Satur.dom S222) (Satur.setOf S222 init)
                  (Satur.stepRel S222 (evSem S222 evs)) ∧
    Satur.setOf S222 (saturateJump S222 evs 3 init) [1, 1, 1] = false := by
  rw [saturateJump_value]
  decide +kernel

/-- **F12** (known_findings.jsonl: `F12 SATURATION_FORWARD over a pregen_relation with a
    FULLY-reduced set forest`; property C20; C++ site `forwd_dfs_by_events_mt::recFire`,
    sat_pregen.cc:628-632 and 707).

    NEGATION of `satur_eq_lfp` for the code as it is.  Witness in API terms: domain (2,2,2);
    fully-reduced MDD forest; identity-reduced MxD forest; pregen relation by events with
    EV1 = `x₁:1→0 ∧ x₃:0→1` (x₂ untouched) and EV2 = `x₁:0→1 ∧ x₂:0→1`; initial set
    `{x₁=1, x₃=0}` (x₂ free).  `recFire(init[0], EV1[0][1])` builds its result at level
    `MAX(1, 1) = 1`; level 2 is skipped by the set node (redundant) and by the relation node
    (identity), so EV2 (top level 2) is never fired on `{x₁=0, x₃=1}`: state (1,1,1) is missing
    (harness: `mdh pregen --case 15`, BFS 5 states, saturation 4).

    Positive counterpart: `Satur.satur_eq_lfp` / `Satur.satur_eq_reachFix` (the recursion that
    enters every level), instantiated on the same input in `F12_positive`. -/
theorem F12_violates :
    ¬ (∀ u, u ∈ Satur.dom S222 →
        (Satur.setOf S222 (saturateJump S222 evs 3 init) u = true ↔
          u ∈ Pregen.reachFix (Satur.dom S222) (Satur.setOf S222 init)
                (Satur.stepRel S222 (evSem S222 evs)))) := by
  intro h
  have hin := (h [1, 1, 1] (by decide +kernel)).mpr F12_witness.1
  rw [F12_witness.2] at hin
  cases hin

/-- the same input through the recursion without the jump: exactly the least fixed point
    (instance of the general theorem, not an evaluation) -/
theorem F12_positive (u : List Nat) (hu : u ∈ Satur.dom S222) :
    Satur.setOf S222 (Satur.saturate S222 (evSem S222 evs) S222.top init) u = true ↔
      u ∈ Pregen.reachFix (Satur.dom S222) (Satur.setOf S222 init)
            (Satur.stepRel S222 (evSem S222 evs)) :=
  Satur.satur_eq_reachFix S222_WF (fun _ => rfl) init hu

/-- … hence the two recursions differ on this input -/
theorem F12_jump_ne_saturate :
    saturateJump S222 evs 3 init ≠ Satur.saturate S222 (evSem S222 evs) 3 init := by
  rw [saturateJump_value, saturate_value]; decide +kernel

/-- the same domain with a QUASI-reduced set forest -/
def S222q : Shape := { top := 3, size := fun _ => 2, mode := fun _ => .none }

/-- control ("quasi-reduced set forests are correct"): the same code, the same events, the same
    initial set stored in a quasi-reduced set forest (level 2 spelled out, and kept by
    `createReducedNode`): nothing is skipped, the jump never jumps, (1,1,1) is found -/
theorem F12_quasi_control :
    (Satur.dom S222q).filter (Satur.setOf S222q (saturateJump S222q evs 3
      (.node 3 [.node 2 [.node 1 [.leaf false, .leaf true], .node 1 [.leaf false, .leaf true]],
                .leaf false])))
    = [[1, 0, 0], [1, 1, 0], [0, 0, 1], [0, 1, 1], [1, 1, 1]] := by decide +kernel

end F12

/-! ## 2. F7 (C08) — `fillSplit` subtracts a LOWER-level node in a fully-reduced relation forest

  satur_sets.cc:1040-1072 (`saturation_set_mtrel::fillSplit`) before the repair `fix:` 709bd2b
  (which lifts `diag` by `makeIdentitiesTo` before the difference):

      diag.set(arg2F->linkNode(Brn->getDiagonal(0)));          // a node BELOW level k
      for (i = 1 .. ) diag = mxdIntersection(diag, Brn->getDiagonal(i));
      mxdDifference->compute(k, ~0, nothing, mxd.getNode(), nothing, diag.getNode(), …);
      top_exactly[k].set(resp);   mxd = diag;

  `diag` is the common diagonal, a relation on the levels `< k`.  Handed to `mxdDifference` at
  level `k` it is read by the relation forest's own rule for skipped levels: an
  identity-reduced forest reads "identity at level k" (what the split needs), a FULLY-reduced
  forest reads "level k unconstrained", so every pair `(i,a) → (j,b)` with `(a,b)` in the common
  diagonal is subtracted, also for `i ≠ j`.

  The model is `Reach.splitPieces` (state vectors, top variable first) with the reading of the
  subtrahend as a parameter. -/

namespace F7
open Reach

/-- reduction rule of the relation forest -/
inductive RelRule where
  | fully | ident
  deriving DecidableEq, Repr

/-- a relation on the lower levels read one level higher by a FULLY-reduced forest:
    the top variable is unconstrained -/
def liftAny (P : List Nat → List Nat → Bool) : List Nat → List Nat → Bool
  | _ :: a, _ :: b => P a b
  | _, _ => false

/-- how the forest reads the lower-level node `diag` at level `k` -/
def liftBy : RelRule → (List Nat → List Nat → Bool) → List Nat → List Nat → Bool
  | .fully => liftAny
  | .ident => liftId

/-- `top_exactly[k] = mxd \ diag` AS CODED (the difference is taken at level `k`) -/
def topExactly_asCoded (rule : RelRule) (sz : Nat) (M : List Nat → List Nat → Bool) :
    List Nat → List Nat → Bool :=
  fun x y => M x y && !(liftBy rule (commonDiag sz M) x y)

/-- the pieces `top_exactly[K..1]` AS CODED.  A piece of a lower level is fired on the children of
    the nodes above it, so ITS lifting is the identity whatever the forest (`liftId`): only the
    subtraction misreads the level. -/
def splitPieces_asCoded (rule : RelRule) :
    List Nat → (List Nat → List Nat → Bool) → List (List Nat → List Nat → Bool)
  | [], _ => []
  | sz :: rest, M =>
    topExactly_asCoded rule sz M :: (splitPieces_asCoded rule rest (commonDiag sz M)).map liftId

/-- with the identity reading the code computes exactly the split of `Ops/Reach.lean` … -/
theorem splitPieces_asCoded_ident (sizes : List Nat) (M : List Nat → List Nat → Bool) :
    splitPieces_asCoded .ident sizes M = splitPieces sizes M := by
  induction sizes generalizing M with
  | nil => rfl
  | cons sz rest ih => simp only [splitPieces_asCoded, splitPieces, ih]; rfl

/-- … hence (POSITIVE statement, every domain, every relation): in an identity-reduced relation
    forest — or with `diag` lifted by `makeIdentitiesTo(diag, k-1, k)` before the difference, the
    repair /verif/docs/patches/F7_lift_common_diagonal_with_identity.patch that `fix:` 709bd2b made
    in /repo — the union of the pieces is the relation, up to the dropped bottom constant
    (`Reach.split_union`). -/
theorem F7_positive {sizes : List Nat} {M : List Nat → List Nat → Bool} {x y : List Nat}
    (hx : InDom sizes x) (hy : InDom sizes y) :
    M x y = true ↔
      unionRel (splitPieces_asCoded .ident sizes M) x y = true ∨ (x = y ∧ splitRest sizes M = true) := by
  rw [splitPieces_asCoded_ident]; exact split_union hx hy

/-- … and the states reachable under the pieces are the states reachable under the relation
    (`Reach.reachable_split`) -/
theorem F7_positive_reach {sizes : List Nat} {M : List Nat → List Nat → Bool}
    {init : List (List Nat)} (hinit : ∀ s, s ∈ init → InDom sizes s)
    (hM : ∀ x y, InDom sizes x → M x y = true → InDom sizes y) (s : List Nat) :
    Reachable M init s ↔ Reachable (unionRel (splitPieces_asCoded .ident sizes M)) init s := by
  rw [splitPieces_asCoded_ident]; exact reachable_split hinit hM s

/-- the witness: domain (2), relation `{0→0, 0→1, 1→1}` -/
def M : List Nat → List Nat → Bool :=
  fun x y => decide (x = [0] ∧ y = [0] ∨ x = [0] ∧ y = [1] ∨ x = [1] ∧ y = [1])

def states : List (List Nat) := [[0], [1]]

/-- what a saturation that is closed under every piece returns: the least fixed point of the
    UNION OF THE PIECES (`Reach.chaotic_eq_lfp`), here computed by `Pregen.reachFix` -/
def saturSplit (rule : RelRule) (init : List Nat → Bool) : List (List Nat) :=
  Pregen.reachFix states init (unionRel (splitPieces_asCoded rule [2] M))

/-- the common diagonal is TRUE (both `0→0` and `1→1` are present): fully-reduced reading
    subtracts all four pairs, identity reading the two loops -/
example :
    (splitPieces_asCoded .fully [2] M).map (fun P => (P [0] [0], P [0] [1], P [1] [0], P [1] [1]))
      = [(false, false, false, false)] ∧
    (splitPieces_asCoded .ident [2] M).map (fun P => (P [0] [0], P [0] [1], P [1] [0], P [1] [1]))
      = [(false, true, false, false)] := by decide +kernel

/-- the split loses the edge `0 → 1` (it is neither in a piece nor a self loop) -/
theorem F7_split_violates :
    ¬ (∀ x, x ∈ states → ∀ y, y ∈ states →
        (M x y = true ↔
          unionRel (splitPieces_asCoded .fully [2] M) x y = true ∨ (x = y ∧ splitRest [2] M = true))) := by
  decide +kernel

/-- **F7** (known_findings.jsonl, status `fixed` by 709bd2b: `F7 REACHABLE_SATUR with a
    FULLY-reduced relation forest dropped every edge (i,a)->(j,b), i!=j, whose lower part lies in
    the common diagonal of its level`; property C08; C++ site `saturation_set_mtrel::fillSplit`,
    satur_sets.cc:1040-1072 before the repair; the same mechanism was finding F5(b) for
    quasi-reduced relation forests).

    Witness in API terms: domain (2); fully-reduced boolean MxD forest; relation
    `{0→0, 0→1, 1→1}`; `REACHABLE_SATUR` forward from `{0}`: the least fixed point is `{0,1}`,
    split-then-saturate returned `{0}` before the repair (harness: reach probe 900007,
    `dom=2;set=bool.fully;rel=fully;R:REL:0>0,0>1,1>1;I:INIT:0;C:nofs:f:INIT:REL;C:sat:f:INIT:REL`).

    Positive counterpart: `Reach.split_union`, `Reach.reachable_split`,
    `Reach.saturation_schedule_correct` (here `F7_positive`, `F7_positive_reach`). -/
theorem F7_violates :
    ¬ (∀ s, s ∈ states →
        (s ∈ saturSplit .fully (fun s => s == [0]) ↔
          s ∈ Pregen.reachFix states (fun s => s == [0]) M)) := by decide +kernel

theorem F7_values :
    saturSplit .fully (fun s => s == [0]) = [[0]] ∧
    saturSplit .ident (fun s => s == [0]) = [[0], [1]] ∧
    Pregen.reachFix states (fun s => s == [0]) M = [[0], [1]] := by decide +kernel

/-! The same on the trees of `Core/DD.lean`, with the project's own element-wise difference
    (`apply2`, the model of `mxdDifference`): relation forest over one variable, position 2 =
    unprimed, position 1 = primed. -/

def Rfully : Shape := { top := 2, size := fun _ => 2, mode := fun _ => .red }
def Rident : Shape := { top := 2, size := fun _ => 2, mode := fun p => if p = 1 then .ident else .red }

/-- `{0→0, 0→1, 1→1}` as a reduced node of the fully-reduced forest (row 0 is redundant) -/
def mxdF : DD Bool := .node 2 [.leaf true, .node 1 [.leaf false, .leaf true]]
/-- … and of the identity-reduced forest (row 1 is the identity pattern) -/
def mxdI : DD Bool := .node 2 [.node 1 [.leaf true, .leaf true], .leaf true]

/-- both trees are reduced and denote the same relation -/
example : Red Rfully false 2 none mxdF = true ∧ Red Rident false 2 none mxdI = true ∧
    (∀ i, i ∈ [0, 1] → ∀ j, j ∈ [0, 1] →
      eval Rfully false 2 mxdF (fun p => if p = 2 then i else j)
        = eval Rident false 2 mxdI (fun p => if p = 2 then i else j)) := by decide +kernel

/-- `getDiagonal(0) ∩ getDiagonal(1)` is the terminal TRUE in both forests; the difference at
    level 1 with that terminal is EMPTY in the fully-reduced forest and `{0→1}` in the
    identity-reduced one -/
theorem F7_dd_difference :
    apply2 Rfully Rfully Rfully false false false (fun a b => a && !b) 2 none mxdF (.leaf true)
      = .leaf false ∧
    apply2 Rident Rident Rident false false false (fun a b => a && !b) 2 none mxdI (.leaf true)
      = .node 2 [.node 1 [.leaf false, .leaf true], .leaf false] := by decide +kernel

end F7

/-! ## 3. F4 (C08) — the `satfire` compute-table key omits the split below

  satur_sets.cc:651-660 / 912 / 942 (`saturation_set_mtrel::recFire`) before the repair `fix:`
  a94b689 (which adds `top_at_or_below[L]` to the key):

      key[0].setI(L);  key[1].setN(A);  key[2].setN(B);      // B = the relation SUB-node fired
      if (fire_ct->findCT(key, res)) { … return; }
      …
      saturate_1(Cu);                  // saturates w.r.t. top_exactly[L] and everything below
      fire_ct->addCT(key, res);

  The cached value depends on `top_exactly[≤ L]` of the CURRENT call's relation, the key does
  not: a later call whose relation shares the sub-node `B` hits the entry of an earlier relation.

  The model (`SatSets`) is the recursion of satur_sets.cc on EXTENSIONAL nodes: a set node of
  level `L` is the canonical list of its sub-states, a relation node the canonical list of its
  pairs (by canonicity, `Core/Canon.lean`, equal handles ⇔ equal lists), the memo table is an
  association list that is threaded through the recursion and survives from one call to the next.
  State vectors: top variable first. -/

namespace SatSets

abbrev St := List Nat
abbrev SNode := List St
abbrev RNode := List (St × St)
/-- `satfire`: (level, set node, relation sub-node, [repair: `top_at_or_below[level]`]) ↦ result -/
abbrev Memo := List ((Nat × SNode × RNode × RNode) × SNode)

set_option synthInstance.maxSize 1024 in
instance : DecidableEq Memo := inferInstance

def allSt : List Nat → List St
  | [] => [[]]
  | sz :: rest => (List.range sz).flatMap fun i => (allSt rest).map (i :: ·)

def allPairs (sizes : List Nat) : List (St × St) :=
  (allSt sizes).flatMap fun a => (allSt sizes).map fun b => (a, b)

/-- canonical form (= the reduced node) of a set / a relation -/
def normS (sizes : List Nat) (A : SNode) : SNode := (allSt sizes).filter fun s => A.contains s
def normR (sizes : List Nat) (B : RNode) : RNode := (allPairs sizes).filter fun p => B.contains p

def unionS (sizes : List Nat) (A B : SNode) : SNode :=
  (allSt sizes).filter fun s => A.contains s || B.contains s

def childS (A : SNode) (i : Nat) : SNode :=
  A.filterMap fun s => match s with
    | x :: a => if x = i then some a else none
    | [] => none

def mkS (cs : List SNode) : SNode :=
  (List.range cs.length).flatMap fun i => (cs.getD i []).map (i :: ·)

/-- matrix entry `i → j` of a relation node -/
def entryR (B : RNode) (i j : Nat) : RNode :=
  B.filterMap fun p => match p with
    | (x :: a, y :: b) => if x = i ∧ y = j then some (a, b) else none
    | _ => none

/-- the entry used to go from index `i` of the argument to index `j` of the result:
    forward `B[i][j]`, backward `B[j][i]` -/
def ent (fwd : Bool) (B : RNode) (i j : Nat) : RNode := if fwd then entryR B i j else entryR B j i

/-- the identity relation: a terminal node of an identity-reduced relation forest -/
def idR (sizes : List Nat) : RNode := (allSt sizes).map fun s => (s, s)

def commonDiagT (sz : Nat) (rest : List Nat) (M : RNode) : RNode :=
  (allPairs rest).filter fun p => (List.range sz).all fun i => M.contains (i :: p.1, i :: p.2)

/-- `mxd \ diag` in an identity-reduced relation forest (the correct reading) -/
def topExactlyT (sz : Nat) (rest : List Nat) (M : RNode) : RNode :=
  M.filter fun p => match p with
    | (i :: a, j :: b) => !(i == j && (commonDiagT sz rest M).contains (a, b))
    | _ => true

/-- `fillSplit`: from the top level down, the pairs `(top_at_or_below[k], top_exactly[k])` -/
def fillSplit : List Nat → RNode → List (RNode × RNode)
  | [], _ => []
  | sz :: rest, M => (M, topExactlyT sz rest M) :: fillSplit rest (commonDiagT sz rest M)

def pairs (n : Nat) : List (Nat × Nat) :=
  (List.range n).flatMap fun i => (List.range n).map fun j => (i, j)

def addS (rest : List Nat) (cs : List SNode) (j : Nat) (t : SNode) : List SNode :=
  cs.set j (unionS rest (cs.getD j []) t)

def numSt (sizes : List Nat) : Nat := (allSt sizes).length

section Alg
variable (fwd keyFix : Bool)

/-- one pass of the explorer of `_saturate_1(Cu)` over all edges `i → j` of `top_exactly[L]` -/
def sweepS (fire : SNode → RNode → Memo → SNode × Memo) (sz : Nat) (rest : List Nat) (E : RNode)
    (st : List SNode × Memo) : List SNode × Memo :=
  (pairs sz).foldl (fun st p =>
    let d := ent fwd E p.1 p.2
    if d = [] then st else
      let r := fire (st.1.getD p.1 []) d st.2
      (addS rest st.1 p.2 r.1, r.2)) st

/-- `_saturate_1(Cu)`: until no child changes -/
def loopS (fire : SNode → RNode → Memo → SNode × Memo) (sz : Nat) (rest : List Nat) (E : RNode) :
    Nat → List SNode × Memo → List SNode × Memo
  | 0, st => st
  | n+1, st =>
    let st' := sweepS fwd fire sz rest E st
    if st'.1 = st.1 then st' else loopS fire sz rest E n st'

/-- `recFire(L, A, B)` AS CODED, `L` = length of the size list; `sp` = the split from level `L`
    down.  `keyFix = false`: key `(L, A, B)`, the code before `fix:` a94b689; `keyFix = true`: the
    repair made by that commit (/verif/docs/patches/F4_satfire_key_includes_split.patch: key
    extended by `top_at_or_below[L]`). -/
def recFire : (sizes : List Nat) → List (RNode × RNode) → SNode → RNode → Memo → SNode × Memo
  | [], _, A, B, m => (if A = [] ∨ B = [] then [] else [[]], m)
  | sz :: rest, sp, A, B, m =>
    if A = [] ∨ B = [] then ([], m)
    else if B = idR (sz :: rest) then (A, m)               -- terminal B in an identity-reduced forest
    else
      let key := (rest.length + 1, A, B, if keyFix then (sp.headD ([], [])).1 else [])
      match m.find? (fun e => decide (e.1 = key)) with
      | some e => (e.2, m)                                    -- compute-table hit
      | none =>
        let fire := recFire rest sp.tail
        let st1 := (pairs sz).foldl (fun (st : List SNode × Memo) p =>
            let r := fire (childS A p.1) (ent fwd B p.1 p.2) st.2
            (addS rest st.1 p.2 r.1, r.2)) (List.replicate sz [], m)
        let st2 := loopS fwd fire sz rest (sp.headD ([], [])).2 (numSt (sz :: rest) + 1) st1
        let C := mkS st2.1
        (C, (key, C) :: st2.2)

/-- `saturate_1(L, A)`.  Its own compute table `saturate` is keyed by
    `(L, A, top_at_or_below[L])`, which determines the split at and below `L`: it is a
    transparent cache and is left out. -/
def saturate1 : (sizes : List Nat) → List (RNode × RNode) → SNode → Memo → SNode × Memo
  | [], _, A, m => (A, m)
  | sz :: rest, sp, A, m =>
    if A = [] then ([], m)
    else if (sp.headD ([], [])).1 = [] then (A, m)          -- 0 == B
    else
      let st1 := (List.range sz).foldl (fun (st : List SNode × Memo) i =>
          let r := saturate1 rest sp.tail (childS A i) st.2
          (st.1 ++ [r.1], r.2)) ([], m)
      let st2 := loopS fwd (recFire fwd keyFix rest sp.tail) sz rest (sp.headD ([], [])).2
                   (numSt (sz :: rest) + 1) st1
      (mkS st2.1, st2.2)

/-- `REACHABLE_SATUR(init, R)` with the compute table `m` left behind by earlier calls -/
def satur (sizes : List Nat) (R : RNode) (init : SNode) (m : Memo) : SNode × Memo :=
  saturate1 fwd keyFix sizes (fillSplit sizes (normR sizes R)) (normS sizes init) m

end Alg

/-! ### the witness of NOTES_reach.md: domain (3,2), state number `s = x₁ + 3·x₂` -/

/-- sizes, top variable first: `x₂ ∈ {0,1}`, `x₁ ∈ {0,1,2}` -/
def sizes : List Nat := [2, 3]

def st (s : Nat) : St := [s / 3, s % 3]
def rel (edges : List (Nat × Nat)) : RNode := edges.map fun e => (st e.1, st e.2)

/-- `REL0 = {1→2, 4→5, 5→3}` and `REL1 = {2→0}` -/
def REL0 : RNode := rel [(1, 2), (4, 5), (5, 3)]
def REL1 : RNode := rel [(2, 0)]

/-- the specification: backward reachability = the least fixed point on the converse -/
def specBwd (R : RNode) (init : SNode) : SNode :=
  normS sizes (Pregen.reachFix (allSt sizes) (fun s => init.contains s) (fun a b => R.contains (b, a)))

/-- the table after the FIRST call, `REACHABLE_SATUR` backward of `{3}` under `REL0` -/
def memo1 (keyFix : Bool) : Memo := (satur false keyFix sizes REL0 [st 3] []).2

/-- the first call is right: `{3, 4, 5}` -/
example : (satur false false sizes REL0 [st 3] []).1 = [st 3, st 4, st 5] ∧
    specBwd REL0 [st 3] = [st 3, st 4, st 5] := by decide +kernel

/-- the entries it leaves; the older one is `(1, {x₁=0}, {2→0}) ↦ {x₁=1, x₁=2}` — the pre-image
    `{2}` of `{0}` under the sub-node `{2→0}` of `REL0[1][1]`, SATURATED under
    `top_exactly[1](REL0) = {1→2}`, which adds `1` -/
example : memo1 false =
    ([((1, [[0], [1], [2]], [([2], [0])], []), [[1], [2]]),
      ((1, [[0]], [([2], [0])], []), [[1], [2]])] : Memo) := by decide +kernel

/-- `REL1 = {2→0}` has the very same sub-node `{2→0}` below its entry `[0][0]` -/
example : entryR (normR sizes REL1) 0 0 = [([2], [0])] ∧
    entryR (entryR (normR sizes REL0) 1 1) 2 0 = entryR (entryR (normR sizes REL1) 0 0) 2 0 := by
  decide +kernel

/-- the second call on a cold table is right: `{0, 2}` -/
theorem F4_cold_ok : (satur false false sizes REL1 [st 0] []).1 = specBwd REL1 [st 0] ∧
    specBwd REL1 [st 0] = [st 0, st 2] := by decide +kernel

theorem F4_values :
    (satur false false sizes REL1 [st 0] (memo1 false)).1 = [st 0, st 1, st 2] ∧
    (satur false false sizes REL1 [st 0] []).1 = [st 0, st 2] :=
  ⟨by decide +kernel, F4_cold_ok.1.trans F4_cold_ok.2⟩

/-- **F4** (known_findings.jsonl, status `fixed` by a94b689: `REACHABLE_SATUR was history
    dependent: the satfire compute-table key omitted the relation split below the level`; property
    C08; C++ site `saturation_set_mtrel::recFire`, satur_sets.cc:651-660, 912, 942 before the
    repair, compute table `satfire`).

    Witness in API terms: domain (3,2); fully-reduced boolean set forest; identity-reduced MxD
    forest; `REACHABLE_SATUR` backward `{1→2, 4→5, 5→3}` from `{3}`, then — without clearing the
    compute tables — `REACHABLE_SATUR` backward `{2→0}` from `{0}`: expected `{0, 2}`, returned
    `{0, 1, 2}` before the repair (an EXTRA state: unsound, not only incomplete).  Harness: reach
    probe 900000.

    Positive counterparts: `CT.lossy_ok` (a compute table is transparent provided every entry
    is the value of a FUNCTION OF ITS KEY — `CT.Consistent`; `F4_key_not_functional` shows that
    premise is what fails) and `Satur.satur_eq_lfp` (the recursion without tables). -/
theorem F4_violates :
    ¬ ((satur false false sizes REL1 [st 0] (memo1 false)).1 = specBwd REL1 [st 0]) := by
  rw [F4_values.1, F4_cold_ok.2]
  decide +kernel

/-- the root cause: `recFire` is not a function of its key.  Same key `(1, {x₁=0}, {2→0})`,
    cold table, the two splits: two different values. -/
theorem F4_key_not_functional :
    (recFire false false [3] (fillSplit sizes (normR sizes REL0)).tail [[0]] [([2], [0])] []).1
      ≠ (recFire false false [3] (fillSplit sizes (normR sizes REL1)).tail [[0]] [([2], [0])] []).1 := by
  decide +kernel

/-- with the repaired key (`top_at_or_below[L]` added) the warm table is harmless -/
theorem F4_repaired :
    (satur false true sizes REL1 [st 0] (memo1 true)).1 = specBwd REL1 [st 0] := by decide +kernel

end SatSets

/-! ## 4. F-C10-1 (C10) — the push-down copy has no case for `OMEGA_INFINITY`

  copy.cc:819-843 (`copy_EV<EdgeOp>::_compute`):

      if (argF->isTerminalNode(ap)) {
          // if (OMEGA_INFINITY == ap) then what???
          if (resF->isMultiTerminal()) { … av.copyInto(aint); cp = resF->handleForValue(aint); … }

  `av` is the sum of the edge values pushed down so far; which terminal was reached is not
  looked at.  The model is `EDD.copyEVtoMT` (Ops/EVApply.lean) with exactly that terminal case. -/

namespace FC10
open EDD

/-- `copy_EV<EdgeOp_plus>` into a multi-terminal integer forest AS CODED: at the bottom the
    accumulated edge value becomes the terminal, also when the terminal reached is `+∞` -/
def copyEVtoMT_asCoded (Sa Sc : Shape) (zc : Int) : Nat → Option Nat → (Int × EDD) → DD Int
  | 0, _, a => .leaf a.1
  | k+1, fi, a =>
    DD.mkNode Sc zc (k+1) fi
      ((List.range (Sc.size (k+1))).map fun i =>
        copyEVtoMT_asCoded Sa Sc zc k (some i) (cofactorE Sa (k+1) fi a i))

/-- domain (2,2), fully reduced (source EV+ forest and target MT forest) -/
def S22 : Shape := { top := 2, size := fun _ => 2, mode := fun _ => .red }

theorem S22_WF : S22.WF where
  size_ge := by intro p _ _; show 2 ≤ 2; omega
  ident_below_red := by intro p h; cases h

/-- the assignment `x₁ = a, x₂ = b` (table index `a + 2b`) -/
def asg (a b : Nat) : Assign := fun p => if p = 1 then a else if p = 2 then b else 0

def points : List (Nat × Nat) := [(0, 0), (1, 0), (0, 1), (1, 1)]

/-- the EV+ edge of the function `(3, ∞, 5, ∞)`: root value 3, `x₂ = 1` adds 2, `x₁ = 1` is `∞` -/
def src : Int × EDD :=
  (3, .node 2 [(0, .node 1 [(0, .omega), (0, .inf)]), (2, .node 1 [(0, .omega), (0, .inf)])])

example : RedEdge S22 2 none src = true := by decide +kernel

/-- its table, and the table of the copy AS CODED: `(3, ∞, 5, ∞) ↦ (3, 3, 5, 5)` -/
theorem FC10_1_tables :
    points.map (fun p => evalEdge S22 2 src (asg p.1 p.2)) = [some 3, none, some 5, none] ∧
    copyEVtoMT_asCoded S22 S22 0 2 none src = .node 2 [.leaf 3, .leaf 5] ∧
    points.map (fun p => DD.eval S22 0 2 (copyEVtoMT_asCoded S22 S22 0 2 none src) (asg p.1 p.2))
      = [3, 3, 5, 5] := by decide +kernel

/-- **F-C10-1** (known_findings.jsonl: `F-C10-1 COPY of an EV+ / index-set function through the
    push-down copy … has no case for the terminal OMEGA_INFINITY`; property C10; C++ site
    `copy_EV<EdgeOp>::_compute`, copy.cc:819-843, the branch commented `// then what???`).

    Witness in API terms: domain (2,2); fully-reduced EV+ set forest → fully-reduced MT integer
    set forest; `f = (3, ∞, 5, ∞)` (table index `x₁ + 2x₂`); `apply(COPY, f, g)` gives
    `g = (3, 3, 5, 5)` (harness: `mdh copy --seed 1 --case 1950`).

    NEGATION of `copyEVtoMT_eval` for the code as it is: there is NO value `infv` such that the
    copy is "the source, with `+∞ ↦ infv`" — `+∞` becomes a context-dependent finite value.

    Positive counterpart: `EDD.copyEVtoMT_eval` / `EDD.copyEVtoMT_eval_top` (every shape, every
    edge: `eval (copyEVtoMT … infv a) x = (evalEdge a x).getD infv`), instantiated in
    `FC10_1_positive`. -/
theorem FC10_1_violates :
    ¬ ∃ infv : Int, ∀ p, p ∈ points →
        DD.eval S22 0 2 (copyEVtoMT_asCoded S22 S22 0 2 none src) (asg p.1 p.2)
          = (evalEdge S22 2 src (asg p.1 p.2)).getD infv := by
  rintro ⟨v, h⟩
  have h1 := h (1, 0) (by decide +kernel)
  have h2 := h (1, 1) (by decide +kernel)
  have e1 : DD.eval S22 0 2 (copyEVtoMT_asCoded S22 S22 0 2 none src) (asg 1 0) = 3 := by decide +kernel
  have e2 : DD.eval S22 0 2 (copyEVtoMT_asCoded S22 S22 0 2 none src) (asg 1 1) = 5 := by decide +kernel
  have i1 : evalEdge S22 2 src (asg 1 0) = none := by decide +kernel
  have i2 : evalEdge S22 2 src (asg 1 1) = none := by decide +kernel
  rw [e1, i1] at h1
  rw [e2, i2] at h2
  have h1' : (3 : Int) = v := h1
  have h2' : (5 : Int) = v := h2
  omega

/-- the model of the intended copy on the same edge, for any chosen image `infv` of `+∞` -/
theorem FC10_1_positive (infv : Int) (x : Assign) (hx : Assign.Valid S22 x) :
    DD.eval S22 0 S22.top (copyEVtoMT S22 S22 0 infv S22.top none src) x
      = (evalEdge S22 S22.top src x).getD infv :=
  copyEVtoMT_eval_top 0 infv S22_WF S22_WF ⟨rfl, fun _ => rfl⟩ src x hx

/-- control: on a function without `+∞` the code as it is agrees with the model -/
example :
    copyEVtoMT_asCoded S22 S22 0 2 none
        (3, .node 2 [(0, .node 1 [(0, .omega), (4, .omega)]), (2, .omega)])
      = copyEVtoMT S22 S22 0 (-1) 2 none
        (3, .node 2 [(0, .node 1 [(0, .omega), (4, .omega)]), (2, .omega)]) := by decide +kernel

end FC10

/-! ## 5. C05-F1 — MAX_RANGE / MIN_RANGE walk the sparse view

  maxmin_range.cc (`range_templ<RTYPE>::_compute`):

      unpacked_node* Au = unpacked_node::newFromNode(argF, A, SPARSE_ONLY);
      _compute(Au->down(0), r);
      for (i = 1; i < Au->getSize(); i++) { _compute(Au->down(i), tmp); RTYPE::updateItem(r, tmp); }

  The sparse view holds the NON-ZERO children only: the value 0 is never seen (unless the whole
  function is the terminal 0). -/

namespace C05F1

/-- `range_templ::_compute` AS CODED on a tree of a fully-reduced MT integer forest
    (`op` = `min` / `max`; first argument: recursion fuel ≥ number of levels) -/
def range_asCoded (op : Int → Int → Int) : Nat → DD Int → Int
  | 0, d => DD.leafVal 0 d
  | _+1, .leaf v => v
  | f+1, .node _ cs =>
    match cs.filter (fun c => c != .leaf 0) with       -- SPARSE_ONLY
    | [] => 0                                          -- not a stored node
    | c :: rest => rest.foldl (fun acc d => op acc (range_asCoded op f d)) (range_asCoded op f c)

def rangeMin_asCoded (S : Shape) (a : DD Int) : Int := range_asCoded min S.top a
def rangeMax_asCoded (S : Shape) (a : DD Int) : Int := range_asCoded max S.top a

open FC10 (S22 S22_WF asg points)

/-- `{5, 0, 0, 3}` over (2,2) (table index `x₁ + 2x₂`) and `{-5, 0, 0, -3}` -/
def a : DD Int := .node 2 [.node 1 [.leaf 5, .leaf 0], .node 1 [.leaf 0, .leaf 3]]
def b : DD Int := .node 2 [.node 1 [.leaf (-5), .leaf 0], .node 1 [.leaf 0, .leaf (-3)]]

example : DD.Red S22 0 2 none a = true ∧
    points.map (fun p => DD.eval S22 0 2 a (asg p.1 p.2)) = [5, 0, 0, 3] := by decide +kernel

theorem C05_F1_values :
    rangeMin_asCoded S22 a = 3 ∧ Arith.rangeMinDD S22 a = 0 ∧
    rangeMax_asCoded S22 b = -3 ∧ Arith.rangeMaxDD S22 b = 0 := by decide +kernel

/-- **C05-F1** (known_findings.jsonl: `MAX_RANGE / MIN_RANGE (maxmin_range.cc
    range_templ::_compute) walk the SPARSE view of every node and therefore ignore zero entries`;
    property C05; C++ site `range_templ<RTYPE>::_compute`, maxmin_range.cc).

    Witness in API terms: domain (2,2), fully-reduced MT integer set forest, `A = {5, 0, 0, 3}`:
    `apply(MIN_RANGE, A, v)` gives `v = 3`, the function takes the value 0 at `x₁=1, x₂=0`
    (harness: `mdh arith --probe 1 --case 900000`; 900001 is `MAX_RANGE {-5,0,0,-3} = -3`).

    NEGATION of the lower-bound half of `range_min_spec` for the code as it is.
    Positive counterpart: `Arith.range_min_spec` / `Arith.range_max_spec` (every shape, every
    tree: `rangeMinDD` is a lower bound over ALL valid assignments and is attained). -/
theorem C05_F1_violates :
    ¬ (∀ p, p ∈ points → rangeMin_asCoded S22 a ≤ DD.eval S22 0 2 a (asg p.1 p.2)) := by decide +kernel

theorem C05_F1_max_violates :
    ¬ (∀ p, p ∈ points → DD.eval S22 0 2 b (asg p.1 p.2) ≤ rangeMax_asCoded S22 b) := by decide +kernel

/-- … and against the model of the query -/
theorem C05_F1_ne_model : rangeMin_asCoded S22 a ≠ Arith.rangeMinDD S22 a := by decide +kernel

/-- control: where 0 is not the extreme value the sparse walk is right -/
example : rangeMax_asCoded S22 a = Arith.rangeMaxDD S22 a ∧
    rangeMin_asCoded S22 b = Arith.rangeMinDD S22 b := by decide +kernel

end C05F1

/-! ## 6. C05-F4 — `x / x := 1`, `x % x := 0`, EV+ `A − A := 0` by the equal-operands shortcut

  arith_templ.h:261 / 747 / 1216 (all three templates), after the both-terminals case:

      if ( ATYPE::stopOnEqualArgs() && (arg1F == arg2F) && (A == B) [&& (av == bv)] )
      {   ATYPE::makeEqualResult(L, in, …, resF, cv, C, copy_arg1res);   return;   }

  arith_div.cc:53-66 (`makeEqualResult`: the constant 1, "this (perhaps wrongly) assumes that the
  function encoded by a has no zero values; otherwise we're returning 1 for 0/0"),
  arith_mod.cc (constant 0), arith_minus.cc:112-119 (EV+: constant 0). -/

namespace C05F4
open Spec.Arith

/-- `makeEqualResult` of the operations with `stopOnEqualArgs()` whose scalar rule is partial -/
def equalResult : ArithOp → Option Val
  | .div => some (.i 1)
  | .mod => some (.i 0)
  | .minus => some (.i 0)
  | _ => none

/-- element-wise arithmetic AS CODED w.r.t. this shortcut (one forest `S` for both operands and
    the result, values in the leaves as in `Arith.arith`): `DD.applyE2` with the test
    "identical operand edges" in front of the recursion (after the both-terminals case) -/
def arith_asCoded (S : Shape) (z : Val) (op : ArithOp) (rng : Rng) :
    Nat → Option Nat → DD Val → DD Val → Except String (DD Val)
  | 0, _, a, b =>
    match scalar op rng (leafVal z a) (leafVal z b) with
    | .ok v => .ok (.leaf v)
    | .error e => .error e
  | k+1, fi, a, b =>
    if a = b ∧ (equalResult op).isSome then .ok (.leaf ((equalResult op).getD z))
    else
      match DD.mapE (fun i => arith_asCoded S z op rng k (some i)
                      (cofactor S z (k+1) fi a i) (cofactor S z (k+1) fi b i))
                 (List.range (S.size (k+1))) with
      | .ok cs => .ok (mkNode S z (k+1) fi cs)
      | .error e => .error e

open FC10 (S22)

/-- `{1, 0, 3, 4}` over (2,2) in an MT integer forest; `{1, ∞, 3, 4}` in an EV+ forest -/
def A : DD Val := .node 2 [.node 1 [.leaf (.i 1), .leaf (.i 0)], .node 1 [.leaf (.i 3), .leaf (.i 4)]]
def E : DD Val := .node 2 [.node 1 [.leaf (.i 1), .leaf .inf], .node 1 [.leaf (.i 3), .leaf (.i 4)]]

/-- scalar level: the three shortcut answers against `Spec.Arith.scalar` at the offending values -/
theorem C05_F4_scalar (rng : Rng) :
    scalar .div rng (.i 0) (.i 0) = .error errDivZero ∧
    scalar .mod rng (.i 0) (.i 0) = .error errDivZero ∧
    scalar .minus rng .inf .inf = .error errSubInf :=
  ⟨Arith.div_zero_zero_unsound rng, Arith.mod_zero_zero_unsound rng, Arith.minus_self_unsound rng⟩

/-- the shortcut answers as claims about the scalar rule: each holds at the values the authors had
    in mind and fails at `x = 0` (DIVIDE, MODULO) resp. `x = ∞` (EV+ MINUS) -/
theorem C05_F4_scalar_violates :
    ¬ (∀ x, x ∈ [Val.i 2, .i 1, .i 0] → scalar .div .int x x = .ok (.i 1)) ∧
    ¬ (∀ x, x ∈ [Val.i 2, .i 1, .i 0] → scalar .mod .int x x = .ok (.i 0)) ∧
    ¬ (∀ x, x ∈ [Val.i 2, .i 0, .inf] → scalar .minus .int x x = .ok (.i 0)) := by decide +kernel

theorem C05_F4_values :
    arith_asCoded S22 (.i 0) .div .int 2 none A A = .ok (.leaf (.i 1)) ∧
    Arith.arith S22 S22 S22 (.i 0) (.i 0) (.i 0) .div .int A A = .error "DIVIDE_BY_ZERO" ∧
    arith_asCoded S22 (.i 0) .mod .int 2 none A A = .ok (.leaf (.i 0)) ∧
    Arith.arith S22 S22 S22 (.i 0) (.i 0) (.i 0) .mod .int A A = .error "DIVIDE_BY_ZERO" ∧
    arith_asCoded S22 .inf .minus .int 2 none E E = .ok (.leaf (.i 0)) ∧
    Arith.arith S22 S22 S22 .inf .inf .inf .minus .int E E = .error "SUBTRACT_INFINITY" := by
  decide +kernel

/-- **C05-F4** (known_findings.jsonl: `DIVIDE / MODULO decide 0/0 by a shortcut instead of
    raising DIVIDE_BY_ZERO: x/x := 1 and x%x := 0 for identical operand edges even where x = 0`
    and `EV+ MINUS returns values where the subtrahend is infinite: A-A := 0 for identical edges
    containing infinity`; property C05; C++ sites arith_templ.h:261/747/1216,
    arith_div.cc:53-66, arith_mod.cc, arith_minus.cc:112-119).

    Witness in API terms: domain (2,2), one fully-reduced MT integer set forest,
    `A = {1, 0, 3, 4}`, `apply(DIVIDE, A, A, C)`: returns the constant 1 instead of raising
    DIVIDE_BY_ZERO (harness: `mdh arith --probe 1 --case 900005`; 900007 MODULO; 900008 EV+
    MINUS with `A = {1, ∞, 3, 4}`: constant 0 instead of SUBTRACT_INFINITY).

    NEGATION of `arith_error_iff` ("raises iff the scalar rule is invalid at SOME assignment")
    for the code as it is: the scalar rule is invalid at `x₁=1, x₂=0`, the call returns a value.
    Positive counterparts: `Arith.arith_error_iff`, `Arith.arith_eval`; the identities the
    shortcut is entitled to are `Arith.div_self`, `Arith.mod_self` (for `a ≠ 0`) and
    `Arith.minus_self` (finite `a`); their failing instances `Arith.div_zero_zero_unsound`,
    `Arith.mod_zero_zero_unsound`, `Arith.minus_self_unsound`. -/
theorem C05_F4_violates :
    ¬ ((∃ e, arith_asCoded S22 (.i 0) .div .int 2 none A A = .error e) ↔
        ∃ p, p ∈ FC10.points ∧ ∃ e,
          scalar .div .int (eval S22 (.i 0) 2 A (FC10.asg p.1 p.2))
                           (eval S22 (.i 0) 2 A (FC10.asg p.1 p.2)) = .error e) := by
  intro h
  have hr : ∃ p, p ∈ FC10.points ∧ ∃ e,
      scalar .div .int (eval S22 (.i 0) 2 A (FC10.asg p.1 p.2))
                       (eval S22 (.i 0) 2 A (FC10.asg p.1 p.2)) = .error e :=
    ⟨(1, 0), by decide +kernel, "DIVIDE_BY_ZERO", by decide +kernel⟩
  obtain ⟨e, he⟩ := h.mpr hr
  rw [C05_F4_values.1] at he
  cases he

/-- the same for EV+ MINUS -/
theorem C05_F4_minus_violates :
    arith_asCoded S22 .inf .minus .int 2 none E E
      ≠ Arith.arith S22 S22 S22 .inf .inf .inf .minus .int E E := by
  rw [C05_F4_values.2.2.2.2.1, C05_F4_values.2.2.2.2.2]; decide +kernel

/-- control: operands without a zero / an infinity — shortcut and model agree -/
example :
    arith_asCoded S22 (.i 0) .div .int 2 none
        (.node 2 [.leaf (.i 2), .leaf (.i 5)]) (.node 2 [.leaf (.i 2), .leaf (.i 5)])
      = Arith.arith S22 S22 S22 (.i 0) (.i 0) (.i 0) .div .int
        (.node 2 [.leaf (.i 2), .leaf (.i 5)]) (.node 2 [.leaf (.i 2), .leaf (.i 5)]) := by decide +kernel

end C05F4

/-! ## 7. F10 (C08) — saturation on MT-integer distance sets drops the distance-0 children

  satur_sets.cc:449-474 (`saturate_1`) and 544-548 (`_saturate_1`) before the repair `fix:` 97fca01
  (full unpacking, and the explorer seeded by the unreachable test):

      unpacked_node* Au = unpacked_node::New(resF, SPARSE_ONLY);  …  Au->initFromNode(A);
      unpacked_node* Cu = unpacked_node::newWritable(resF, L, FULL_ONLY);
      ATYPE::setAllUnreachable(Cu);                       // mt_distance: every entry := -1
      for (z = 0; z < Au->getSize(); z++) { … Cu->setFull(Au->index(z), cdv, cdp); }
      …
      for (i = 0; i < Cu->getSize(); i++) if (Cu->down(i)) explorers[L].wasUpdated(i);

  In an MT-integer forest the transparent terminal is the VALUE 0 = "distance 0" (handle 0),
  "unreachable" is the terminal -1 (`mt_distance`, prepost_common.h).  The sparse view drops the
  children with handle 0, so they stay at the `-1` of `setAllUnreachable`; and the explorer is
  seeded with `down(i) != 0`, which is true for `-1` and false for distance 0.

  The model: one level (domain `(n)`), the node is its vector of terminal children. -/

namespace F10

/-- `mt_distance::isUnreachable` on a terminal value -/
def unreachable (v : Int) : Bool := decide (v < 0)

/-- `addToCi` with `accumulateOp = DIST_MIN`; returns the new entry and "changed" -/
def addTo (c v : Int) : Int × Bool :=
  if unreachable v then (c, false)
  else if unreachable c then (v, true)
  else (min c v, decide (min c v ≠ c))

/-- the explorer loop of `_saturate_1(Cu)` at level 1: `queue` = indexes whose child was updated;
    an edge `i → j` fires `recFire(0, Cu[i], ·)` = DIST_INC of a reachable `Cu[i]`, skipped when
    `areAllReachable(Cu[j])` (`Cu[j]` is the terminal 0) -/
def explore (E : List (Nat × Nat)) : Nat → List Int → List Nat → List Int
  | 0, cu, _ => cu
  | _, cu, [] => cu
  | f+1, cu, i :: q =>
    let st := (E.filter fun e => e.1 == i).foldl (fun (st : List Int × List Nat) e =>
      let cj := st.1.getD e.2 (-1)
      let ci := st.1.getD i (-1)
      if cj == 0 then st
      else
        let r := addTo cj (if unreachable ci then -1 else ci + 1)
        if r.2 then (st.1.set e.2 r.1, st.2 ++ [e.2]) else st) (cu, q)
    explore E f st.1 st.2

/-- `saturate_1(1, A)` on an MT-integer distance node with child vector `A`, relation `rel` on one
    variable of size `n` (identity-reduced forest; `top_exactly[1]` = `rel` minus the self loops when
    ALL of them are present).  `sparseUnpack = true`, `seedNonzero = true`: the code before `fix:`
    97fca01; both `false`: the repair made by that commit
    (/verif/docs/patches/F10_saturate_full_unpack_unreachable_test.patch). -/
def saturate1_asCoded (sparseUnpack seedNonzero : Bool) (n : Nat) (rel : List (Nat × Nat))
    (A : List Int) : List Int :=
  if rel = [] then A else
  let Au : List (Nat × Int) :=
    ((List.range n).map fun i => (i, A.getD i 0)).filter fun e => !sparseUnpack || e.2 != 0
  let cu0 : List Int := Au.foldl (fun cu e => cu.set e.1 (if unreachable e.2 then -1 else e.2))
    (List.replicate n (-1))
  let allLoops := (List.range n).all fun i => rel.contains (i, i)
  let E := rel.filter fun e => !(allLoops && e.1 == e.2)
  if E = [] then cu0 else
  let seeds := (List.range n).filter fun i =>
    if seedNonzero then cu0.getD i (-1) != 0 else !unreachable (cu0.getD i (-1))
  explore E ((n + 1) * (n + 1) + 1) cu0 seeds

/-- the specification on the same data: shortest distances (`Reach.dist`), unreachable = -1 -/
def distSpec (n : Nat) (rel : List (Nat × Nat)) (init : List (Fin n)) : List Int :=
  (Spec.ReachTables.distList n (fun a b => rel.contains (a.val, b.val)) init).map fun d =>
    match d with
    | some k => (k : Int)
    | none => -1

theorem F10_values :
    saturate1_asCoded true true 2 [(0, 1)] [0, -1] = [-1, -1] ∧
    saturate1_asCoded false true 2 [(0, 1)] [0, -1] = [0, -1] ∧
    saturate1_asCoded false false 2 [(0, 1)] [0, -1] = [0, 1] ∧
    distSpec 2 [(0, 1)] [0] = [0, 1] := by decide +kernel

/-- **F10** (known_findings.jsonl, status `fixed` by 97fca01: `REACHABLE_SATUR on MT-integer
    distance sets lost the distance-0 states`; property C08; C++ sites
    `saturation_set_mtrel::saturate_1`, satur_sets.cc:449 (SPARSE_ONLY) and `_saturate_1`,
    satur_sets.cc:545 (`if (Cu->down(i))`), both before the repair).

    Witness in API terms: domain (2); fully-reduced MT integer set forest; identity-reduced MxD
    forest; relation `{0→1}`; initial distance function `(0, -1)` (state 0 at distance 0, state 1
    unreachable); `REACHABLE_SATUR` forward returned `(-1, -1)` before the repair,
    `REACHABLE_TRAD_NOFS` and the specification give `(0, 1)` (harness: reach probe 900013).

    Positive counterparts: `Reach.dist_eq_shortest`, `Reach.dist_nofrontier_eq_dist`,
    `Spec.ReachTables.distList_spec` (the distance specification and the breadth-first loop that
    meets it); `F10_values` shows the model of the repaired code meeting it on the witness. -/
theorem F10_violates :
    ¬ (saturate1_asCoded true true 2 [(0, 1)] [0, -1] = distSpec 2 [(0, 1)] [0]) := by decide +kernel

/-- control ("correct when no state has distance 0"): start offset 1 -/
example : saturate1_asCoded true true 2 [(0, 1)] [1, -1] = [1, 2] := by decide +kernel

end F10

/-! ## 8. (same family as 5/6) C05-F2 — DIST_INC with an identity-reduced argument forest

  dist_inc.cc (`dist_inc_mt::_compute`), terminal case and the chaining after the recursion:

      const long tc = (ta < 0) ? ta : (ta+1);
      cp = resF->handleForValue(tc);
      if (argF->isIdentityReduced()) cp = resF->makeIdentitiesTo(cp, 0, L, in);

  The levels the argument skips are rebuilt as identity patterns around the INCREMENTED terminal;
  the off-diagonal entries of such a pattern are the transparent terminal 0 of the result forest,
  but the argument is 0 there and DIST_INC of 0 is 1. -/

namespace C05F2

def inc (v : Int) : Int := if v < 0 then v else v + 1

/-- DIST_INC AS CODED on trees (`apply1` of `inc`, except that the off-diagonal indexes of an
    identity position the argument skips get the transparent terminal: `makeIdentitiesTo`) -/
def distInc_asCoded (Sa Sc : Shape) : Nat → Option Nat → DD Int → DD Int
  | 0, _, a => .leaf (inc (leafVal 0 a))
  | k+1, fi, a =>
    mkNode Sc 0 (k+1) fi ((List.range (Sc.size (k+1))).map fun i =>
      if Sa.mode (k+1) = .ident ∧ a.isNodeAt (k+1) = false ∧ fi.isSome ∧ fi ≠ some i then .leaf 0
      else distInc_asCoded Sa Sc k (some i) (cofactor Sa 0 (k+1) fi a i))

open F7 (Rident Rfully)

/-- relation over one variable of size 2, table index `x' + 2x` -/
def rpoints : List (Nat × Nat) := [(0, 0), (0, 1), (1, 0), (1, 1)]
def rasg (x x' : Nat) : Assign := fun p => if p = 2 then x else if p = 1 then x' else 0

theorem C05_F2_values :
    rpoints.map (fun p => eval Rident 0 2 (.leaf 4) (rasg p.1 p.2)) = [4, 0, 0, 4] ∧
    rpoints.map (fun p => eval Rfully 0 2 (distInc_asCoded Rident Rfully 2 none (.leaf 4))
      (rasg p.1 p.2)) = [5, 0, 0, 5] ∧
    rpoints.map (fun p => eval Rfully 0 2 (apply1 Rident Rfully 0 0 inc 2 none (.leaf 4))
      (rasg p.1 p.2)) = [5, 1, 1, 5] := by decide +kernel

/-- **C05-F2** (known_findings.jsonl: `DIST_INC with an identity-reduced argument forest is not
    pointwise`; property C05; C++ site `dist_inc_mt::_compute`, dist_inc.cc, `makeIdentitiesTo`).

    Witness in API terms: relation over domain (2); argument `A = diag(4,4)` in an
    identity-reduced MT integer MxD forest (stored as the terminal 4); result forest fully
    reduced; `apply(DIST_INC, A, C)` gives `5 0 0 5` instead of `5 1 1 5`
    (harness: `mdh arith --probe 1 --case 900002`).

    NEGATION of `unary_eval` for the code as it is.
    Positive counterpart: `Arith.unary_eval` (DIST_INC = `apply1` of the scalar map is pointwise
    for every pair of reduction rules; the `decide` example after it is this very input). -/
theorem C05_F2_violates :
    ¬ (∀ p, p ∈ rpoints →
        eval Rfully 0 2 (distInc_asCoded Rident Rfully 2 none (.leaf 4)) (rasg p.1 p.2)
          = inc (eval Rident 0 2 (.leaf 4) (rasg p.1 p.2))) := by decide +kernel

/-- control: with a fully-reduced argument forest the code as it is IS `apply1` on the witness tree -/
example :
    distInc_asCoded Rfully Rfully 2 none (.node 2 [.node 1 [.leaf 4, .leaf 0], .node 1 [.leaf 0, .leaf 4]])
      = apply1 Rfully Rfully 0 0 inc 2 none
          (.node 2 [.node 1 [.leaf 4, .leaf 0], .node 1 [.leaf 0, .leaf 4]]) := by decide +kernel

end C05F2

/-! ## Summary

| tag (known_findings.jsonl) | property | C++ site | model AS CODED | witness (API terms) | `_violates` theorem | positive counterpart |
|---|---|---|---|---|---|---|
| F12 (C20, family pregen) | saturation = lfp (`satur_eq_lfp`) | `forwd_dfs_by_events_mt::recFire`, sat_pregen.cc:628-632, 707 (`rLevel = MAX(ABS(mxdLevel), mddLevel)`, `saturateHelper(*nb)` only there) | `F12.recFireJump`, `F12.saturateJump` | dom (2,2,2); fully-reduced MDD, identity-reduced MxD; EV1 `x₁:1→0 ∧ x₃:0→1`, EV2 `x₁:0→1 ∧ x₂:0→1`; init `{x₁=1,x₃=0}`: (1,1,1) missing (4 states instead of 5); `pregen --case 15` | `F12.F12_violates`, `F12.F12_witness`, `F12.F12_jump_ne_saturate` | `Satur.satur_eq_lfp`, `Satur.satur_eq_reachFix` (`F12.F12_positive`); control `F12.F12_quasi_control` |
| F7 (C08, family reach; F5(b) same mechanism) | split union = relation; saturation = lfp | `saturation_set_mtrel::fillSplit`, satur_sets.cc:1040-1072 (`mxdDifference(k, mxd, diag)`, `diag` below level k); repaired in /repo by `fix:` 709bd2b | `F7.topExactly_asCoded .fully`, `F7.splitPieces_asCoded`, `F7.saturSplit` | dom (2); fully-reduced MxD; relation `{0→0,0→1,1→1}`; forward from `{0}`: `{0}` instead of `{0,1}`; reach probe 900007 | `F7.F7_violates`, `F7.F7_split_violates`, `F7.F7_dd_difference` | `Reach.split_union`, `Reach.reachable_split`, `Reach.saturation_schedule_correct` (`F7.F7_positive`, `F7.F7_positive_reach`, `F7.splitPieces_asCoded_ident`) |
| F4 (C08, family reach) | result independent of compute-table contents; saturation = lfp | `saturation_set_mtrel::recFire`, satur_sets.cc:651-660 (key `(L, A, B)`), 912 (`saturate_1(Cu)`), 942 (`addCT`); repaired in /repo by `fix:` a94b689 | `SatSets.recFire false false`, `SatSets.satur` with a threaded `Memo` | dom (3,2); fully-reduced bool set forest, identity-reduced MxD; SAT bwd `{1→2,4→5,5→3}` from `{3}`, then SAT bwd `{2→0}` from `{0}` without clearing: `{0,1,2}` instead of `{0,2}`; reach probe 900000 | `SatSets.F4_violates`, `SatSets.F4_key_not_functional` | `CT.lossy_ok` (premise `CT.Consistent`), `Satur.satur_eq_lfp`; repair `SatSets.F4_repaired`, cold table `SatSets.F4_cold_ok` |
| F-C10-1 (C10, family copy) | copy preserves the function (`+∞ ↦` one fixed image) | `copy_EV<EdgeOp>::_compute`, copy.cc:819-843 (`// if (OMEGA_INFINITY == ap) then what???`) | `FC10.copyEVtoMT_asCoded` | dom (2,2); EV+ fully → MT int fully; `(3,∞,5,∞) ↦ (3,3,5,5)`; `copy --seed 1 --case 1950` | `FC10.FC10_1_violates`, `FC10.FC10_1_tables` | `EDD.copyEVtoMT_eval`, `EDD.copyEVtoMT_eval_top` (`FC10.FC10_1_positive`) |
| C05-F1 (C05, family arith) | MIN_RANGE / MAX_RANGE = extreme value over ALL assignments | `range_templ<RTYPE>::_compute`, maxmin_range.cc (`newFromNode(argF, A, SPARSE_ONLY)`) | `C05F1.range_asCoded`, `rangeMin_asCoded`, `rangeMax_asCoded` | dom (2,2), MT int fully; `MIN_RANGE {5,0,0,3} = 3 ≠ 0`, `MAX_RANGE {-5,0,0,-3} = -3 ≠ 0`; arith probes 900000/900001 | `C05F1.C05_F1_violates`, `C05_F1_max_violates`, `C05_F1_ne_model` | `Arith.range_min_spec`, `Arith.range_max_spec` |
| C05-F4 (C05, family arith) | raises iff the scalar rule is invalid somewhere (`arith_error_iff`) | arith_templ.h:261/747/1216 (`stopOnEqualArgs … makeEqualResult`), arith_div.cc:53-66, arith_mod.cc, arith_minus.cc:112-119 | `C05F4.arith_asCoded`, `C05F4.equalResult` | dom (2,2), one forest, `A = {1,0,3,4}`: `A / A = 1`, `A % A = 0` instead of DIVIDE_BY_ZERO; EV+ `A = {1,∞,3,4}`: `A − A = 0` instead of SUBTRACT_INFINITY; arith probes 900005/900007/900008 | `C05F4.C05_F4_violates`, `C05_F4_minus_violates`, `C05_F4_scalar_violates` | `Arith.arith_error_iff`, `Arith.arith_eval`; `Arith.div_self`, `Arith.mod_self`, `Arith.minus_self` vs `Arith.div_zero_zero_unsound`, `Arith.mod_zero_zero_unsound`, `Arith.minus_self_unsound` |
| F10 (C08, family reach) | distance saturation = shortest distances | `saturation_set_mtrel::saturate_1`, satur_sets.cc:449 (`SPARSE_ONLY`), `_saturate_1`, satur_sets.cc:545 (`if (Cu->down(i))`); repaired in /repo by `fix:` 97fca01 | `F10.saturate1_asCoded true true` | dom (2); MT int set forest; relation `{0→1}`; init `(0,-1)`: SAT `(-1,-1)` instead of `(0,1)`; reach probe 900013 | `F10.F10_violates` | `Reach.dist_eq_shortest`, `Reach.dist_nofrontier_eq_dist`, `Spec.ReachTables.distList_spec`; repair in `F10.F10_values` |
| C05-F2 (C05, family arith; extra) | DIST_INC is pointwise (`unary_eval`) | `dist_inc_mt::_compute`, dist_inc.cc (`makeIdentitiesTo(cp, 0, L, in)`) | `C05F2.distInc_asCoded` | relation (2), identity-reduced argument `diag(4,4)`, fully-reduced result: `5 0 0 5` instead of `5 1 1 5`; arith probe 900002 | `C05F2.C05_F2_violates` | `Arith.unary_eval` |

Every `_violates` theorem rests on kernel evaluation (`decide`) of the executable `_asCoded`
definition on the witness, directly or through the evaluated `_witness` / `_values` / `_tables`
theorem it is derived from; no `sorry`, no `native_decide`, no added axiom.

`#print axioms` (Lean 4.33.0), output of the commands at the end of this file:

    'Meddly.KnownFindings.F12.F12_violates' depends on axioms: [propext, Quot.sound]
    'Meddly.KnownFindings.F12.F12_witness' depends on axioms: [propext, Quot.sound]
    'Meddly.KnownFindings.F7.F7_violates' depends on axioms: [propext, Quot.sound]
    'Meddly.KnownFindings.F7.F7_split_violates' depends on axioms: [propext]
    'Meddly.KnownFindings.SatSets.F4_violates' depends on axioms: [propext]
    'Meddly.KnownFindings.SatSets.F4_key_not_functional' depends on axioms: [propext]
    'Meddly.KnownFindings.FC10.FC10_1_violates' depends on axioms: [propext, Quot.sound]
    'Meddly.KnownFindings.C05F1.C05_F1_violates' depends on axioms: [propext]
    'Meddly.KnownFindings.C05F1.C05_F1_max_violates' depends on axioms: [propext]
    'Meddly.KnownFindings.C05F4.C05_F4_violates' depends on axioms: [propext, Quot.sound]
    'Meddly.KnownFindings.C05F4.C05_F4_minus_violates' depends on axioms: [propext]
    'Meddly.KnownFindings.C05F4.C05_F4_scalar_violates' depends on axioms: [propext]
    'Meddly.KnownFindings.F10.F10_violates' depends on axioms: [propext]
    'Meddly.KnownFindings.C05F2.C05_F2_violates' depends on axioms: [propext]
    (positive instances, for contrast)
    'Meddly.KnownFindings.F12.F12_positive' depends on axioms: [propext, Classical.choice, Quot.sound]
    'Meddly.KnownFindings.F7.F7_positive' depends on axioms: [propext, Classical.choice, Quot.sound]
    'Meddly.KnownFindings.FC10.FC10_1_positive' depends on axioms: [propext, Quot.sound]
-/

end KnownFindings
end Meddly

#print axioms Meddly.KnownFindings.F12.F12_violates
#print axioms Meddly.KnownFindings.F12.F12_witness
#print axioms Meddly.KnownFindings.F7.F7_violates
#print axioms Meddly.KnownFindings.F7.F7_split_violates
#print axioms Meddly.KnownFindings.SatSets.F4_violates
#print axioms Meddly.KnownFindings.SatSets.F4_key_not_functional
#print axioms Meddly.KnownFindings.FC10.FC10_1_violates
#print axioms Meddly.KnownFindings.C05F1.C05_F1_violates
#print axioms Meddly.KnownFindings.C05F1.C05_F1_max_violates
#print axioms Meddly.KnownFindings.C05F4.C05_F4_violates
#print axioms Meddly.KnownFindings.C05F4.C05_F4_minus_violates
#print axioms Meddly.KnownFindings.C05F4.C05_F4_scalar_violates
#print axioms Meddly.KnownFindings.F10.F10_violates
#print axioms Meddly.KnownFindings.C05F2.C05_F2_violates
#print axioms Meddly.KnownFindings.F12.F12_positive
#print axioms Meddly.KnownFindings.F7.F7_positive
#print axioms Meddly.KnownFindings.FC10.FC10_1_positive
