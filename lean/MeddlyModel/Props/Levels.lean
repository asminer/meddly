/-
  The position numbering of the Lean model IS the library's level order.

  `Gen.Levels.*` (`MDD.downLevel … MXD.primedOfLevel`, `isLevelAbove`, `MAX`, `ABS`) are GENERATED from
  /repo/src/forest_levels.h and /repo/src/defines.h by translate/levels_to_lean.py (clang's typed AST ->
  Lean functions over `Int`, with a generated predicate `f_defined` = "no signed overflow on the way").
  Everything below is proved about those generated definitions; a change of the headers that changes the
  level order changes the generated file and breaks these proofs.

  The whole Lean model (Core/DD.lean, Core/Dump.lean, Ops/*) works with POSITIONS: a set forest over K
  variables has positions K … 1 (= levels), a relation forest positions 2K … 1 where position 2k is the
  unprimed level k and position 2k-1 the primed level -k; position 0 = terminals.  The harness prints the
  position of every dumped node with `posOfLevel` (harness/common.h).  What is proved here:

    * `pos` (= the harness's `posOfLevel(rel = true, ·)` on levels ≠ 0, and 0 on the terminal level 0) is a
      bijection between levels and positions ≥ 0                                   (`pos_inj`, `pos_levelOfPos`)
    * `MXD_levels::downLevel / upLevel` are "position - 1" / "position + 1"         (`MXD_downLevel_pos`, `MXD_upLevel_pos`)
    * `MXD_levels::topLevel` returns the argument with the larger position          (`MXD_topLevel_pos`)
    * `isLevelAbove k1 k2` ⇔ position of k1 > position of k2                        (`isLevelAbove_iff_pos`)
    * `topUnprimed`, `unprimedOfLevel`, `primedOfLevel` land on positions 2|k| and 2|k|-1
    * for set forests (`MDD_levels`, position = level) the same with the identity  (`MDD_*`)
    * none of these functions overflows for |k| < 2^30                              (`defined_of_bounded`)

  Trusted base: the translation conventions in the header of Gen/Levels.lean (validated on every run by the
  differential family `gen`: the real inline functions on all levels in [-40, 40] and some large ones).
  All proofs are kernel-only (`omega`, `simp`, `decide`).
-/
import MeddlyModel.Gen.Levels

namespace Meddly.Levels
open Gen.Levels

/-- `posOfLevel(rel = true, k)` of harness/common.h, literally: `k > 0 ? 2*k : -2*k-1`.
    (Meaningful for node levels k ≠ 0; the C++ expression gives -1 for k = 0.) -/
def posOf (k : Int) : Int := if k > 0 then 2 * k else -2 * k - 1

/-- position of a relation level, terminal level 0 included: unprimed k ↦ 2k, primed -k ↦ 2k-1, 0 ↦ 0
    (header comment of Core/DD.lean). -/
def pos (k : Int) : Int := if k > 0 then 2 * k else if k < 0 then -2 * k - 1 else 0

/-- the level at a position ≥ 0 (inverse of `pos`) -/
def levelOfPos (p : Int) : Int := if p % 2 = 0 then p / 2 else -((p + 1) / 2)

/-- the levels the overflow theorems speak of: |k| < 2^30.  An assumption on the domain, not enforced by the
    library (`domain::nVars` is an `unsigned` without an upper check, domain.h); a domain beyond it would
    need a `vars` array of 2^30 pointers. -/
def Bounded (k : Int) : Prop := -1073741824 < k ∧ k < 1073741824

instance (k : Int) : Decidable (Bounded k) := by unfold Bounded; exact inferInstance

theorem pos_eq_posOf (k : Int) (h : k ≠ 0) : pos k = posOf k := by
  unfold pos posOf; omega

theorem pos_nonneg (k : Int) : 0 ≤ pos k := by unfold pos; omega

theorem pos_eq_zero (k : Int) : pos k = 0 ↔ k = 0 := by unfold pos; omega

theorem posOf_pos (k : Int) (h : k ≠ 0) : 1 ≤ posOf k := by unfold posOf; omega

theorem ABS_eq (k : Int) : ABS k = if k < 0 then -k else k := rfl

theorem ABS_natAbs (k : Int) : ABS k = k.natAbs := by unfold ABS; omega

theorem MAX_eq_max (a b : Int) : MAX a b = max a b := by unfold MAX; omega

theorem pos_of_neg {k : Int} (h : k < 0) : pos k = -2 * k - 1 := by
  rw [pos, if_neg (Int.lt_asymm h), if_pos h]

/-- the terminal level joins the unprimed branch: `pos 0 = 0 = 2 * 0` -/
theorem pos_of_nonneg {k : Int} (h : 0 ≤ k) : pos k = 2 * k := by
  unfold pos; split
  · rfl
  · rw [if_neg (Int.not_lt.mpr h)]; omega

theorem sign_cases (k : Int) :
    (0 ≤ k ∧ ABS k = k ∧ pos k = 2 * k) ∨ (k < 0 ∧ ABS k = -k ∧ pos k = -2 * k - 1) :=
  (Int.lt_or_le k 0).elim (fun h => .inr ⟨h, if_pos h, pos_of_neg h⟩)
    (fun h => .inl ⟨h, if_neg (Int.not_lt.mpr h), pos_of_nonneg h⟩)

/-- `pos` orders the levels lexicographically by (|k|, k): this is the order that `isLevelAbove` and
    `MXD_levels::topLevel` compute, and every statement about them below goes through it. -/
theorem pos_lt_iff (a b : Int) : pos a < pos b ↔ ABS a < ABS b ∨ (ABS a = ABS b ∧ a < b) := by
  have := sign_cases a; have := sign_cases b; omega

/-! ## Non-vacuity: the generated functions compute what the C++ computes (values printed by the real
    inline functions, harness family `gen`) -/

example : MXD.downLevel 3 = -3 ∧ MXD.downLevel (-3) = 2 ∧ MXD.downLevel (-1) = 0 := by decide +kernel
example : MXD.upLevel 3 = -4 ∧ MXD.upLevel (-3) = 3 ∧ MXD.upLevel 0 = -1 := by decide +kernel
example : MXD.topLevel 3 (-3) = 3 ∧ MXD.topLevel (-4) 3 = -4 ∧ MXD.topLevel (-2) (-2) = -2 := by decide +kernel
example : MXD.topUnprimed (-4) 3 = 4 ∧ MXD.unprimedOfLevel (-7) = 7 ∧ MXD.primedOfLevel 7 = -7
    ∧ MXD.primedOfLevel (-7) = -7 := by decide +kernel
example : isLevelAbove 3 (-3) = true ∧ isLevelAbove (-3) 3 = false ∧ isLevelAbove (-4) 3 = true
    ∧ isLevelAbove 2 2 = false ∧ isLevelAbove 1 0 = true ∧ isLevelAbove (-1) 0 = true := by decide +kernel
example : MDD.downLevel 5 = 4 ∧ MDD.upLevel 5 = 6 ∧ MDD.topLevel 2 7 = 7 := by decide +kernel
example : pos 3 = 6 ∧ pos (-3) = 5 ∧ pos 1 = 2 ∧ pos (-1) = 1 ∧ pos 0 = 0 ∧ posOf (-1) = 1 ∧ posOf 1 = 2 := by decide +kernel
example : (List.range 9).map (fun p : Nat => levelOfPos p) = [0, -1, 1, -2, 2, -3, 3, -4, 4] := by decide +kernel
/-- the hypothesis `Bounded` is not vacuous and the `_defined` predicates are not trivially true:
    `ABS(INT_MIN)` and `MDD_levels::upLevel(INT_MAX)` overflow -/
example : Bounded 40 ∧ Bounded (-1073741823) ∧ ¬ ABS_defined (-2147483648) ∧ ABS_defined (-2147483647)
    ∧ ¬ MDD.upLevel_defined 2147483647 ∧ ¬ MXD.downLevel_defined (-2147483648) := by decide +kernel

/-- **`pos` is injective**: two levels with the same position are the same level. -/
theorem pos_inj (k1 k2 : Int) (h : pos k1 = pos k2) : k1 = k2 := by
  have := sign_cases k1; have := sign_cases k2; omega

/-- **The harness's `posOfLevel` is injective** (on node levels k ≠ 0 -- and even with the level 0, which it
    sends to -1). -/
theorem posOf_inj (k1 k2 : Int) (h : posOf k1 = posOf k2) : k1 = k2 := by
  unfold posOf at h; omega

/-- **`pos` is onto the positions ≥ 0**, with inverse `levelOfPos` (even position 2k: unprimed level k; odd
    position 2k-1: primed level -k): levels and positions are in bijection. -/
theorem pos_levelOfPos (p : Int) (hp : 0 ≤ p) : pos (levelOfPos p) = p := by
  unfold levelOfPos; split
  · rw [pos_of_nonneg (by omega)]; omega
  · rw [pos_of_neg (by omega)]; omega

theorem levelOfPos_pos (k : Int) : levelOfPos (pos k) = k :=
  pos_inj _ _ (pos_levelOfPos _ (pos_nonneg k))

/-- **`MXD_levels::upLevel` is "one position up"**, from the terminal level too (`upLevel(0) = -1`). -/
theorem MXD_upLevel_pos (k : Int) : pos (MXD.upLevel k) = pos k + 1 := by
  unfold MXD.upLevel; split
  · rw [pos_of_nonneg (k := -k) (by omega), pos_of_neg ‹_›]; omega
  · rw [pos_of_neg (k := -k - 1) (by omega), pos_of_nonneg (by omega)]; omega

theorem MXD_upLevel_posOf (k : Int) (h : k ≠ 0) : posOf (MXD.upLevel k) = posOf k + 1 := by
  unfold MXD.upLevel posOf; omega

theorem MXD_up_down (k : Int) : MXD.downLevel (MXD.upLevel k) = k ∧ (k ≠ 0 → MXD.upLevel (MXD.downLevel k) = k) := by
  unfold MXD.upLevel MXD.downLevel; omega

/-- **`MXD_levels::downLevel` is "one position down"**: for every node level k ≠ 0 the level below has
    position `pos k - 1`; in particular below the lowest primed level -1 (position 1) is the terminal level 0. -/
theorem MXD_downLevel_pos (k : Int) (h : k ≠ 0) : pos (MXD.downLevel k) = pos k - 1 := by
  have := MXD_upLevel_pos (MXD.downLevel k); rw [(MXD_up_down k).2 h] at this; omega

/-- the same in the harness's vocabulary: for positions ≥ 2 `posOfLevel` drops by one, and
    `downLevel(-1) = 0`. -/
theorem MXD_downLevel_posOf (k : Int) (h : posOf k ≥ 2) :
    posOf (MXD.downLevel k) = posOf k - 1 := by
  unfold MXD.downLevel posOf at *; omega

theorem MXD_downLevel_bottom : MXD.downLevel (-1) = 0 := by decide

theorem MXD_topLevel_eq (k1 k2 : Int) : MXD.topLevel k1 k2 = if pos k1 < pos k2 then k2 else k1 := by
  simp only [pos_lt_iff, MXD.topLevel, MAX]; omega

/-- Any `f` that is monotone in the position commutes with `topLevel`/`max`: `pos` itself, the harness's
    `posOf`, and `ABS` (the variable of a level). -/
theorem MXD_topLevel_mono (f : Int → Int) (hf : ∀ a b, pos a ≤ pos b → f a ≤ f b) (k1 k2 : Int) :
    f (MXD.topLevel k1 k2) = max (f k1) (f k2) := by
  rw [MXD_topLevel_eq]; split
  · exact (Int.max_eq_right (hf k1 k2 (Int.le_of_lt ‹_›))).symm
  · exact (Int.max_eq_left (hf k2 k1 (Int.not_lt.mp ‹_›))).symm

/-- **`MXD_levels::topLevel` returns the argument with the larger position.** -/
theorem MXD_topLevel_pos (k1 k2 : Int) :
    pos (MXD.topLevel k1 k2) = max (pos k1) (pos k2) ∧ (MXD.topLevel k1 k2 = k1 ∨ MXD.topLevel k1 k2 = k2) := by
  refine ⟨MXD_topLevel_mono pos (fun _ _ h => h) k1 k2, ?_⟩
  rw [MXD_topLevel_eq]; omega

theorem MXD_topLevel_posOf (k1 k2 : Int) :
    posOf (MXD.topLevel k1 k2) = max (posOf k1) (posOf k2) :=
  MXD_topLevel_mono posOf (fun a b h => by unfold pos at h; unfold posOf; omega) k1 k2

/-- **`isLevelAbove k1 k2` ⇔ the position of k1 is larger** (relation forests: primed and unprimed levels,
    terminal level included). -/
theorem isLevelAbove_iff_pos (k1 k2 : Int) : isLevelAbove k1 k2 = true ↔ pos k1 > pos k2 := by
  simp only [isLevelAbove, gt_iff_lt, pos_lt_iff, Bool.ite_eq_true_distrib, decide_eq_true_eq, if_true_left,
    if_false_left, Bool.false_eq_true]
  omega

theorem isLevelAbove_iff_posOf (k1 k2 : Int) (h1 : k1 ≠ 0) (h2 : k2 ≠ 0) :
    isLevelAbove k1 k2 = true ↔ posOf k1 > posOf k2 := by
  rw [isLevelAbove_iff_pos, pos_eq_posOf k1 h1, pos_eq_posOf k2 h2]

/-- `isLevelAbove` is a strict total order on levels: irreflexive, transitive, total. -/
theorem isLevelAbove_order (a b c : Int) :
    isLevelAbove a a = false ∧
    (isLevelAbove a b = true → isLevelAbove b c = true → isLevelAbove a c = true) ∧
    (a ≠ b → isLevelAbove a b = true ∨ isLevelAbove b a = true) := by
  have := pos_inj a b
  simp only [← Bool.not_eq_true, isLevelAbove_iff_pos]; omega

/-- **`topUnprimed` is the unprimed level of `topLevel`** (the comment in forest_levels.h: "This is
    ABS(topLevel(k1, k2)) but computed more efficiently"). -/
theorem MXD_topUnprimed_eq (k1 k2 : Int) :
    MXD.topUnprimed k1 k2 = MXD.unprimedOfLevel (MXD.topLevel k1 k2) :=
  (MAX_eq_max _ _).trans
    (MXD_topLevel_mono ABS (fun a b h => by have := pos_lt_iff b a; omega) k1 k2).symm

/-- **`unprimedOfLevel` lands on position 2|k|, `primedOfLevel` on position 2|k|-1** (k ≠ 0), i.e. on the two
    positions of variable |k|; `primedOfLevel` is the level just below `unprimedOfLevel`. -/
theorem MXD_primed_unprimed_pos (k : Int) (h : k ≠ 0) :
    posOf (MXD.unprimedOfLevel k) = 2 * k.natAbs ∧
    posOf (MXD.primedOfLevel k) = 2 * k.natAbs - 1 ∧
    MXD.unprimedOfLevel k > 0 ∧ MXD.primedOfLevel k < 0 ∧
    MXD.primedOfLevel k = MXD.downLevel (MXD.unprimedOfLevel k) := by
  have hp : MXD.primedOfLevel k = -ABS k ∧ 0 < ABS k := by unfold MXD.primedOfLevel ABS; omega
  rw [← ABS_natAbs, hp.1]
  unfold MXD.unprimedOfLevel MXD.downLevel posOf
  generalize ABS k = m at *
  omega

/-- **Set forests (`MDD_levels`): position = level.**  `downLevel`/`upLevel` are ∓1, `topLevel` is the maximum,
    and on levels ≥ 0 `isLevelAbove` is `>`. -/
theorem MDD_levels_pos (k k1 k2 : Int) :
    MDD.downLevel k = k - 1 ∧ MDD.upLevel k = k + 1 ∧ MDD.topLevel k1 k2 = max k1 k2 ∧
    (0 ≤ k1 → 0 ≤ k2 → (isLevelAbove k1 k2 = true ↔ k1 > k2)) := by
  refine ⟨rfl, rfl, MAX_eq_max k1 k2, ?_⟩
  intro h1 h2
  rw [isLevelAbove_iff_pos, pos_of_nonneg h1, pos_of_nonneg h2]; omega

/-- On the unprimed levels (and the terminal level) `MXD_levels::topLevel` agrees with `MDD_levels::topLevel`:
    an MxD's unprimed levels are ordered like an MDD's levels.  (`isLevelAbove` is one function of defines.h
    for both kinds of forest; its set-forest reading is the last conjunct of `MDD_levels_pos`.) -/
theorem MXD_MDD_agree_unprimed (k1 k2 : Int) (h1 : 0 ≤ k1) (h2 : 0 ≤ k2) :
    MXD.topLevel k1 k2 = MDD.topLevel k1 k2 := by
  rw [MXD_topLevel_eq, pos_of_nonneg h1, pos_of_nonneg h2]; unfold MDD.topLevel MAX; omega

/-- Whatever the translated functions form from a level with |k| < 2^30 (`-k`, `-k - 1`, `k ± 1`, `ABS k`) is
    an `int`, so the overflow predicates and range claims below reduce to `True` by rewriting, whatever
    shape the generator gives them. -/
theorem Bounded.near {k : Int} (h : Bounded k) :
    Bounded (-k) ∧ Bounded (ABS k) ∧ InInt32 (-k) ∧ InInt32 (-k - 1) ∧ InInt32 (k - 1) ∧ InInt32 (k + 1) := by
  unfold Bounded at *; unfold InInt32 ABS; omega

/-- **No overflow.**  For levels with |k| < 2^30 no signed operation inside any of the translated functions
    overflows: the C++ functions are defined there and return the values of the generated Lean functions. -/
theorem defined_of_bounded (k k1 k2 : Int) (h : Bounded k) (h1 : Bounded k1) (h2 : Bounded k2) :
    ABS_defined k ∧ MAX_defined k1 k2 ∧ isLevelAbove_defined k1 k2 ∧
    MDD.downLevel_defined k ∧ MDD.upLevel_defined k ∧ MDD.topLevel_defined k1 k2 ∧
    MXD.downLevel_defined k ∧ MXD.upLevel_defined k ∧ MXD.topLevel_defined k1 k2 ∧
    MXD.topUnprimed_defined k1 k2 ∧ MXD.unprimedOfLevel_defined k ∧ MXD.primedOfLevel_defined k := by
  simp only [ABS_defined, MAX_defined, isLevelAbove_defined, MDD.downLevel_defined, MDD.upLevel_defined,
    MDD.topLevel_defined, MXD.downLevel_defined, MXD.upLevel_defined, MXD.topLevel_defined,
    MXD.topUnprimed_defined, MXD.unprimedOfLevel_defined, MXD.primedOfLevel_defined,
    h.near, h1.near, h2.near, and_self, implies_true, ite_self]

/-- ... and the results are levels within one step of the bound (so iterating stays inside `int`). -/
theorem results_in_range (k k1 k2 : Int) (h : Bounded k) (h1 : Bounded k1) (h2 : Bounded k2) :
    InInt32 (MXD.downLevel k) ∧ InInt32 (MXD.upLevel k) ∧ Bounded (MXD.topLevel k1 k2) ∧
    Bounded (MXD.topUnprimed k1 k2) ∧ Bounded (MXD.unprimedOfLevel k) ∧ Bounded (MXD.primedOfLevel k) ∧
    InInt32 (MDD.downLevel k) ∧ InInt32 (MDD.upLevel k) ∧ Bounded (MDD.topLevel k1 k2) := by
  simp only [MXD.downLevel, MXD.upLevel, MXD.topLevel, MXD.topUnprimed, MXD.unprimedOfLevel,
    MXD.primedOfLevel, MDD.downLevel, MDD.upLevel, MDD.topLevel, MAX, apply_ite Bounded, apply_ite InInt32,
    h, h1, h2, h.near, h1.near, h2.near, ite_self, and_self]

end Meddly.Levels

/-
  `#print axioms` (Lean 4.33.0) on every theorem above: a subset of [propext, Classical.choice, Quot.sound]
  -- no `sorry`, no `native_decide`, no `bv_decide`, no new axiom.
-/
