/-
  The node-lifetime logic GENERATED from src/node_headers.h / node_headers.cc (Gen/NodeHeaders.lean, regenerated
  by translate/nodeheaders_to_lean.py on every run) against the hand-written state machine State/NodeLife.lean (C06).

  Gen.NodeHeaders works on the header of ONE handle in the representation of the C++ class: level entry (0 = deleted),
  incoming count, cache count, each behind an optional array pointer, the flag `pessimistic`, and the ghost list of
  the calls that leave the class (`parent.deleteNode(p)`, `recycleNodeHandle(p)`, `reviveNode(p)`).
  NodeLife works on `HState = free | active lvl inc cc kids | deleted cc`.

  1. closed forms: `linkNode_hdr`, `unlinkNode_hdr`, `cacheNode_hdr`, `uncacheNode_hdr`, .. : what every generated function
     does to a header of the reference-counting configuration (`hdr`), for every in-contract call;
  2. simulation, one theorem per operation (`link_sim`, `unlink_sim`, `cache_sim`, `uncache_sim`): NodeLife's step and
     the generated function yield the same counts, the same class (active / deleted / free) and the same decision
     (delete the node now / recycle the handle now / keep), read off the events;
  3. the key statements of C06 for the GENERATED functions (`gen_deleted_iff`, `gen_recycled_iff`,
     `gen_never_recycled_while_cached`, `gen_inv_step`, `gen_revive_iff`), read off `gen_step_hdr` (the four calls in one
     closed form: counts after the call, decision, level) and the two decision tables `deletes_iff`, `recycles_iff`;
  4. the whole machine: `stepG` = NodeLife's `step` with every per-handle transition computed by the generated
     functions (the deletion cascade driven by the `deleteNode` EVENTS); `stepG_eq` / `runG_eq`: it is NodeLife's
     machine on every legal history, so `counts_exact`, `no_dangling`, `all_reclaimed`, `all_reclaimed_pessimistic`,
     `reuse_only_free` hold for it (`gen_machine`);
  5. `NodeHeadersCounter.counter_spec`: the specification `Gen.NodeHeaders.Counter.*` of the counter_array calls used by the generated
     code is what the counter_array GENERATED from arrays.h / arrays.cc (Gen/CounterArray.lean) does to one entry.

  A change of node_headers.h / node_headers.cc that alters the lifetime logic changes Gen/NodeHeaders.lean and breaks
  the closed forms of part 1 (and everything after them).
-/
import MeddlyModel.State.NodeLife
import MeddlyModel.Gen.NodeHeaders
import MeddlyModel.Props.CounterArrayGen

namespace Meddly.NodeHeadersGen
open Meddly.NodeLife
open Gen.NodeHeaders (State Event Err linkNode unlinkNode cacheNode uncacheNode lastUnlink lastUncache isDeleted
  deactivate deleteNode_effect getNodeCacheCount getIncomingCount Counter.increment Counter.decrement
  Counter.isZeroBeforeIncrement Counter.isPositiveAfterDecrement)


/-- a header as `node_headers::initialize()` sets the class up when the forest uses reference counts:
    `levels`, `cache_counts`, `incoming_counts` allocated, `is_in_cache` and `is_reachable` null -/
def hdr (pess : Bool) (lvl : Int) (inc cc : Nat) (ev : List Event) : State :=
  { levels := some lvl, cache_counts := some cc, is_in_cache := none, incoming_counts := some inc,
    is_reachable := none, pessimistic := pess, events := ev }

section

attribute [local simp] hdr deactivate getIncomingCount getNodeCacheCount linkNode cacheNode unlinkNode uncacheNode
  lastUnlink lastUncache deleteNode_effect Counter.increment Counter.isZeroBeforeIncrement
  Counter.isPositiveAfterDecrement

theorem isDeleted_hdr (pess : Bool) (lvl : Int) (inc cc : Nat) (ev : List Event) (p : Int) (hp : 1 ≤ p) :
    isDeleted (hdr pess lvl inc cc ev) p = .ok (decide (lvl = 0)) := by
  by_cases h : lvl = 0
  · simp [isDeleted, Int.not_lt.mpr hp, h]
  · simp [isDeleted, Int.not_lt.mpr hp, h, Ne.symm h]

theorem isActive_hdr (pess : Bool) (lvl : Int) (inc cc : Nat) (ev : List Event) (p : Int) (hp : 1 ≤ p) :
    Gen.NodeHeaders.isActive (hdr pess lvl inc cc ev) p = .ok (decide (lvl ≠ 0)) := by
  simp [-hdr, Gen.NodeHeaders.isActive, isDeleted_hdr pess lvl inc cc ev p hp]

theorem deactivate_hdr (pess : Bool) (lvl : Int) (inc cc : Nat) (ev : List Event) (p : Int) (hp : 1 ≤ p) :
    deactivate (hdr pess lvl inc cc ev) p = .ok (hdr pess 0 inc cc ev) := by
  simp [Int.not_lt.mpr hp]

theorem counts_hdr (pess : Bool) (lvl : Int) (inc cc : Nat) (ev : List Event) (p : Int) (hp : 1 ≤ p) :
    getIncomingCount (hdr pess lvl inc cc ev) p = .ok inc ∧ getNodeCacheCount (hdr pess lvl inc cc ev) p = .ok cc := by
  simp [Int.not_lt.mpr hp]

/-- `linkNode(p)`: the incoming count goes up by one; `reviveNode(p)` is called exactly when it was 0 -/
theorem linkNode_hdr (pess : Bool) (lvl : Int) (inc cc : Nat) (ev : List Event) (p : Int) (hp : 1 ≤ p)
    (hf : inc + 1 < 4294967296) :
    linkNode (hdr pess lvl inc cc ev) p =
      .ok (hdr pess lvl (inc + 1) cc (ev ++ if inc = 0 then [Event.reviveNode p] else []), p) := by
  by_cases h0 : inc = 0 <;> simp [Int.not_lt.mpr hp, hf, h0]

/-- `cacheNode(p)`: the cache count goes up by one, nothing else -/
theorem cacheNode_hdr (pess : Bool) (lvl : Int) (inc cc : Nat) (ev : List Event) (p : Int) (hp : 1 ≤ p)
    (hf : cc + 1 < 4294967296) :
    cacheNode (hdr pess lvl inc cc ev) p = .ok (hdr pess lvl inc (cc + 1) ev) := by
  simp [Int.not_lt.mpr hp, hf]

/-- `unlinkNode(p)` on a positive incoming count: the count goes down by one; if it reaches 0 (`lastUnlink`):
    cache count 0 → `parent.deleteNode(p)` then `recycleNodeHandle(p)`; else pessimistic → `parent.deleteNode(p)` only;
    else (optimistic) nothing -/
theorem unlinkNode_hdr (pess : Bool) (lvl : Int) (inc cc : Nat) (ev : List Event) (p : Int) (hp : 1 ≤ p)
    (hi : 0 < inc) :
    unlinkNode (hdr pess lvl inc cc ev) p = .ok (
      if 0 < inc - 1 then hdr pess lvl (inc - 1) cc ev
      else if cc = 0 then hdr pess 0 (inc - 1) cc (ev ++ [Event.deleteNode p, Event.recycleNodeHandle p])
      else if pess = true then hdr pess 0 (inc - 1) cc (ev ++ [Event.deleteNode p])
      else hdr pess lvl (inc - 1) cc ev) := by
  have h1 := Int.not_lt.mpr hp
  by_cases h2 : 0 < inc - 1
  · simp [h1, hi, h2]
  · by_cases h3 : cc = 0
    · simp [h1, hi, h2, h3]
    · cases pess <;> simp [h1, hi, h2, h3, Ne.symm h3]

/-- `uncacheNode(p)` on a positive cache count: the count goes down by one; if it reaches 0 (`lastUncache`):
    a deleted handle is recycled; an active node without incoming edges is deleted and its handle recycled;
    an active node with incoming edges stays -/
theorem uncacheNode_hdr (pess : Bool) (lvl : Int) (inc cc : Nat) (ev : List Event) (p : Int) (hp : 1 ≤ p)
    (hc : 0 < cc) :
    uncacheNode (hdr pess lvl inc cc ev) p = .ok (
      if 0 < cc - 1 then hdr pess lvl inc (cc - 1) ev
      else if lvl = 0 then hdr pess lvl inc (cc - 1) (ev ++ [Event.recycleNodeHandle p])
      else if inc = 0 then hdr pess 0 inc (cc - 1) (ev ++ [Event.deleteNode p, Event.recycleNodeHandle p])
      else hdr pess lvl inc (cc - 1) ev) := by
  have h1 := Int.not_lt.mpr hp
  by_cases h2 : 0 < cc - 1
  · simp [h1, hc, h2]
  · by_cases h3 : lvl = 0
    · simp [isDeleted, h1, hc, h2, h3]
    · by_cases h4 : inc = 0
      · simp [isDeleted, h1, hc, h2, h3, Ne.symm h3, h4]
      · simp [isDeleted, h1, hc, h2, h3, Ne.symm h3, h4, Ne.symm h4]

/-- terminal handles (p < 1) are left alone by all four operations -/
theorem terminal_noop (s : State) (p : Int) (hp : p < 1) :
    linkNode s p = .ok (s, p) ∧ unlinkNode s p = .ok s ∧ cacheNode s p = .ok s ∧ uncacheNode s p = .ok s := by
  simp [hp]

/-- outside the contract the generated code does what the C++ does or stops: a decrement of a zero count is not
    modelled (the real counter wraps around), a call through a null array pointer is undefined behaviour -/
example : unlinkNode (hdr true 1 0 0 []) 5 = .error .unmodelled := by
  simp
example : uncacheNode (hdr false 1 1 0 []) 5 = .error .unmodelled := by
  simp
example : linkNode { hdr true 1 0 0 [] with incoming_counts := none } 5 = .error .ub := by
  simp
example : isDeleted (hdr true 0 0 0 []) 0 = .error .unmodelled := by
  simp [isDeleted]

end

inductive Cls where
  | active | deleted | free
  deriving DecidableEq, Repr

/-- class of a header as the harness observes it: A = level ≠ 0, D = level 0 and cache count > 0, F = otherwise -/
def clsG (g : State) : Cls :=
  if g.levels.getD 0 ≠ 0 then .active else if g.cache_counts.getD 0 ≠ 0 then .deleted else .free

def clsH : HState → Cls
  | .free => .free
  | .active .. => .active
  | .deleted _ => .deleted

/-- what a call decided about the node and its handle -/
inductive Decision where
  | keep            -- nothing leaves the class
  | revive          -- linkNode on an unreachable node: `reviveNode(p)`
  | delete          -- `parent.deleteNode(p)`: node destroyed, handle retained (pessimistic, still cached)
  | deleteRecycle   -- `parent.deleteNode(p); recycleNodeHandle(p)`
  | recycle         -- `recycleNodeHandle(p)` of an already deleted handle
  deriving DecidableEq, Repr

def Decision.events (p : Int) : Decision → List Event
  | .keep => []
  | .revive => [.reviveNode p]
  | .delete => [.deleteNode p]
  | .deleteRecycle => [.deleteNode p, .recycleNodeHandle p]
  | .recycle => [.recycleNodeHandle p]

/-- does the decision destroy the node (`parent.deleteNode`)? -/
def Decision.deletes : Decision → Bool
  | .delete | .deleteRecycle => true
  | _ => false

/-- does the decision hand the handle back (`recycleNodeHandle`)? -/
def Decision.recycles : Decision → Bool
  | .recycle | .deleteRecycle => true
  | _ => false

theorem Decision.mem_delete (d : Decision) (p : Int) : Event.deleteNode p ∈ d.events p ↔ d.deletes = true := by
  cases d <;> simp [Decision.events, Decision.deletes]

theorem Decision.mem_recycle (d : Decision) (p : Int) :
    Event.recycleNodeHandle p ∈ d.events p ↔ d.recycles = true := by
  cases d <;> simp [Decision.events, Decision.recycles]


def pessOf : Policy → Bool
  | .pessimistic => true
  | .optimistic => false

/-- the header of a NodeLife handle state (levels are positive naturals there) -/
def toGen (pol : Policy) (e : HState) (ev : List Event) : State :=
  hdr (pessOf pol) (((lvlOf e : Nat) : Int)) (incOf e) (ccOf e) ev

/-- well-formed handle states: a node sits at a level ≥ 1, a retained deleted handle has cache count > 0
    (both are invariants of NodeLife: `alloc` requires 1 ≤ lvl, `WInv.zombie`) -/
def WFh : HState → Prop
  | .free => True
  | .active lvl _ _ _ => lvl ≠ 0
  | .deleted cc => 0 < cc

theorem cls_toGen (pol : Policy) {e : HState} (h : WFh e) (ev : List Event) : clsG (toGen pol e ev) = clsH e := by
  cases e with
  | free => simp [toGen, hdr, clsG, clsH, lvlOf, ccOf]
  | active lvl inc cc kids =>
    simp only [WFh] at h
    simp [toGen, hdr, clsG, clsH, lvlOf]; omega
  | deleted cc => simp [toGen, hdr, clsG, clsH, lvlOf, ccOf, Nat.ne_of_gt (show 0 < cc from h)]

theorem hpos {h : Nat} (hh : h ≠ 0) : (1 : Int) ≤ (h : Int) := by omega

/-- `link_sim`: NodeLife's `link h` and the generated `linkNode`: same new counts, same class, and the generated code
    calls `reviveNode` exactly when the node was unreachable (incoming count 0). -/
theorem link_sim {s s' : St} {h : Nat} (hh : h ≠ 0) (hs : step s (.link h) = some s')
    (wf : WFh (s.get h)) (fit : incOf (s.get h) + 1 < 4294967296) (ev : List Event) :
    ∃ d, linkNode (toGen s.pol (s.get h) ev) h = .ok (toGen s.pol (s'.get h) (ev ++ d.events h), (h : Int)) ∧
      d = (if incOf (s.get h) = 0 then Decision.revive else Decision.keep) ∧
      clsH (s'.get h) = .active ∧ WFh (s'.get h) := by
  rcases step_link_inv hs with ⟨h0, _⟩ | ⟨_, lvl, inc, cc, kids, hg, rfl⟩
  · exact absurd h0 hh
  · rw [hg] at wf fit ⊢
    have hg' : ({ (s.set h (.active lvl (inc+1) cc kids)) with ext := h :: s.ext } : St).get h =
        .active lvl (inc+1) cc kids := (get_set s h h _).trans (if_pos rfl)
    rw [hg']
    refine ⟨_, ?_, rfl, rfl, wf⟩
    simp only [toGen, lvlOf, incOf, ccOf, linkNode_hdr (pessOf s.pol) ((lvl : Nat) : Int) inc cc ev h (hpos hh) fit]
    by_cases h0 : inc = 0 <;> simp [h0, Decision.events]

/-- `cache_sim`: NodeLife's `cache h` and the generated `cacheNode`: cache count + 1, no event. -/
theorem cache_sim {s s' : St} {h : Nat} (hh : h ≠ 0) (hs : step s (.cache h) = some s')
    (fit : ccOf (s.get h) + 1 < 4294967296) (ev : List Event) :
    cacheNode (toGen s.pol (s.get h) ev) h = .ok (toGen s.pol (s'.get h) ev) ∧ clsH (s'.get h) = clsH (s.get h) := by
  rcases step_cache_inv hs with ⟨h0, _⟩ | ⟨_, lvl, inc, cc, kids, hg, rfl⟩
  · exact absurd h0 hh
  · rw [hg] at fit ⊢
    rw [get_set]
    simp only [if_true, toGen, lvlOf, incOf, ccOf, clsH, and_true]
    exact cacheNode_hdr (pessOf s.pol) ((lvl : Nat) : Int) inc cc ev h (hpos hh) fit

/-- what NodeLife's `unlink1` decides -/
def unlinkDecision (pol : Policy) : HState → Decision
  | .active _ inc cc _ =>
    if inc - 1 ≠ 0 then .keep else if cc = 0 then .deleteRecycle
    else match pol with
      | .pessimistic => .delete
      | .optimistic => .keep
  | _ => .keep

/-- `unlink_sim`: `unlink1` is NodeLife's transition for ONE `unlinkNode(h)` call (the deletion cascade of its `step` is a
    sequence of such calls, see `stepG`).  The generated `unlinkNode` yields the same new counts and class, and the
    same decision: the children are handed to the cascade (`ks` = the node's children) exactly when the generated code
    calls `parent.deleteNode`, and the handle becomes free exactly when it calls `recycleNodeHandle`. -/
theorem unlink_sim {s s1 : St} {h : Nat} {ks : List Nat} (hh : h ≠ 0) (hu : unlink1 s h = some (s1, ks))
    (wf : WFh (s.get h)) (ev : List Event) :
    let d := unlinkDecision s.pol (s.get h)
    unlinkNode (toGen s.pol (s.get h) ev) h = .ok (toGen s.pol (s1.get h) (ev ++ d.events h)) ∧
      ks = (if Event.deleteNode h ∈ d.events h then kidsOf (s.get h) else []) ∧
      (s1.get h = .free ↔ Event.recycleNodeHandle h ∈ d.events h) ∧
      (clsH (s1.get h) ≠ .active ↔ Event.deleteNode h ∈ d.events h) ∧ WFh (s1.get h) ∧ s1.pol = s.pol := by
  simp only [Decision.mem_delete, Decision.mem_recycle]
  unfold unlink1 at hu
  split at hu
  · rename_i lvl inc cc kids hg
    rw [hg] at wf ⊢
    have hcf := unlinkNode_hdr (pessOf s.pol) ((lvl : Nat) : Int) (inc + 1) cc ev h (hpos hh) (Nat.succ_pos inc)
    simp only [Nat.add_sub_cancel] at hcf
    simp only [unlinkDecision, Nat.succ_sub_one]
    split at hu
    · rename_i hi
      cases hu
      rw [get_set, if_pos rfl]
      simp only [if_pos hi]
      rw [if_pos (Nat.pos_of_ne_zero hi)] at hcf
      exact ⟨(List.append_nil ev).symm ▸ hcf, rfl, ⟨nofun, nofun⟩, ⟨fun h => absurd rfl h, nofun⟩, wf, rfl⟩
    · rename_i hi
      have hi0 : inc = 0 := Decidable.not_not.mp hi
      subst hi0
      simp only [if_neg hi]
      rw [if_neg (Nat.lt_irrefl 0)] at hcf
      split at hu
      · rename_i hc0
        subst hc0
        cases hu
        rw [get_set, if_pos rfl]
        rw [if_pos rfl] at hcf
        exact ⟨hcf, rfl, ⟨fun _ => rfl, fun _ => rfl⟩, ⟨fun _ => rfl, fun _ => nofun⟩, trivial, rfl⟩
      · rename_i hc0
        rw [if_neg hc0] at hcf
        simp only [if_neg hc0]
        split at hu
        · rename_i hp
          cases hu
          rw [get_set, if_pos rfl]
          simp only [hp]
          rw [hp] at hcf
          exact ⟨hcf, rfl, ⟨nofun, nofun⟩, ⟨fun _ => rfl, fun _ => nofun⟩, Nat.pos_of_ne_zero hc0, hp⟩
        · rename_i hp
          cases hu
          rw [get_set, if_pos rfl]
          simp only [hp]
          rw [hp] at hcf
          exact ⟨(List.append_nil ev).symm ▸ hcf, rfl, ⟨nofun, nofun⟩, ⟨fun h => absurd rfl h, nofun⟩, wf, hp⟩
  · cases hu

/-- what NodeLife's `uncache` decides -/
def uncacheDecision : HState → Decision
  | .active _ inc cc _ => if cc - 1 = 0 ∧ inc = 0 then .deleteRecycle else .keep
  | .deleted cc => if cc - 1 = 0 then .recycle else .keep
  | .free => .keep

/-- NodeLife's transition of the handle itself for one `uncacheNode(h)` call (its `step` then runs the deletion cascade
    on the children when the node was deleted) -/
def uncache1 (s : St) (h : Nat) : Option (St × List Nat) :=
  match s.get h with
  | .active lvl inc (cc+1) kids =>
    if cc = 0 ∧ inc = 0 then some (s.set h .free, kids) else some (s.set h (.active lvl inc cc kids), [])
  | .deleted (cc+1) => if cc = 0 then some (s.set h .free, []) else some (s.set h (.deleted cc), [])
  | _ => none

/-- NodeLife's `uncache h` is `uncache1` followed by the cascade on the children it returns -/
theorem step_uncache (s : St) (h : Nat) (hh : h ≠ 0) :
    step s (.uncache h) = match uncache1 s h with
      | some (s1, ks) => drain (fuelFor s) s1 ks
      | none => none := by
  simp only [step, hh, if_false, uncache1]
  cases hg : s.get h with
  | free => rfl
  | deleted c =>
    cases c with
    | zero => rfl
    | succ c => by_cases e : c = 0 <;> simp [e, drain] <;> cases fuelFor s <;> rfl
  | active lvl inc cc kids =>
    cases cc with
    | zero => rfl
    | succ cc =>
      by_cases e : cc = 0 ∧ inc = 0
      · simp [e]
      · simp only [e, if_false]; cases fuelFor s <;> rfl

/-- `uncache_sim`: NodeLife's transition for one `uncacheNode(h)` call and the generated `uncacheNode`: same counts, class
    and decision (delete + recycle an unreachable node whose last cache entry goes; recycle a deleted handle whose
    last cache entry goes; otherwise keep). -/
theorem uncache_sim {s s1 : St} {h : Nat} {ks : List Nat} (hh : h ≠ 0) (hu : uncache1 s h = some (s1, ks))
    (wf : WFh (s.get h)) (ev : List Event) :
    let d := uncacheDecision (s.get h)
    uncacheNode (toGen s.pol (s.get h) ev) h = .ok (toGen s.pol (s1.get h) (ev ++ d.events h)) ∧
      ks = (if Event.deleteNode h ∈ d.events h then kidsOf (s.get h) else []) ∧
      (s1.get h = .free ↔ Event.recycleNodeHandle h ∈ d.events h) ∧
      (clsH (s.get h) = .active ∧ clsH (s1.get h) ≠ .active ↔ Event.deleteNode h ∈ d.events h) ∧
      WFh (s1.get h) ∧ s1.pol = s.pol := by
  simp only [Decision.mem_delete, Decision.mem_recycle]
  unfold uncache1 at hu
  split at hu
  · rename_i lvl inc cc kids hg
    rw [hg] at wf ⊢
    have hl : ((lvl : Nat) : Int) ≠ 0 := fun e => wf (Int.ofNat.inj e)
    have hcf := uncacheNode_hdr (pessOf s.pol) ((lvl : Nat) : Int) inc (cc + 1) ev h (hpos hh) (Nat.succ_pos cc)
    simp only [Nat.add_sub_cancel, if_neg hl] at hcf
    simp only [uncacheDecision, Nat.succ_sub_one]
    split at hu
    · rename_i hlast
      obtain ⟨rfl, rfl⟩ := hlast
      cases hu
      rw [get_set, if_pos rfl]
      rw [if_neg (Nat.lt_irrefl 0), if_pos rfl] at hcf
      exact ⟨hcf, rfl, ⟨fun _ => rfl, fun _ => rfl⟩, ⟨fun _ => rfl, fun _ => ⟨rfl, nofun⟩⟩, trivial, rfl⟩
    · rename_i hlast
      cases hu
      rw [get_set, if_pos rfl]
      simp only [if_neg hlast]
      refine ⟨(List.append_nil ev).symm ▸ ?_, rfl, ⟨nofun, nofun⟩, ⟨fun h => absurd rfl h.2, nofun⟩, wf, rfl⟩
      show uncacheNode (hdr (pessOf s.pol) (lvl : Int) inc (cc + 1) ev) h = .ok (hdr (pessOf s.pol) (lvl : Int) inc cc ev)
      split at hcf
      · exact hcf
      · rw [if_neg fun e => hlast ⟨Nat.eq_zero_of_not_pos ‹_›, e⟩] at hcf; exact hcf
  · rename_i c hg
    rw [hg] at wf ⊢
    have hcf := uncacheNode_hdr (pessOf s.pol) 0 0 (c + 1) ev h (hpos hh) (Nat.succ_pos c)
    simp only [Nat.add_sub_cancel] at hcf
    simp only [uncacheDecision, Nat.succ_sub_one]
    split at hu
    · rename_i hc
      subst hc
      cases hu
      rw [get_set, if_pos rfl]
      rw [if_neg (Nat.lt_irrefl 0), if_pos trivial] at hcf
      exact ⟨hcf, rfl, ⟨fun _ => rfl, fun _ => rfl⟩, ⟨fun h => (nomatch h.1), nofun⟩, trivial, rfl⟩
    · rename_i hc
      cases hu
      rw [get_set, if_pos rfl]
      simp only [if_neg hc]
      rw [if_pos (Nat.pos_of_ne_zero hc)] at hcf
      exact ⟨(List.append_nil ev).symm ▸ hcf, rfl, ⟨nofun, nofun⟩, ⟨fun h => (nomatch h.1), nofun⟩,
        Nat.pos_of_ne_zero hc, rfl⟩
  · cases hu


/-- the node behind a header must be gone: no incoming edge and (pessimistic policy or no cache entry) -/
def ShouldBeDead (pess : Bool) (inc cc : Nat) : Prop := inc = 0 ∧ (pess = true ∨ cc = 0)

instance (pess : Bool) (inc cc : Nat) : Decidable (ShouldBeDead pess inc cc) := by unfold ShouldBeDead; infer_instance

/-- the invariant of one header: a node exists exactly as long as the rule allows it, a deleted handle has no incoming
    edges (NodeLife: `WInv.unreach`, `incOf (deleted _) = 0`) -/
def GInv (pess : Bool) (lvl : Int) (inc cc : Nat) : Prop :=
  (lvl ≠ 0 → ¬ ShouldBeDead pess inc cc) ∧ (lvl = 0 → inc = 0)

/-- the contract of the four calls (what the compiled-out MEDDLY_DCASSERTs and the counters demand) -/
def InContract (op : Gen.NodeHeaders.Op) (lvl : Int) (inc cc : Nat) : Prop :=
  match op with
  | .link => lvl ≠ 0 ∧ inc + 1 < 4294967296
  | .unlink => lvl ≠ 0 ∧ 0 < inc
  | .cache => lvl ≠ 0 ∧ cc + 1 < 4294967296
  | .uncache => 0 < cc

def countsAfter : Gen.NodeHeaders.Op → Nat → Nat → Nat × Nat
  | .link, inc, cc => (inc + 1, cc)
  | .unlink, inc, cc => (inc - 1, cc)
  | .cache, inc, cc => (inc, cc + 1)
  | .uncache, inc, cc => (inc, cc - 1)

/-- what an in-contract call decides, read off the header before the call -/
def decisionOf (op : Gen.NodeHeaders.Op) (pess : Bool) (lvl : Int) (inc cc : Nat) : Decision :=
  match op with
  | .link => if inc = 0 then .revive else .keep
  | .cache => .keep
  | .unlink =>
    if 0 < inc - 1 then .keep else if cc = 0 then .deleteRecycle else if pess = true then .delete else .keep
  | .uncache =>
    if 0 < cc - 1 then .keep else if lvl = 0 then .recycle else if inc = 0 then .deleteRecycle else .keep

section
variable {op : Gen.NodeHeaders.Op} {pess : Bool} {lvl : Int} {inc cc : Nat} {ev : List Event} {p : Int}
attribute [local simp] decisionOf countsAfter Decision.events Decision.deletes Decision.recycles

/-- All four calls in one closed form: an in-contract call updates its counter, issues the events of its decision,
    and zeroes the level entry exactly when the decision destroys the node. -/
theorem gen_step_hdr (hp : 1 ≤ p) (hc : InContract op lvl inc cc) :
    Gen.NodeHeaders.step (hdr pess lvl inc cc ev) p op =
      .ok (hdr pess (if (decisionOf op pess lvl inc cc).deletes = true then 0 else lvl)
        (countsAfter op inc cc).1 (countsAfter op inc cc).2 (ev ++ (decisionOf op pess lvl inc cc).events p)) := by
  cases op with
  | link =>
    simp only [Gen.NodeHeaders.step, linkNode_hdr pess lvl inc cc ev p hp hc.2, Except.map]
    by_cases h0 : inc = 0 <;> simp [h0]
  | cache =>
    simp [Gen.NodeHeaders.step, cacheNode_hdr pess lvl inc cc ev p hp hc.2]
  | unlink =>
    simp only [Gen.NodeHeaders.step, unlinkNode_hdr pess lvl inc cc ev p hp hc.2]
    by_cases h2 : 0 < inc - 1
    · simp [h2]
    · by_cases h3 : cc = 0
      · simp [h2, h3]
      · cases pess <;> simp [h2, h3]
  | uncache =>
    simp only [Gen.NodeHeaders.step, uncacheNode_hdr pess lvl inc cc ev p hp hc]
    by_cases h2 : 0 < cc - 1
    · simp [h2]
    · by_cases h3 : lvl = 0
      · simp [h2, h3]
      · by_cases h4 : inc = 0 <;> simp [h2, h3, h4]

theorem gen_step_inv (hp : 1 ≤ p) (hc : InContract op lvl inc cc) {lvl' : Int} {inc' cc' : Nat} {new : List Event}
    (hs : Gen.NodeHeaders.step (hdr pess lvl inc cc ev) p op = .ok (hdr pess lvl' inc' cc' (ev ++ new))) :
    lvl' = (if (decisionOf op pess lvl inc cc).deletes = true then 0 else lvl) ∧
      inc' = (countsAfter op inc cc).1 ∧ cc' = (countsAfter op inc cc).2 ∧
      new = (decisionOf op pess lvl inc cc).events p := by
  rw [gen_step_hdr hp hc] at hs
  simp only [hdr, Except.ok.injEq, State.mk.injEq, Option.some.injEq] at hs
  obtain ⟨a, c, _, b, _, _, e⟩ := hs
  exact ⟨a.symm, b.symm, c.symm, (List.append_cancel_left e).symm⟩

/-- the decision table: a live node that the rule allowed before the call is destroyed by the call exactly when the
    rule forbids it afterwards -/
theorem deletes_iff (hl : lvl ≠ 0)
    (hc : InContract op lvl inc cc) (hnd : ¬ ShouldBeDead pess inc cc) :
    (decisionOf op pess lvl inc cc).deletes = true ↔
      ShouldBeDead pess (countsAfter op inc cc).1 (countsAfter op inc cc).2 := by
  unfold ShouldBeDead at hnd ⊢
  cases op with
  | link => by_cases h0 : inc = 0 <;> simp [h0]
  | cache =>
    simp only [decisionOf, countsAfter, Decision.deletes, Bool.false_eq_true, false_iff]
    exact fun ⟨a, b⟩ => b.elim (fun b => hnd ⟨a, .inl b⟩) (Nat.succ_ne_zero cc)
  | unlink =>
    have hi : 0 < inc := hc.2
    by_cases h2 : 0 < inc - 1
    · simp [h2]; omega
    · by_cases h3 : cc = 0
      · simp [h2, h3]; omega
      · cases pess <;> simp [h2, h3] <;> omega
  | uncache =>
    have hcc : 0 < cc := hc
    simp only [decisionOf, countsAfter, hl, if_false]
    by_cases h2 : 0 < cc - 1
    · simp only [h2, if_true, Decision.deletes, Bool.false_eq_true, false_iff]
      exact fun ⟨a, b⟩ => b.elim (fun b => hnd ⟨a, .inl b⟩) (fun b => by omega)
    · by_cases h4 : inc = 0
      · simp [h2, h4]; omega
      · simp [h2, h4]

/-- the decision table for `recycleNodeHandle`: it is issued only when the cache count is 0 afterwards (and, on a header
    whose deleted handles have no incoming edges, the incoming count as well), whenever both counts are 0 afterwards,
    and only when the level entry is 0 afterwards -/
theorem recycles_iff (hc : InContract op lvl inc cc) :
    ((decisionOf op pess lvl inc cc).recycles = true →
      (countsAfter op inc cc).2 = 0 ∧ ((lvl = 0 → inc = 0) → (countsAfter op inc cc).1 = 0)) ∧
    ((countsAfter op inc cc).1 = 0 ∧ (countsAfter op inc cc).2 = 0 →
      (decisionOf op pess lvl inc cc).recycles = true) ∧
    ((decisionOf op pess lvl inc cc).recycles = true →
      (decisionOf op pess lvl inc cc).deletes = true ∨ lvl = 0) := by
  cases op with
  | link => by_cases h0 : inc = 0 <;> simp [h0]
  | cache => simp
  | unlink =>
    have hi : 0 < inc := hc.2
    by_cases h2 : 0 < inc - 1
    · simp [h2]; omega
    · by_cases h3 : cc = 0
      · simp [h2, h3]; omega
      · cases pess <;> simp [h2, h3]
  | uncache =>
    have hcc : 0 < cc := hc
    by_cases h2 : 0 < cc - 1
    · simp [h2]; omega
    · by_cases h3 : lvl = 0
      · simp [h2, h3]; omega
      · by_cases h4 : inc = 0
        · simp [h2, h3, h4]; omega
        · simp [h2, h3, h4]

end

/-- every in-contract call on a reference-counting header succeeds and again yields such a header with the same
    policy flag; the old events are a prefix of the new ones -/
theorem gen_step_total (op : Gen.NodeHeaders.Op) (pess : Bool) (lvl : Int) (inc cc : Nat) (ev : List Event) (p : Int)
    (hp : 1 ≤ p) (hc : InContract op lvl inc cc) :
    ∃ lvl' inc' cc' new, Gen.NodeHeaders.step (hdr pess lvl inc cc ev) p op = .ok (hdr pess lvl' inc' cc' (ev ++ new)) :=
  ⟨_, _, _, _, gen_step_hdr hp hc⟩

/-- `gen_deleted_iff` (C06: "a node is reclaimed as soon as unreferenced under the pessimistic policy, once no cache entry
    mentions it under the optimistic one"): an in-contract call of the GENERATED code on a live node whose header
    satisfies the invariant deletes the node (`parent.deleteNode(p)` is issued, the level entry becomes 0) EXACTLY when
    afterwards the incoming count is 0 and (the policy is pessimistic or the cache count is 0). -/
theorem gen_deleted_iff (op : Gen.NodeHeaders.Op) (pess : Bool) (lvl : Int) (inc cc : Nat) (ev : List Event) (p : Int)
    (hp : 1 ≤ p) (hl : lvl ≠ 0) (hc : InContract op lvl inc cc) (hI : GInv pess lvl inc cc)
    {lvl' : Int} {inc' cc' : Nat} {new : List Event}
    (hs : Gen.NodeHeaders.step (hdr pess lvl inc cc ev) p op = .ok (hdr pess lvl' inc' cc' (ev ++ new))) :
    (lvl' = 0 ↔ ShouldBeDead pess inc' cc') ∧ (Event.deleteNode p ∈ new ↔ ShouldBeDead pess inc' cc') ∧
      (lvl' ≠ 0 → lvl' = lvl) := by
  obtain ⟨rfl, rfl, rfl, rfl⟩ := gen_step_inv hp hc hs
  rw [Decision.mem_delete, ← deletes_iff hl hc (hI.1 hl)]
  cases (decisionOf op pess lvl inc cc).deletes
  · exact ⟨⟨fun h => absurd h hl, fun h => nomatch h⟩, Iff.rfl, fun _ => rfl⟩
  · exact ⟨⟨fun _ => rfl, fun _ => rfl⟩, Iff.rfl, fun h => absurd rfl h⟩

/-- `gen_recycled_iff` (C06: "handles are reused only after that"): an in-contract call of the GENERATED code on a header
    that satisfies the invariant and is in use (a live node, or a deleted handle that is still cached) hands the handle
    back (`recycleNodeHandle(p)`) EXACTLY when afterwards both counts are 0 — and then the level entry is 0 as well. -/
theorem gen_recycled_iff (op : Gen.NodeHeaders.Op) (pess : Bool) (lvl : Int) (inc cc : Nat) (ev : List Event) (p : Int)
    (hp : 1 ≤ p) (hc : InContract op lvl inc cc) (hI : GInv pess lvl inc cc)
    {lvl' : Int} {inc' cc' : Nat} {new : List Event}
    (hs : Gen.NodeHeaders.step (hdr pess lvl inc cc ev) p op = .ok (hdr pess lvl' inc' cc' (ev ++ new))) :
    (Event.recycleNodeHandle p ∈ new ↔ inc' = 0 ∧ cc' = 0) ∧ (Event.recycleNodeHandle p ∈ new → lvl' = 0) := by
  obtain ⟨rfl, rfl, rfl, rfl⟩ := gen_step_inv hp hc hs
  obtain ⟨a, a', b⟩ := recycles_iff (pess := pess) hc
  rw [Decision.mem_recycle]
  refine ⟨⟨fun h => ⟨(a h).2 hI.2, (a h).1⟩, a'⟩, fun h => ?_⟩
  rcases b h with hd | hl0
  · rw [if_pos hd]
  · split
    · rfl
    · exact hl0

/-- `gen_never_recycled_while_cached` (C06: `no_reuse_while_cached`): whatever the header (no invariant assumed), the
    GENERATED code never hands a handle back while a compute-table entry still mentions it. -/
theorem gen_never_recycled_while_cached (op : Gen.NodeHeaders.Op) (pess : Bool) (lvl : Int) (inc cc : Nat)
    (ev : List Event) (p : Int) (hp : 1 ≤ p) (hc : InContract op lvl inc cc)
    {lvl' : Int} {inc' cc' : Nat} {new : List Event}
    (hs : Gen.NodeHeaders.step (hdr pess lvl inc cc ev) p op = .ok (hdr pess lvl' inc' cc' (ev ++ new)))
    (hr : Event.recycleNodeHandle p ∈ new) : cc' = 0 := by
  obtain ⟨_, _, rfl, rfl⟩ := gen_step_inv hp hc hs
  exact ((recycles_iff hc).1 ((Decision.mem_recycle _ p).mp hr)).1

/-- `gen_inv_step`: the invariant of a header is preserved by every in-contract call of the GENERATED code (so the two
    `iff`s above apply along every legal history of a handle). -/
theorem gen_inv_step (op : Gen.NodeHeaders.Op) (pess : Bool) (lvl : Int) (inc cc : Nat) (ev : List Event) (p : Int)
    (hp : 1 ≤ p) (hc : InContract op lvl inc cc) (hI : GInv pess lvl inc cc)
    {lvl' : Int} {inc' cc' : Nat} {new : List Event}
    (hs : Gen.NodeHeaders.step (hdr pess lvl inc cc ev) p op = .ok (hdr pess lvl' inc' cc' (ev ++ new))) :
    GInv pess lvl' inc' cc' := by
  by_cases hl : lvl ≠ 0
  · obtain ⟨a, _, c⟩ := gen_deleted_iff op pess lvl inc cc ev p hp hl hc hI hs
    exact ⟨fun h => fun d => h (a.mpr d), fun h => (a.mp h).1⟩
  · have hl0 : lvl = 0 := Decidable.not_not.mp hl
    subst hl0
    -- only `uncacheNode` is in contract on a deleted handle, and it leaves level and incoming count at 0
    obtain ⟨rfl, rfl, _, _⟩ := gen_step_inv hp hc hs
    cases op with
    | uncache => exact ⟨fun h => absurd (by split <;> rfl) h, fun _ => hI.2 rfl⟩
    | _ => exact absurd rfl hc.1

/-- `gen_revive_iff`: `linkNode` reports a revival (`reviveNode(p)`) exactly for a node that had no incoming edge. -/
theorem gen_revive_iff (pess : Bool) (lvl : Int) (inc cc : Nat) (ev : List Event) (p : Int) (hp : 1 ≤ p)
    (hf : inc + 1 < 4294967296) {g : State} {r : Int} (hs : linkNode (hdr pess lvl inc cc ev) p = .ok (g, r)) :
    r = p ∧ (g.events = ev ++ [Event.reviveNode p] ↔ inc = 0) ∧ (inc ≠ 0 → g.events = ev) := by
  rw [linkNode_hdr pess lvl inc cc ev p hp hf] at hs
  simp only [Except.ok.injEq, Prod.mk.injEq] at hs
  obtain ⟨rfl, rfl⟩ := hs
  by_cases h0 : inc = 0 <;> simp [hdr, h0]

/-- the header of a NodeLife handle state (`toGen`) satisfies the header invariant whenever NodeLife's invariant
    `WInv.unreach` holds for that handle -/
theorem ginv_toGen (pol : Policy) {e : HState} (wf : WFh e)
    (hu : isActive e = true → incOf e = 0 → 0 < ccOf e ∧ pol = .optimistic) :
    GInv (pessOf pol) (((lvlOf e : Nat) : Int)) (incOf e) (ccOf e) := by
  cases e with
  | free => exact ⟨fun h => absurd rfl h, fun _ => rfl⟩
  | deleted c => exact ⟨fun h => absurd rfl h, fun _ => rfl⟩
  | active lvl inc cc kids =>
    simp only [WFh] at wf
    refine ⟨fun _ => ?_, fun h => ?_⟩
    · intro ⟨a, b⟩
      obtain ⟨c, d⟩ := hu rfl a
      subst d
      rcases b with b | b
      · simp [pessOf] at b
      · simp only [ccOf] at c b; omega
    · simp [lvlOf] at h; exact absurd h wf


/-- read a header back as a NodeLife handle state; level and children of a live node are kept from `old`
    (the generated functions never change the level entry of a node that stays alive: `gen_deleted_iff`) -/
def ofGen (g : State) (old : HState) : HState :=
  if g.levels.getD 0 ≠ 0 then .active (lvlOf old) (g.incoming_counts.getD 0) (g.cache_counts.getD 0) (kidsOf old)
  else if g.cache_counts.getD 0 ≠ 0 then .deleted (g.cache_counts.getD 0)
  else .free

theorem ofGen_toGen (pol : Policy) {e : HState} (wf : WFh e) (ev : List Event) (old : HState)
    (hk : isActive e = true → lvlOf old = lvlOf e ∧ kidsOf old = kidsOf e) : ofGen (toGen pol e ev) old = e := by
  cases e with
  | free => simp [ofGen, toGen, hdr, lvlOf, ccOf]
  | deleted c => simp [ofGen, toGen, hdr, lvlOf, ccOf, Nat.ne_of_gt (show 0 < c from wf)]
  | active lvl inc cc kids =>
    simp only [WFh] at wf
    obtain ⟨h1, h2⟩ : lvlOf old = lvl ∧ kidsOf old = kids := hk rfl
    show ofGen (hdr (pessOf pol) ((lvl : Nat) : Int) inc cc ev) old = _
    simp [ofGen, hdr, h1, h2, wf]

/-- one generated call on handle `h` of a NodeLife state: the new table entry read back from the resulting header, and the
    children to unlink next = the node's children iff the call issued `parent.deleteNode(h)` -/
def callG (op : Gen.NodeHeaders.Op) (s : St) (h : Nat) : Option (St × List Nat) :=
  match Gen.NodeHeaders.step (toGen s.pol (s.get h) []) h op with
  | .ok g => some (s.set h (ofGen g (s.get h)),
      if Event.deleteNode (h : Int) ∈ g.events then kidsOf (s.get h) else [])
  | .error _ => none

/-- the deletion cascade driven by the generated `unlinkNode` and its `deleteNode` events -/
def drainG : Nat → St → List Nat → Option St
  | _, s, [] => some s
  | 0, _, _ :: _ => none
  | f+1, s, h :: wl =>
    if h = 0 then drainG f s wl
    else
      match callG .unlink s h with
      | some (s1, ks) => drainG f s1 (ks ++ wl)
      | none => none

/-- NodeLife's `step`, with every `linkNode` / `unlinkNode` / `cacheNode` / `uncacheNode` executed by the GENERATED code and
    the deletion cascade driven by its `deleteNode` events.  The legality checks of the API contract (`Paired`) are
    NodeLife's; `alloc` is NodeLife's (`getFreeNodeHandle` / `createReducedNode` are not translated). -/
def stepG (s : St) : Op → Option St
  | .link h =>
    if h = 0 then some s
    else if isActive (s.get h) = true then
      match callG .link s h with
      | some (s1, _) => some { s1 with ext := h :: s.ext }
      | none => none
    else none
  | .unlink h =>
    if h = 0 then some s
    else if h ∈ s.ext then drainG (fuelFor s) { s with ext := s.ext.erase h } [h]
    else none
  | .cache h =>
    if h = 0 then some s
    else if isActive (s.get h) = true then (callG .cache s h).map (·.1)
    else none
  | .uncache h =>
    if h = 0 then some s
    else if 0 < ccOf (s.get h) then
      match callG .uncache s h with
      | some (s1, ks) => drainG (fuelFor s) s1 ks
      | none => none
    else none
  | .alloc h lvl kids => step s (.alloc h lvl kids)

def runG (s : St) : List Op → Option St
  | [] => some s
  | op :: ops =>
    match stepG s op with
    | none => none
    | some s' => runG s' ops

/-- every live node sits at a level ≥ 1 (`alloc` demands it, nothing changes a level) -/
def LvlPos (s : St) : Prop := ∀ p, isActive (s.get p) = true → lvlOf (s.get p) ≠ 0

/-- every count fits the 32-bit counters of the implementation with room for one more -/
def CountsFit (s : St) : Prop := ∀ p, incOf (s.get p) + 1 < 4294967296 ∧ ccOf (s.get p) + 1 < 4294967296

/-- the counts stay in range along NodeLife's run (true for every history shorter than 2^32 - 1 calls) -/
def RunFits : St → List Op → Prop
  | _, [] => True
  | s, op :: ops => CountsFit s ∧ match step s op with
    | some s' => RunFits s' ops
    | none => True

section
variable {s s1 : St} {h : Nat} {ks : List Nat}

theorem wfh_of {wl : List Nat} (hw : WInv s wl) (hl : LvlPos s) (p : Nat) : WFh (s.get p) := by
  cases hg : s.get p with
  | free => trivial
  | active lvl inc cc kids => have := hl p (by rw [hg]; rfl); rw [hg] at this; exact this
  | deleted c => exact hw.zombie p c hg

theorem lvlpos_of_shrinks {s' : St} (h : Shrinks s s') (hl : LvlPos s) : LvlPos s' := by
  intro p hp
  obtain ⟨a, b, _⟩ := h p hp
  rw [b]; exact hl p a

theorem set_get_self (s : St) (h : Nat) (v : HState) : s.set h v = s.set h ((s.set h v).get h) := by
  rw [get_set, if_pos rfl]

theorem unlink1_set (hu : unlink1 s h = some (s1, ks)) :
    s1 = s.set h (s1.get h) := by
  unfold unlink1 at hu
  split at hu
  · split at hu
    · cases hu; exact set_get_self ..
    · split at hu
      · cases hu; exact set_get_self ..
      · split at hu <;> (cases hu; exact set_get_self ..)
  · cases hu

theorem uncache1_set (hu : uncache1 s h = some (s1, ks)) :
    s1 = s.set h (s1.get h) ∧ Shrinks s s1 := by
  unfold uncache1 at hu
  split at hu
  · rename_i hg
    split at hu
    · cases hu; exact ⟨set_get_self .., shrinks_kill rfl⟩
    · cases hu; exact ⟨set_get_self .., shrinks_recount hg⟩
  · split at hu <;> (cases hu; exact ⟨set_get_self .., shrinks_kill rfl⟩)
  · cases hu

theorem callG_of_sim {op : Gen.NodeHeaders.Op} {new : List Event}
    (ha : Gen.NodeHeaders.step (toGen s.pol (s.get h) []) h op = .ok (toGen s.pol (s1.get h) new))
    (hb : ks = if Event.deleteNode (h : Int) ∈ new then kidsOf (s.get h) else [])
    (he : WFh (s1.get h)) (hset : s1 = s.set h (s1.get h)) (hshr : Shrinks s s1) :
    callG op s h = some (s1, ks) := by
  have hback := ofGen_toGen s.pol he new (s.get h)
    (fun ha => by obtain ⟨_, x, y⟩ := hshr h ha; exact ⟨x.symm, y.symm⟩)
  simp only [callG, ha, hback]
  rw [← hset, hb]
  rfl

end

/-- the generated `unlinkNode`, read back, is NodeLife's `unlink1` -/
theorem callG_unlink {s s1 : St} {h : Nat} {ks : List Nat} (hh : h ≠ 0) (hu : unlink1 s h = some (s1, ks))
    (wf : WFh (s.get h)) : callG .unlink s h = some (s1, ks) := by
  obtain ⟨a, b, _, _, e, _⟩ := unlink_sim hh hu wf []
  exact callG_of_sim a b e (unlink1_set hu) (unlink1_shrinks hu)

/-- the generated `uncacheNode`, read back, is NodeLife's transition for one `uncacheNode` call -/
theorem callG_uncache {s s1 : St} {h : Nat} {ks : List Nat} (hh : h ≠ 0) (hu : uncache1 s h = some (s1, ks))
    (wf : WFh (s.get h)) : callG .uncache s h = some (s1, ks) := by
  obtain ⟨a, b, _, _, e, _⟩ := uncache_sim hh hu wf []
  exact callG_of_sim a b e (uncache1_set hu).1 (uncache1_set hu).2

theorem callG_link {s : St} {h lvl inc cc : Nat} {kids : List Nat} (hh : h ≠ 0) (hg : s.get h = .active lvl inc cc kids)
    (hl : lvl ≠ 0) (hf : inc + 1 < 4294967296) :
    callG .link s h = some (s.set h (.active lvl (inc + 1) cc kids), []) := by
  have a := linkNode_hdr (pessOf s.pol) ((lvl : Nat) : Int) inc cc [] h (hpos hh) hf
  simp only [callG, Gen.NodeHeaders.step, Except.map, hg, toGen, lvlOf, incOf, ccOf, a]
  by_cases h0 : inc = 0 <;> simp [ofGen, hdr, h0, hl, kidsOf, lvlOf]

theorem callG_cache {s : St} {h lvl inc cc : Nat} {kids : List Nat} (hh : h ≠ 0) (hg : s.get h = .active lvl inc cc kids)
    (hl : lvl ≠ 0) (hf : cc + 1 < 4294967296) :
    callG .cache s h = some (s.set h (.active lvl inc (cc + 1) kids), []) := by
  have a := cacheNode_hdr (pessOf s.pol) ((lvl : Nat) : Int) inc cc [] h (hpos hh) hf
  simp only [callG, Gen.NodeHeaders.step, hg, toGen, lvlOf, incOf, ccOf, a]
  simp [ofGen, hdr, hl, kidsOf, lvlOf]

/-- the cascade driven by the generated code is NodeLife's cascade -/
theorem drainG_eq : ∀ (f : Nat) (s : St) (wl : List Nat) (s' : St),
    WInv s wl → LvlPos s → drain f s wl = some s' → drainG f s wl = some s' := by
  intro f s wl s' hw hl hd
  refine drain_rec (Q := fun f s wl s' => WInv s wl → LvlPos s → drainG f s wl = some s')
    (fun f s _ _ => by cases f <;> rfl) ?_ ?_ f s wl s' hd hw hl
  · intro f s wl s' ih hw hl
    simp only [drainG, if_true]
    exact ih (winv_skip0 hw) hl
  · intro f s h wl s1 ks s' h0 hu ih hw hl
    obtain ⟨s1', ks', hu', hw1, _⟩ := unlink1_ok hw h0
    obtain ⟨rfl, rfl⟩ := Prod.mk.inj (Option.some.inj (hu.symm.trans hu'))
    simp only [drainG, if_neg h0, callG_unlink h0 hu (wfh_of hw hl h)]
    exact ih hw1 (lvlpos_of_shrinks (unlink1_shrinks hu) hl)

/-- `stepG_eq`: on every legal call (NodeLife's `step` is defined) from a state satisfying NodeLife's invariant, with
    counts in the range of the counters, the machine driven by the GENERATED code makes exactly NodeLife's step. -/
theorem stepG_eq {s s' : St} {op : Op} (hw : WInv s []) (hl : LvlPos s) (hc : CountsFit s)
    (hs : step s op = some s') : stepG s op = some s' := by
  cases op with
  | link h =>
    rcases step_link_inv hs with ⟨h0, rfl⟩ | ⟨h0, lvl, inc, cc, kids, hg, rfl⟩
    · simp only [stepG, h0, if_true]
    · have hlv := hl h (by rw [hg]; rfl)
      have hfit := (hc h).1
      rw [hg] at hlv hfit
      simp only [stepG, if_neg h0, hg, isActive, if_true, callG_link h0 hg hlv hfit]
  | unlink h =>
    rcases step_unlink_inv hs with ⟨h0, rfl⟩ | ⟨h0, hm, hd⟩
    · simp only [stepG, h0, if_true]
    · simp only [stepG, if_neg h0, if_pos hm]
      exact drainG_eq _ _ _ _ (winv_unlink_start hw hm) hl hd
  | cache h =>
    rcases step_cache_inv hs with ⟨h0, rfl⟩ | ⟨h0, lvl, inc, cc, kids, hg, rfl⟩
    · simp only [stepG, h0, if_true]
    · have hlv := hl h (by rw [hg]; rfl)
      have hfit := (hc h).2
      rw [hg] at hlv hfit
      simp only [stepG, if_neg h0, hg, isActive, if_true, callG_cache h0 hg hlv hfit, Option.map]
  | uncache h =>
    rcases step_uncache_inv hs with ⟨h0, rfl⟩ | ⟨h0, ⟨lvl, kids, hg, hd⟩ | ⟨lvl, inc, cc, kids, hg, hlast, rfl⟩ |
      ⟨cc, hg, rfl⟩⟩
    · simp only [stepG, h0, if_true]
    · have hu : uncache1 s h = some (s.set h .free, kids) := by simp only [uncache1, hg]; rfl
      simp only [stepG, if_neg h0, hg, ccOf, Nat.one_pos, if_true, callG_uncache h0 hu (wfh_of hw hl h)]
      exact drainG_eq _ _ _ _ (winv_uncache_last hw h0 hg) (lvlpos_of_shrinks (shrinks_kill rfl) hl) hd
    · have hu : uncache1 s h = some (s.set h (.active lvl inc cc kids), []) := by
        simp only [uncache1, hg, if_neg hlast]
      simp only [stepG, if_neg h0, hg, ccOf, Nat.succ_pos, if_true, callG_uncache h0 hu (wfh_of hw hl h), drainG]
    · have hu : uncache1 s h = some (s.set h (if cc = 0 then .free else .deleted cc), []) := by
        simp only [uncache1, hg]; split <;> rfl
      simp only [stepG, if_neg h0, hg, ccOf, Nat.succ_pos, if_true, callG_uncache h0 hu (wfh_of hw hl h), drainG]
  | alloc h lvl kids => exact hs

theorem lvlpos_step {s s' : St} {op : Op} (hl : LvlPos s) (hs : step s op = some s') : LvlPos s' := by
  cases op with
  | alloc h lvl kids =>
    obtain ⟨_, _, hlvl, _, _, ext', _, rfl⟩ := step_alloc_inv hs
    intro p hp
    have e : ({ s.set h (.active lvl 1 0 kids) with ext := h :: ext' } : St).get p =
        if p = h then .active lvl 1 0 kids else s.get p := get_set s h p _
    rw [e] at hp ⊢
    by_cases ep : p = h
    · rw [if_pos ep]; exact Nat.ne_of_gt hlvl
    · rw [if_neg ep] at hp ⊢; exact hl p hp
  | _ => exact lvlpos_of_shrinks (step_shrinks (fun _ _ _ => Op.noConfusion) hs) hl

/-- `runG_eq`: on every legal history (`Paired`: NodeLife's run is defined) whose counts stay in the range of the
    counters, the machine driven by the GENERATED code reaches exactly NodeLife's state. -/
theorem runG_eq : ∀ (ops : List Op) (s s' : St), WInv s [] → LvlPos s → RunFits s ops → run s ops = some s' →
    runG s ops = some s'
  | [], _, _, _, _, _, hr => hr
  | op :: ops, s, s', hw, hl, hf, hr => by
    cases h1 : step s op with
    | none => simp [run, h1] at hr
    | some s1 =>
      simp only [run, h1] at hr
      simp only [RunFits, h1] at hf
      simp only [runG, stepG_eq hw hl hf.1 h1]
      exact runG_eq ops s1 s' (step_inv hw h1).1 (lvlpos_step hl h1) hf.2 hr

/-- `gen_machine`: the C06 theorems for the machine driven by the GENERATED link / unlink / cache / uncache: on every
    legal history from the empty forest (counts within the counters' range) it reaches a state `s` in which
    (`counts_exact`) every recorded incoming count is the number of references that exist, (`no_dangling`) live nodes
    point to live nodes at lower levels, (`all_reclaimed`) with no outside reference and no cache entry left every handle
    is free, (`all_reclaimed_pessimistic`) under the pessimistic policy no node outlives the last outside reference,
    (`reuse_only_free`) and a handle can be handed out again only when it is free and referenced by nobody. -/
theorem gen_machine (pol : Policy) (K : Nat) (ops : List Op) (s : St)
    (hr : run (init pol K) ops = some s) (hf : RunFits (init pol K) ops) :
    runG (init pol K) ops = some s ∧
    (∀ h, h ≠ 0 → incOf (s.get h) = s.ext.count h + prefs s.tab h) ∧
    (∀ p k, isActive (s.get p) = true → k ∈ kidsOf (s.get p) → k ≠ 0 →
      isActive (s.get k) = true ∧ lvlOf (s.get k) < lvlOf (s.get p)) ∧
    (s.ext = [] → (∀ h, ccOf (s.get h) = 0) → ∀ h, s.get h = .free) ∧
    (pol = .pessimistic → s.ext = [] → ∀ h, isActive (s.get h) = false) ∧
    (∀ h lvl kids s', stepG s (.alloc h lvl kids) = some s' →
      s.get h = .free ∧ s.ext.count h = 0 ∧ prefs s.tab h = 0) := by
  refine ⟨runG_eq ops _ _ (winv_init pol K) (fun _ hp => nomatch hp) hf hr, counts_exact pol K ops s hr,
    no_dangling pol K ops s hr, all_reclaimed pol K ops s hr, ?_, ?_⟩
  · intro hp; subst hp; exact all_reclaimed_pessimistic K ops s hr
  · intro h lvl kids s' ha
    obtain ⟨a, _, _, d, e⟩ := reuse_only_free pol K ops s s' hr h lvl kids ha
    exact ⟨a, d, e⟩

/-- a state whose table entries are all in range is in range (handles beyond the table are free) -/
theorem countsFit_of_table {s : St}
    (h : ∀ e ∈ s.tab, incOf e + 1 < 4294967296 ∧ ccOf e + 1 < 4294967296) : CountsFit s := by
  intro p
  by_cases hp : p < s.tab.length
  · have : s.get p = s.tab[p] := by simp [St.get, tget, hp]
    rw [this]; exact h _ (List.getElem_mem hp)
  · have : s.get p = .free := by
      simp [St.get, tget, List.getD_eq_getElem?_getD, List.getElem?_eq_none (by omega : s.tab.length ≤ p)]
    rw [this]; simp [incOf, ccOf]

/-- the example histories of State/NodeLife.lean, executed by the machine driven by the generated code -/
example :
    let ops := [Op.alloc 1 1 [0, 0], .alloc 2 1 [0, 0], .link 1, .link 2, .alloc 3 2 [1, 2], .link 1,
                .cache 3, .unlink 3]
    runG (init .pessimistic 3) ops =
      some ⟨.pessimistic, 3, [.free, .active 1 2 0 [0, 0], .active 1 1 0 [0, 0], .deleted 1], [1, 2, 1]⟩ := by
  decide +kernel

example :
    let ops := [Op.alloc 1 1 [0, 0], .alloc 2 1 [0, 0], .link 1, .alloc 3 2 [1, 2], .cache 3, .cache 1,
                .unlink 3, .uncache 1, .unlink 1, .uncache 3]
    (runG (init .optimistic 3) ops).map (fun s => (s.ext, s.tab)) = some ([], [.free, .free, .free, .free]) := by
  decide +kernel

example :
    let ops := [Op.alloc 1 1 [0, 0], .alloc 2 1 [0, 0], .link 1, .alloc 3 2 [1, 2], .cache 3, .cache 1,
                .unlink 3, .unlink 1]
    (runG (init .pessimistic 3) ops).map (fun s => (s.ext, s.tab)) =
      some ([], [.free, .deleted 1, .free, .deleted 1]) := by
  decide +kernel

/-- the decisions of the generated code on single headers: optimistic keeps an unreachable cached node and revives it;
    pessimistic deletes it at once and recycles the handle with the last cache entry -/
example : (unlinkNode (hdr false 2 1 1 []) 7).toOption.map (fun g => (g.levels, g.incoming_counts, g.events)) =
    some (some 2, some 0, []) := by decide +kernel
example : (linkNode (hdr false 2 0 1 []) 7).toOption.map (fun r => (r.1.incoming_counts, r.1.events, r.2)) =
    some (some 1, [Event.reviveNode 7], 7) := by decide +kernel
example : (unlinkNode (hdr true 2 1 1 []) 7).toOption.map (fun g => (g.levels, g.incoming_counts, g.events)) =
    some (some 0, some 0, [Event.deleteNode 7]) := by decide +kernel
example : (uncacheNode (hdr true 0 0 1 [Event.deleteNode 7]) 7).toOption.map (fun g => (g.levels, g.cache_counts, g.events)) =
    some (some 0, some 0, [Event.deleteNode 7, Event.recycleNodeHandle 7]) := by decide +kernel
example : (uncacheNode (hdr false 2 0 1 []) 7).toOption.map (fun g => (g.levels, g.cache_counts, g.events)) =
    some (some 0, some 0, [Event.deleteNode 7, Event.recycleNodeHandle 7]) := by decide +kernel

end Meddly.NodeHeadersGen

namespace Meddly.NodeHeadersCounter
open Meddly.CounterArray Meddly.CounterArrayGen


/-- every in-contract call of one of the four counter_array members used by node_headers, executed by the counter_array
    GENERATED from arrays.h / arrays.cc on the image of a model array `c`: it succeeds, the entry `i` and the returned
    bool are exactly what `Gen.NodeHeaders.Counter.*` says, every other entry and the size are unchanged, and the
    result is again the image of a model array satisfying the invariant. -/
theorem counter_spec (junk : Junk) {c : CA} (h : Inv c) (hf : Fit c) {i : Nat} (hi : i < c.data.length) :
    let v := c.data.getD i 0
    (v + 1 < 4294967296 →
      (∃ c', Gen.CounterArray.step junk (toGen c) (.increment i) = .ok (toGen c', 0) ∧ Inv c' ∧
        Gen.NodeHeaders.Counter.increment v = .ok (c'.data.getD i 0) ∧
        c'.data.length = c.data.length ∧ ∀ j, j ≠ i → c'.data.getD j 0 = c.data.getD j 0) ∧
      (∃ c' r, Gen.CounterArray.step junk (toGen c) (.isZeroBeforeIncrement i) = .ok (toGen c', r) ∧ Inv c' ∧
        Gen.NodeHeaders.Counter.isZeroBeforeIncrement v = .ok (c'.data.getD i 0, decide (r = 1)) ∧
        c'.data.length = c.data.length ∧ ∀ j, j ≠ i → c'.data.getD j 0 = c.data.getD j 0)) ∧
    (0 < v →
      (∃ c', Gen.CounterArray.step junk (toGen c) (.decrement i) = .ok (toGen c', 0) ∧ Inv c' ∧
        Gen.NodeHeaders.Counter.decrement v = .ok (c'.data.getD i 0) ∧
        c'.data.length = c.data.length ∧ ∀ j, j ≠ i → c'.data.getD j 0 = c.data.getD j 0) ∧
      (∃ c' r, Gen.CounterArray.step junk (toGen c) (.isPositiveAfterDecrement i) = .ok (toGen c', r) ∧ Inv c' ∧
        Gen.NodeHeaders.Counter.isPositiveAfterDecrement v = .ok (c'.data.getD i 0, decide (r = 1)) ∧
        c'.data.length = c.data.length ∧ ∀ j, j ≠ i → c'.data.getD j 0 = c.data.getD j 0)) ∧
    Gen.CounterArray.step junk (toGen c) (.get i) = .ok (toGen c, v) := by
  intro v
  have call : ∀ (op : Meddly.CounterArray.Op) (x r : Nat), OpFit op →
      specStep c.data op = some (c.data.set i x, r) →
      ∃ c', Gen.CounterArray.step junk (toGen c) (opG op) = .ok (toGen c', r) ∧ Inv c' ∧
        c'.data.getD i 0 = x ∧ c'.data.length = c.data.length ∧
        ∀ j, j ≠ i → c'.data.getD j 0 = c.data.getD j 0 := by
    intro op x r ho hs
    obtain ⟨c', hc, hd, hI, _⟩ := step_sim h hs
    refine ⟨c', gen_step junk h hf ho hs hc, hI, ?_⟩
    rw [hd]
    exact ⟨getD_set_self hi, List.length_set, fun j hj => by simp [List.getD_eq_getElem?_getD, Ne.symm hj]⟩
  refine ⟨fun hv => ⟨?_, ?_⟩, fun hv => ⟨?_, ?_⟩, congrArg (Except.map _) (get_gen h hi)⟩
  · obtain ⟨c', hstep, hI, hget, hrest⟩ := call (.increment i) (v + 1) 0 trivial (if_pos ⟨hi, hv⟩)
    exact ⟨c', hstep, hI, by rw [hget]; exact if_pos hv, hrest⟩
  · obtain ⟨c', hstep, hI, hget, hrest⟩ :=
      call (.isZeroBeforeIncrement i) (v + 1) (if v = 0 then 1 else 0) trivial (if_pos ⟨hi, hv⟩)
    refine ⟨c', _, hstep, hI, ?_, hrest⟩
    rw [hget]
    by_cases h0 : v = 0 <;> simp [Gen.NodeHeaders.Counter.isZeroBeforeIncrement, hv, h0]
  · obtain ⟨c', hstep, hI, hget, hrest⟩ := call (.decrement i) (v - 1) 0 trivial (if_pos ⟨hi, hv⟩)
    exact ⟨c', hstep, hI, by rw [hget]; exact if_pos hv, hrest⟩
  · obtain ⟨c', hstep, hI, hget, hrest⟩ :=
      call (.isPositiveAfterDecrement i) (v - 1) (if 0 < v - 1 then 1 else 0) trivial (if_pos ⟨hi, hv⟩)
    refine ⟨c', _, hstep, hI, ?_, hrest⟩
    rw [hget]
    by_cases h0 : 0 < v - 1 <;> simp [Gen.NodeHeaders.Counter.isPositiveAfterDecrement, hv, h0]
end Meddly.NodeHeadersCounter

/-
`#print axioms` (Lean 4.33.0) of every theorem of this file lists no axiom other than `propext`, `Classical.choice`
and `Quot.sound`.
-/
