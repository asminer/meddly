/-
  The hand-written model of `MEDDLY::hash_stream` (Core/HashStream.lean) IS what src/hash_stream.h says now.

  `Gen.HashStream.{rot, mix, final_mix, start, start0, push, push2, push3, finish}` are GENERATED from
  /repo/src/hash_stream.h by translate/hashstream_to_lean.py (clang's typed AST -> Lean; `unsigned` = `UInt32`,
  `int slot` = `Int` with explicit undefined-behaviour / throw outcomes).  This file proves that every
  generated function coincides with the corresponding hand-written definition of Core/HashStream.lean on the
  states the hand-written model has (`slot ∈ {0,1,2,3}`, embedded by `toGen`):

      Gen.push  (toGen s) v       = .ok (toGen (push  s v))          (`push_gen`)
      Gen.push2 (toGen s) a b     = .ok (toGen (push2 s a b))        (`push2_gen`)
      Gen.push3 (toGen s) a b c   = .ok (toGen (push3 s a b c))      (`push3_gen`)
      Gen.start i = toGen (start i),  Gen.finish (toGen s) = finish s,  Gen.mix = mix3,  Gen.final_mix = finalMix3

  so that `push2_eq`, `hash_of_sequence` and `hash_agree` of Core/HashStream.lean -- on which the unique-table
  model (C01) and the codec model (C02) rest -- are statements about the header's CURRENT text: they are
  restated below for the generated functions (`gen_push2_eq`, `gen_hash_of_sequence`, `gen_hash_agree`).
  A change of hash_stream.h that changes any of these functions changes the generated file and breaks these
  proofs (the differential family `gen` then tells whether the translation is still faithful).

  Trusted base: the translation conventions in the header of Gen/HashStream.lean (validated on every run by the
  differential family `gen`: the real class on random word sequences with random groupings), and the
  hand-written description of WHICH calls `unpacked_node::computeHash` / `simple_separated::hashNode` issue
  (`uFullCalls`, `pFullCalls`, `sparseCalls` below mirror the loops of Core/HashStream.lean call by call).
  All proofs are kernel-only (`rfl`, `simp`, `omega`, `decide`, case analysis on the slot).
-/
import MeddlyModel.Gen.HashStream
import MeddlyModel.Core.HashStream

namespace Meddly.HashStreamGen
open Meddly.HashStream

/-- the `int` held by `slot` -/
def slotVal : Slot → Int
  | .s0 => 0 | .s1 => 1 | .s2 => 2 | .s3 => 3

/-- hand-written state ↦ generated state -/
def toGen (s : State) : Gen.HashStream.State :=
  { z0 := s.z0, z1 := s.z1, z2 := s.z2, slot := slotVal s.slot }

/-- generated state ↦ hand-written state (slots outside 0..3 have no counterpart; mapped to slot 0) -/
def ofGen (g : Gen.HashStream.State) : State :=
  { z0 := g.z0, z1 := g.z1, z2 := g.z2,
    slot := if g.slot = 1 then .s1 else if g.slot = 2 then .s2 else if g.slot = 3 then .s3 else .s0 }

/-- the result of a generated step, read back (failures have no counterpart; mapped to the default state) -/
def ofGenR : Except Gen.HashStream.Err Gen.HashStream.State → State
  | .ok g => ofGen g
  | .error _ => default

theorem ofGen_toGen (s : State) : ofGen (toGen s) = s := by
  cases s with
  | mk z0 z1 z2 slot => cases slot <;> rfl

theorem toGen_inj (s t : State) (h : toGen s = toGen t) : s = t := by
  rw [← ofGen_toGen s, ← ofGen_toGen t, h]

/-- every generated state whose slot is one of 0, 1, 2, 3 is the image of a hand-written state -/
theorem toGen_surj (g : Gen.HashStream.State) (h : g.slot = 0 ∨ g.slot = 1 ∨ g.slot = 2 ∨ g.slot = 3) :
    toGen (ofGen g) = g := by
  cases g with
  | mk z0 z1 z2 slot =>
    simp only at h
    rcases h with h | h | h | h <;> subst h <;> rfl

/-- `rot`: the generated function (k an `int`) against the hand-written one (k a `UInt32`), for every
    rotation amount the header may legally use -/
theorem rot_gen (x : UInt32) (k : Nat) (hk : k ≤ 32) :
    Gen.HashStream.rot x (k : Int) = rot x (UInt32.ofNat k) := by
  unfold Gen.HashStream.rot rot
  rw [Int.toNat_natCast, show (32 - (k : Int)).toNat = 32 - k by omega, UInt32.ofNat_sub hk]
  rfl

/-- the side condition of the generated `rot` (both shift amounts `k` and `32 - k` in 0..31) is `0 < k < 32`;
    that the constant amounts of the calls in `mix` / `final_mix` satisfy it is decided by the translator, not
    stated here -/
theorem rot_defined_iff (x : UInt32) (k : Int) : Gen.HashStream.rot_defined x k ↔ 0 < k ∧ k < 32 := by
  unfold Gen.HashStream.rot_defined Gen.HashStream.InInt32; omega

/-- (by unfolding: `Gen.HashStream.rot c 4` and `rot c 4` reduce to the same shifts) -/
theorem mix_gen (a b c : UInt32) : Gen.HashStream.mix a b c = mix3 a b c := rfl

theorem final_mix_gen (a b c : UInt32) : Gen.HashStream.final_mix a b c = finalMix3 a b c := rfl

theorem start_gen (init : UInt32) : Gen.HashStream.start init = toGen (start init) := rfl

theorem start0_gen : Gen.HashStream.start0 = toGen start0 := rfl

theorem finish_gen (s : State) : Gen.HashStream.finish (toGen s) = finish s := by
  unfold Gen.HashStream.finish finish State.finalMix
  simp only [toGen, final_mix_gen]

theorem push_gen (s : State) (v : UInt32) :
    Gen.HashStream.push (toGen s) v = .ok (toGen (push s v)) := by
  cases s with
  | mk z0 z1 z2 slot =>
    cases slot <;>
      simp [Gen.HashStream.push, Gen.HashStream.InInt32, toGen, slotVal, push, State.mix, mix_gen]

theorem push2_gen (s : State) (v1 v2 : UInt32) :
    Gen.HashStream.push2 (toGen s) v1 v2 = .ok (toGen (push2 s v1 v2)) := by
  cases s with
  | mk z0 z1 z2 slot =>
    cases slot <;> simp [Gen.HashStream.push2, toGen, slotVal, push2, State.mix, mix_gen]

theorem push3_gen (s : State) (v1 v2 v3 : UInt32) :
    Gen.HashStream.push3 (toGen s) v1 v2 v3 = .ok (toGen (push3 s v1 v2 v3)) := by
  cases s with
  | mk z0 z1 z2 slot =>
    cases slot <;> simp [Gen.HashStream.push3, toGen, slotVal, push3, State.mix, mix_gen]

/-- one call of the stream interface, executed with the GENERATED member functions;
    `push(const void*, 4n)` = one `push(unsigned)` per word (that loop is not translated, see Gen/HashStream.lean) -/
def genCall (g : Gen.HashStream.State) : Call → Except Gen.HashStream.Err Gen.HashStream.State
  | .p1 a => Gen.HashStream.push g a
  | .p2 a b => Gen.HashStream.push2 g a b
  | .p3 a b c => Gen.HashStream.push3 g a b c
  | .pw ws => ws.foldlM Gen.HashStream.push g

def genRun (g : Gen.HashStream.State) (cs : List Call) : Except Gen.HashStream.Err Gen.HashStream.State :=
  cs.foldlM genCall g

/-- `start(init)`, the calls, `finish()` with the generated functions -/
def genHash (init : UInt32) (cs : List Call) : Except Gen.HashStream.Err UInt32 :=
  (genRun (Gen.HashStream.start init) cs).map Gen.HashStream.finish

theorem genWords_sim (ws : List UInt32) : ∀ s : State,
    ws.foldlM Gen.HashStream.push (toGen s) = .ok (toGen (pushWords s ws)) := by
  induction ws with
  | nil => intro s; rfl
  | cons w ws ih =>
    intro s
    rw [List.foldlM_cons, push_gen]
    exact ih (push s w)

theorem genCall_sim (s : State) (c : Call) : genCall (toGen s) c = .ok (toGen (c.run s)) := by
  cases c with
  | p1 a => exact push_gen s a
  | p2 a b => exact push2_gen s a b
  | p3 a b c => exact push3_gen s a b c
  | pw ws => exact genWords_sim ws s

/-- **Simulation.**  Any sequence of interface calls executed with the generated functions never fails
    (no throw, no undefined behaviour) and ends in the state the hand-written model computes. -/
theorem genRun_sim (cs : List Call) : ∀ s : State, genRun (toGen s) cs = .ok (toGen (runCalls s cs)) := by
  induction cs with
  | nil => intro s; rfl
  | cons c cs ih =>
    intro s
    unfold genRun
    rw [List.foldlM_cons, genCall_sim]
    exact ih (c.run s)

theorem genHash_sim (init : UInt32) (cs : List Call) :
    genHash init cs = .ok (finish (runCalls (start init) cs)) := by
  unfold genHash
  rw [start_gen, genRun_sim]
  show Except.ok (Gen.HashStream.finish (toGen _)) = _
  rw [finish_gen]

/-! ## The call sequences of the node hashing code (mirror of the loops in Core/HashStream.lean) -/

/-- `s.push(i, down); [s.push(&ev, bytes)]` -/
def entryCalls (P : Params) (i d : UInt32) (ev : List UInt32) : List Call :=
  .p2 i d :: (if P.hashEV then [.pw ev] else [])

/-- the calls of `unpacked_node::computeHash`, full node -/
def uFullCalls (P : Params) : Nat → List Edge → List Call
  | _, [] => []
  | n, e :: es =>
    (if P.skipU e then [] else entryCalls P (UInt32.ofNat n) e.down e.ev) ++ uFullCalls P (n+1) es

/-- the calls of `simple_separated::hashNode`, node stored full -/
def pFullCalls (P : Params) : Nat → List Edge → List Call
  | _, [] => []
  | n, e :: es =>
    (if P.skipP e then [] else entryCalls P (UInt32.ofNat n) e.down e.ev) ++ pFullCalls P (n+1) es

/-- the calls of both sparse loops -/
def sparseCalls (P : Params) (es : List Entry) : List Call :=
  es.flatMap (fun e => entryCalls P e.idx e.down e.ev)

theorem runCalls_append (s : State) (a b : List Call) :
    runCalls s (a ++ b) = runCalls (runCalls s a) b :=
  List.foldl_append

theorem runCalls_entry (P : Params) (s : State) (i d : UInt32) (ev : List UInt32) :
    runCalls s (entryCalls P i d ev) = pushEntry P s i d ev := by
  unfold entryCalls pushEntry
  cases P.hashEV <;> rfl

theorem uFullLoop_calls (P : Params) (ch : List Edge) : ∀ (n : Nat) (s : State),
    uFullLoop P n ch s = runCalls s (uFullCalls P n ch) := by
  induction ch with
  | nil => intro n s; rfl
  | cons e es ih =>
    intro n s
    unfold uFullLoop uFullCalls
    rw [runCalls_append, ih]
    cases P.skipU e
    · simp only [Bool.false_eq_true, ↓reduceIte, runCalls_entry]
    · rfl

theorem pFullLoop_calls (P : Params) (ch : List Edge) : ∀ (n : Nat) (s : State),
    pFullLoop P n ch s = runCalls s (pFullCalls P n ch) := by
  induction ch with
  | nil => intro n s; rfl
  | cons e es ih =>
    intro n s
    unfold pFullLoop pFullCalls
    rw [runCalls_append, ih]
    cases P.skipP e
    · simp only [Bool.false_eq_true, ↓reduceIte, runCalls_entry]
    · rfl

theorem sparseLoop_calls (P : Params) (es : List Entry) : ∀ s : State,
    sparseLoop P es s = runCalls s (sparseCalls P es) := by
  intro s
  unfold sparseLoop runCalls sparseCalls
  rw [List.foldl_flatMap]
  congr; funext s e; exact (runCalls_entry P s e.idx e.down e.ev).symm

/-! ## Non-vacuity: the generated functions on concrete inputs (values of the real class, see
    Core/HashStream.lean `Examples` and the differential family `gen`) -/

section Examples

/-- value of a generated computation, 0 if it failed -/
def val (r : Except Gen.HashStream.Err UInt32) : UInt32 :=
  match r with
  | .ok h => h
  | .error _ => 0

-- real C++: start(0); push(0,5); push(2,7); finish() = 2777887130
example : val (genHash 0 [.p2 0 5, .p2 2 7]) = 2777887130 := by decide +kernel
example : val (genHash 0 [.p1 0, .p1 5, .p1 2, .p1 7]) = 2777887130 := by decide +kernel
-- real C++: start(0); push(0,5,3); push(2,7,9); finish() = 456344633
example : val (genHash 0 [.p3 0 5 3, .p3 2 7 9]) = 456344633 := by decide +kernel
example : val (genHash 0 [.p2 0 5, .p1 3, .p2 2 7, .p1 9]) = 456344633 := by decide +kernel
-- more than one mix: start(7); push(i*i+1) for i<10; finish() = 2627151752
set_option maxRecDepth 8192 in
example : val (genHash 7 [.pw [1, 2, 5, 10, 17, 26, 37, 50, 65, 82]]) = 2627151752 := by decide +kernel
/-- the outcomes that the hand-written model does not have: a slot outside 0..3 makes the two- and the
    three-argument push throw, and the one-argument push index `z[3]` (undefined behaviour) -/
example : Gen.HashStream.push2 { z0 := 0, z1 := 0, z2 := 0, slot := 4 } 1 2 = .error .thrown
    ∧ Gen.HashStream.push3 { z0 := 0, z1 := 0, z2 := 0, slot := -1 } 1 2 3 = .error .thrown
    ∧ Gen.HashStream.push { z0 := 0, z1 := 0, z2 := 0, slot := 4 } 1 = .error .ub
    ∧ Gen.HashStream.push { z0 := 0, z1 := 0, z2 := 0, slot := -2147483648 } 1 = .error .ub := by
  exact ⟨rfl, rfl, rfl, rfl⟩
/-- the slot-3 defect of `push(a,b,c)` (Core/HashStream.lean `push3_slot3_defect`) is in the header's text:
    real C++ gives 999880263 -/
example : val ((Gen.HashStream.push3 Gen.HashStream.start0 1 2 3 >>= fun g => Gen.HashStream.push g 4).map
    Gen.HashStream.finish) = 999880263 := by decide +kernel

end Examples

/-- **The hand-written primitives are the generated ones.**  Each primitive of Core/HashStream.lean equals
    the generated function read back through `ofGen`; `rot` / `mix3` / `finalMix3` are the generated helpers.
    Hence every definition of Core/HashStream.lean (`pushWords`, `hashSeq`, `computeHashFull`, `hashNodeFull`,
    `nodeHash`, …), all of which are compositions of these primitives, is a function of the CURRENT text of
    hash_stream.h. -/
theorem model_is_generated (s : State) (init a b c : UInt32) :
    start init = ofGen (Gen.HashStream.start init) ∧
    start0 = ofGen Gen.HashStream.start0 ∧
    push s a = ofGenR (Gen.HashStream.push (toGen s) a) ∧
    push2 s a b = ofGenR (Gen.HashStream.push2 (toGen s) a b) ∧
    push3 s a b c = ofGenR (Gen.HashStream.push3 (toGen s) a b c) ∧
    finish s = Gen.HashStream.finish (toGen s) ∧
    mix3 a b c = Gen.HashStream.mix a b c ∧
    finalMix3 a b c = Gen.HashStream.final_mix a b c := by
  simp only [start_gen, start0_gen, push_gen, push2_gen, push3_gen, ofGenR, ofGen_toGen, finish_gen, mix_gen,
    final_mix_gen, and_self]

theorem slotVal_of_ne_s3 {s : Slot} (h : s ≠ .s3) : slotVal s = 0 ∨ slotVal s = 1 ∨ slotVal s = 2 := by
  cases s <;> simp_all [slotVal]

/-- **The generated step functions are total on the slots 0..3 and stay there**: no `throw`, no undefined
    behaviour (`slot--` overflow, `z[slot]` out of bounds) is reachable from `start(init)` or `start()`. -/
theorem gen_total (g : Gen.HashStream.State) (h : g.slot = 0 ∨ g.slot = 1 ∨ g.slot = 2 ∨ g.slot = 3)
    (a b c : UInt32) :
    (∃ g', Gen.HashStream.push g a = .ok g' ∧ (g'.slot = 0 ∨ g'.slot = 1 ∨ g'.slot = 2)) ∧
    (∃ g', Gen.HashStream.push2 g a b = .ok g' ∧ (g'.slot = 0 ∨ g'.slot = 1 ∨ g'.slot = 2)) ∧
    (∃ g', Gen.HashStream.push3 g a b c = .ok g' ∧ g'.slot = g.slot) := by
  rw [← toGen_surj g h]
  exact ⟨⟨_, push_gen _ a, slotVal_of_ne_s3 (push_slot_ne_s3 _ _)⟩,
    ⟨_, push2_gen _ a b, slotVal_of_ne_s3 (push2_eq _ a b ▸ push_slot_ne_s3 _ _)⟩,
    ⟨_, push3_gen _ a b c, congrArg slotVal (push3_slot _ a b c)⟩⟩

/-- **push2_eq for the header's text.**  With the generated functions, the two-argument push is two
    one-argument pushes, in every slot state 0, 1, 2, 3. -/
theorem gen_push2_eq (g : Gen.HashStream.State) (h : g.slot = 0 ∨ g.slot = 1 ∨ g.slot = 2 ∨ g.slot = 3)
    (a b : UInt32) :
    Gen.HashStream.push2 g a b = (Gen.HashStream.push g a >>= fun g' => Gen.HashStream.push g' b) := by
  rw [← toGen_surj g h]
  simp only [push2_gen, push_gen, bind, Except.bind, push2_eq]

/-- the three-argument push is three one-argument pushes in the slot states 0, 1, 2 (every state reachable
    from `start(init)`) -/
theorem gen_push3_eq (g : Gen.HashStream.State) (h : g.slot = 0 ∨ g.slot = 1 ∨ g.slot = 2) (a b c : UInt32) :
    Gen.HashStream.push3 g a b c =
      (Gen.HashStream.push g a >>= fun g' => Gen.HashStream.push g' b >>= fun g'' => Gen.HashStream.push g'' c) := by
  obtain ⟨s, rfl⟩ : ∃ s, g = toGen s := ⟨_, (toGen_surj g (by omega)).symm⟩
  have hs : s.slot ≠ .s3 := fun e => by simp [toGen, e, slotVal] at h
  simp only [push3_gen, push_gen, bind, Except.bind, push3_eq s hs]

/-- **hash_of_sequence for the header's text.**  Whatever grouping of the words into `push(a)`, `push(a,b)`,
    `push(a,b,c)`, `push(ptr, bytes)` calls is used after `start(init)`, the generated functions never fail
    and `finish()` returns `hashSeq init (all words in order)`; in particular two groupings of the same words
    hash alike. -/
theorem gen_hash_of_sequence (init : UInt32) (cs : List Call) :
    genHash init cs = .ok (hashSeq init (cs.flatMap Call.words)) := by
  rw [genHash_sim, hash_of_sequence]

/-- `hashSeq` itself is the generated `start`, `push` per word, `finish` -/
theorem gen_hashSeq (init : UInt32) (ws : List UInt32) : genHash init [.pw ws] = .ok (hashSeq init ws) := by
  rw [gen_hash_of_sequence]; simp [Call.words]

/-- **hash_agree for the header's text.**  For one logical node (hashed-header words `hdr`, child vector
    `ch`), the call sequences issued by `unpacked_node::computeHash` on the full view (with any number of
    trailing transparent entries) and on the sorted sparse view, and by `simple_separated::hashNode` on the
    node stored full (truncated or not; needs `Canon`) and stored sparse, executed with the GENERATED
    `start / push / push2 / finish`, never fail and all return the same number `nodeHash P hdr ch` --
    which is itself the generated `start(0)`, one `push` per word of `nodeWords P hdr ch`, `finish()`. -/
theorem gen_hash_agree (P : Params) (hdr : List UInt32) (ch : List Edge) (hc : P.Canon ch) (k : Nat) :
    genHash 0 (.pw hdr :: uFullCalls P 0 ch) = .ok (nodeHash P hdr ch) ∧
    genHash 0 (.pw hdr :: uFullCalls P 0 (ch ++ List.replicate k ⟨P.tv, P.te⟩)) = .ok (nodeHash P hdr ch) ∧
    genHash 0 (.pw hdr :: sparseCalls P (sparseOf P ch)) = .ok (nodeHash P hdr ch) ∧
    genHash 0 (.pw hdr :: pFullCalls P 0 ch) = .ok (nodeHash P hdr ch) ∧
    genHash 0 (.pw hdr :: pFullCalls P 0 (ch ++ List.replicate k ⟨P.tv, P.te⟩)) = .ok (nodeHash P hdr ch) ∧
    genHash 0 [.pw (nodeWords P hdr ch)] = .ok (nodeHash P hdr ch) := by
  have H := hash_agree P hdr ch hc k
  have hpw : ∀ s ws cs, runCalls s (.pw ws :: cs) = runCalls (pushWords s ws) cs := fun _ _ _ => rfl
  -- both sides are the loops of Core/HashStream.lean run on `start(0)` after the header words
  simp only [hashNodePacked, computeHashFull, hashNodeFull, computeHashSparse, hashNodeSparse] at H
  simp only [genHash_sim, hpw, ← uFullLoop_calls, ← pFullLoop_calls, ← sparseLoop_calls, H, true_and]
  rfl

end Meddly.HashStreamGen

/-
  #print axioms (Lean 4.33.0) -- no `sorry`, no `native_decide`, no `bv_decide`, no new axiom:

  rot_gen                    [propext, Quot.sound]
  mix_gen                    [propext, Quot.sound]
  final_mix_gen              [propext, Quot.sound]
  start_gen                  (none)
  start0_gen                 (none)
  finish_gen                 [propext, Quot.sound]
  push_gen                   [propext, Quot.sound]
  push2_gen                  [propext, Quot.sound]
  push3_gen                  [propext, Quot.sound]
  genRun_sim                 [propext, Quot.sound]
  model_is_generated         [propext, Quot.sound]
  gen_total                  [propext, Quot.sound]
  gen_push2_eq               [propext, Quot.sound]
  gen_push3_eq               [propext, Quot.sound]
  gen_hash_of_sequence       [propext, Quot.sound]
  gen_hashSeq                [propext, Quot.sound]
  gen_hash_agree             [propext, Classical.choice, Quot.sound]
-/
