/-
  The hand-written model of `MEDDLY::counter_array` (State/CounterArray.lean) IS what src/arrays.h and
  src/arrays.cc say now.

  `Gen.CounterArray.{init, get, swap, increment, decrement, isZeroBeforeIncrement, isPositiveAfterDecrement,
  entry_bits, expand, shrink, expand8to16, expand16to32, shrink16to8, shrink32to16, shrink32to8}` are
  GENERATED from /repo/src/arrays.h and /repo/src/arrays.cc by translate/counterarray_to_lean.py (clang's typed
  AST -> Lean; the three pointers as `Option (List Nat)`, elements and `size_t` as `Nat` with every C++
  wrap-around / truncation explicit, malloc / realloc / memset / free / the copy loops with the semantics
  printed in the generated file's header; `.error .ub` = undefined behaviour, `.error .unmodelled` = zero-size
  allocation or memset of a partial element).  This file proves, for every model state `c` with the model's
  invariant `Inv c` (and the machine-size side conditions `Fit c`: fewer than 2^62 entries, tallies below
  2^64 - 1) and every call inside the contract:

      Gen.increment junk (toGen c) i = .ok (toGen (bump c i v))              (`increment_gen`)
      Gen.decrement (toGen c) i      = .ok (toGen (drop1 c i v))             (`decrement_gen`)
      ... one equation per member (`get_gen`, `swap_gen`, `isZeroBeforeIncrement_gen`,
      `isPositiveAfterDecrement_gen`, `entry_bits_gen`, `expand_gen`, `shrink_gen`, `init_gen`) ...
      Gen.step junk (toGen c) (opG op) = .ok (toGen c', r)   whenever  step c op = some (c', r)   (`gen_step`)

  for EVERY content `junk` of freshly allocated memory, and lifts them to call sequences (`gen_run_sim`), so
  that the model's property theorems `counter_refines`, `width_inv`, `tally_exact` are restated for the
  GENERATED step function (`gen_counter_refines`, `gen_width_inv`, `gen_tally_exact`), together with
  `gen_model_agrees` and `gen_junk_irrelevant`.  A change of arrays.h / arrays.cc that changes the counter
  logic (a tally set in the wrong place, a wrong comparison constant, a dropped `++counts_09bit`, a wrong
  narrowing decision, a missing widening call, ...) changes the generated file and breaks these proofs; the
  differential family `gen` then tells whether the translation is still faithful.

  Trusted base: the translation conventions in the header of Gen/CounterArray.lean (validated on every run by
  the differential family `gen`: a real counter_array with a recording array_watcher on random call sequences),
  the dispatcher `Gen.CounterArray.step` (fixed text, not translated), clang's AST.
  All proofs are kernel-only (`simp`, `omega`, case analysis); no Mathlib.
-/
import MeddlyModel.Gen.CounterArray
import MeddlyModel.State.CounterArray

namespace Meddly.CounterArrayGen
open Meddly.CounterArray
open Gen.CounterArray (State Err fresh realloc memset0)

abbrev Junk := List Nat → Nat → Nat

def ptr (c : CA) (b : Nat) : Option (List Nat) := if c.bytes = b ∧ c.data ≠ [] then some c.data else none

def toGen (c : CA) : State :=
  { watch := false, watched := [], data8 := ptr c 1, data16 := ptr c 2, data32 := ptr c 4,
    size := c.data.length, counts_09bit := c.c09, counts_17bit := c.c17, bytes := c.bytes }

theorem fresh_length (j : Nat → Nat) (m n : Nat) : (fresh j m n).length = n := by simp [fresh]

theorem copy_fresh (l : List Nat) (j : Nat → Nat) (m : Nat) :
    l.take l.length ++ (fresh j m l.length).drop l.length = l := by
  simp [List.drop_eq_nil_of_le, fresh_length]

@[simp] theorem drop_fresh (j : Nat → Nat) (m n : Nat) : List.drop n (fresh j m n) = [] := by
  simp [List.drop_eq_nil_of_le, fresh_length]

/-- byte counts of fewer than 2^62 elements of at most 4 bytes do not wrap in `size_t` -/
theorem bytes_mod {n k : Nat} (hn : n < 2 ^ 62) (hk : k ≤ 4) : n * k % 18446744073709551616 = n * k :=
  Nat.mod_eq_of_lt (Nat.lt_of_le_of_lt (Nat.mul_le_mul_left n hk) (by omega))

theorem mod_size {n : Nat} (hn : n < 2 ^ 62) : n % 18446744073709551616 = n :=
  Nat.mod_eq_of_lt (Nat.lt_trans hn (by decide))

/-- `size_t` subtraction of a smaller number -/
theorem sub_mod {a b : Nat} (h : b ≤ a) (ha : a < 18446744073709551616) :
    (a + 18446744073709551616 - b) % 18446744073709551616 = a - b := by
  rw [show a + 18446744073709551616 - b = a - b + 18446744073709551616 by omega, Nat.add_mod_right,
    Nat.mod_eq_of_lt (by omega)]

theorem expand8to16_ok (junk : Junk) (g : State) (l : List Nat) (j : Nat)
    (hw : g.watch = false) (h8 : g.data8 = some l) (hs : g.size = l.length) (hj : j < l.length)
    (hlen : l.length < 2 ^ 62) :
    Gen.CounterArray.expand8to16 junk g j =
      .ok { g with data8 := none, data16 := some (l.set j 256), counts_09bit := 1, bytes := 2 } := by
  have h0 : l.length * 2 ≠ 0 := by omega
  simp [Gen.CounterArray.expand8to16, hs, h8, hw, bytes_mod hlen, h0, hj]

theorem expand16to32_ok (junk : Junk) (g : State) (l : List Nat) (j : Nat)
    (hw : g.watch = false) (h16 : g.data16 = some l) (hs : g.size = l.length) (hj : j < l.length)
    (hlen : l.length < 2 ^ 62) :
    Gen.CounterArray.expand16to32 junk g j =
      .ok { g with data16 := none, data32 := some (l.set j 65536), counts_17bit := 1, bytes := 4 } := by
  have h0 : l.length * 4 ≠ 0 := by omega
  simp [Gen.CounterArray.expand16to32, hs, h16, hw, bytes_mod hlen, h0, hj]

/-- machine-size side conditions: the byte size of the widest array fits `size_t`, the tallies can be incremented -/
structure Fit (c : CA) : Prop where
  len : c.data.length < 2 ^ 62
  c09 : c.c09 + 1 < 2 ^ 64
  c17 : c.c17 + 1 < 2 ^ 64

/-- `++counts_09bit`, `++counts_17bit` do not wrap -/
theorem succ_mod {t : Nat} (h : t + 1 < 2 ^ 64) : (t + 1) % 18446744073709551616 = t + 1 := Nat.mod_eq_of_lt h

theorem ne_nil_of_lt {l : List Nat} {i : Nat} (h : i < l.length) : l ≠ [] :=
  List.ne_nil_of_length_pos (Nat.zero_lt_of_lt h)

section
attribute [local simp] toGen

/-- `increment` and `isZeroBeforeIncrement` run the same `++` code, so both are unfolded together -/
theorem incr_gen (junk : Junk) {c : CA} (h : Inv c) (hf : Fit c) {i : Nat} (hi : i < c.data.length)
    (hv : c.data.getD i 0 + 1 < 4294967296) :
    Gen.CounterArray.increment junk (toGen c) i = .ok (toGen (bump c i (c.data.getD i 0))) ∧
    Gen.CounterArray.isZeroBeforeIncrement junk (toGen c) i =
      .ok (if c.data.getD i 0 = 0 then (toGen { c with data := c.data.set i 1 }, true)
           else (toGen (bump c i (c.data.getD i 0)), false)) := by
  have hne := ne_nil_of_lt hi
  have hvm := h.fits _ (getD_mem hi)
  rw [getD_eq_getElem hi] at hv hvm ⊢
  rcases h.bytesOK with hb | hb | hb <;> rw [hb] at hvm
  · by_cases e : c.data[i] = 255
    · simp [Gen.CounterArray.increment, Gen.CounterArray.isZeroBeforeIncrement, ptr, hne, hi, bump, hb, e]
      rw [expand8to16_ok _ _ (c.data.set i 0) i rfl rfl (by simp) (by simpa using hi) (by simpa using hf.len)]
      simp
    · have e2 : (c.data[i] + 1) % 256 = c.data[i] + 1 := Nat.mod_eq_of_lt (by rw [lim1] at hvm; omega)
      simp [Gen.CounterArray.increment, Gen.CounterArray.isZeroBeforeIncrement, ptr, hne, hi, bump, hb, e2,
        eq_comm (a := 0), apply_ite (Except.ok (ε := Err))]
  · by_cases e : c.data[i] = 65535
    · simp [Gen.CounterArray.increment, Gen.CounterArray.isZeroBeforeIncrement, ptr, hne, hi, bump, hb, e]
      rw [expand16to32_ok _ _ (c.data.set i 0) i rfl rfl (by simp) (by simpa using hi) (by simpa using hf.len)]
      simp
    · have e2 : (c.data[i] + 1) % 65536 = c.data[i] + 1 := Nat.mod_eq_of_lt (by rw [lim2] at hvm; omega)
      simp [Gen.CounterArray.increment, Gen.CounterArray.isZeroBeforeIncrement, ptr, hne, hi, bump, hb, e2,
        succ_mod hf.c09, eq_comm (a := 0), apply_ite (Except.ok (ε := Err))]
      by_cases e3 : c.data[i] = 255 <;> simp [e3]
  · have e2 : (c.data[i] + 1) % 4294967296 = c.data[i] + 1 := Nat.mod_eq_of_lt hv
    simp [Gen.CounterArray.increment, Gen.CounterArray.isZeroBeforeIncrement, ptr, hne, hi, bump, hb, e2,
      succ_mod hf.c09, succ_mod hf.c17, eq_comm (a := 0), apply_ite (Except.ok (ε := Err))]
    by_cases e3 : c.data[i] = 255 <;> by_cases e4 : c.data[i] = 65535 <;> simp [e3, e4]

theorem increment_gen (junk : Junk) {c : CA} (h : Inv c) (hf : Fit c) {i : Nat} (hi : i < c.data.length)
    (hv : c.data.getD i 0 + 1 < 4294967296) :
    Gen.CounterArray.increment junk (toGen c) i = .ok (toGen (bump c i (c.data.getD i 0))) :=
  (incr_gen junk h hf hi hv).1

theorem big_pos {k : Nat} {l : List Nat} {i : Nat} (hi : i < l.length) (hk : k ≤ l[i]) : 0 < big k l := by
  unfold big
  rw [List.countP_pos_iff]
  exact ⟨l[i], List.getElem_mem hi, by simpa using hk⟩

/-- a tally that bounds a count containing entry `i` can be decremented without wrap -/
theorem tally_pred {k t : Nat} {l : List Nat} {i : Nat} (hi : i < l.length) (ht : big k l ≤ t)
    (ht' : t + 1 < 2 ^ 64) (e : l[i] = k) : (t + 18446744073709551615) % 18446744073709551616 = t - 1 :=
  pred_mod (Nat.lt_of_lt_of_le (big_pos hi (Nat.le_of_eq e.symm)) ht) (Nat.lt_of_succ_lt ht')

/-- `decrement` and `isPositiveAfterDecrement` run the same `--` code, so both are unfolded together -/
theorem decr_gen {c : CA} (h : Inv c) (hf : Fit c) {i : Nat} (hi : i < c.data.length) (hv : 0 < c.data.getD i 0) :
    Gen.CounterArray.decrement (toGen c) i = .ok (toGen (drop1 c i (c.data.getD i 0))) ∧
    Gen.CounterArray.isPositiveAfterDecrement (toGen c) i =
      .ok (toGen (drop1 c i (c.data.getD i 0)), decide (0 < c.data.getD i 0 - 1)) := by
  have hne := ne_nil_of_lt hi
  have hvm := h.fits _ (getD_mem hi)
  have p9 := tally_pred hi h.t09 hf.c09
  have p17 := tally_pred hi h.t17 hf.c17
  rw [getD_eq_getElem hi] at hv hvm ⊢
  rcases h.bytesOK with hb | hb | hb <;> rw [hb] at hvm
  · simp [Gen.CounterArray.decrement, Gen.CounterArray.isPositiveAfterDecrement, ptr, hne, hi, drop1, hb,
      show (c.data[i] + 255) % 256 = c.data[i] - 1 from pred_mod hv hvm]
  · simp [Gen.CounterArray.decrement, Gen.CounterArray.isPositiveAfterDecrement, ptr, hne, hi, drop1, hb,
      show (c.data[i] + 65535) % 65536 = c.data[i] - 1 from pred_mod hv hvm,
      eq_comm (a := 256)]
    by_cases e : c.data[i] = 256 <;> simp [e, p9]
  · simp [Gen.CounterArray.decrement, Gen.CounterArray.isPositiveAfterDecrement, ptr, hne, hi, drop1, hb,
      show (c.data[i] + 4294967295) % 4294967296 = c.data[i] - 1 from pred_mod hv hvm,
      eq_comm (a := 256), eq_comm (a := 65536)]
    by_cases e3 : c.data[i] = 256 <;> by_cases e4 : c.data[i] = 65536 <;> simp [e3, e4, p9, p17]

theorem decrement_gen {c : CA} (h : Inv c) (hf : Fit c) {i : Nat} (hi : i < c.data.length)
    (hv : 0 < c.data.getD i 0) :
    Gen.CounterArray.decrement (toGen c) i = .ok (toGen (drop1 c i (c.data.getD i 0))) :=
  (decr_gen h hf hi hv).1

theorem isPositiveAfterDecrement_gen {c : CA} (h : Inv c) (hf : Fit c) {i : Nat} (hi : i < c.data.length)
    (hv : 0 < c.data.getD i 0) :
    Gen.CounterArray.isPositiveAfterDecrement (toGen c) i =
      .ok (toGen (drop1 c i (c.data.getD i 0)), decide (0 < c.data.getD i 0 - 1)) :=
  (decr_gen h hf hi hv).2

theorem get_gen {c : CA} (h : Inv c) {i : Nat} (hi : i < c.data.length) :
    Gen.CounterArray.get (toGen c) i = .ok (c.data.getD i 0) := by
  have hne := ne_nil_of_lt hi
  rcases h.bytesOK with hb | hb | hb <;> simp [Gen.CounterArray.get, ptr, hne, hi, hb]

theorem entry_bits_gen {c : CA} (h : Inv c) : Gen.CounterArray.entry_bits (toGen c) = .ok c.bits := by
  rcases h.bytesOK with hb | hb | hb <;> simp [Gen.CounterArray.entry_bits, CA.bits, hb]

theorem swap_gen {c : CA} (h : Inv c) {i j : Nat} (hi : i < c.data.length) (hj : j < c.data.length) :
    Gen.CounterArray.swap (toGen c) i j =
      .ok (toGen { c with data := (c.data.set i (c.data.getD j 0)).set j (c.data.getD i 0) }) := by
  have hne := ne_nil_of_lt hi
  rcases h.bytesOK with hb | hb | hb <;> simp [Gen.CounterArray.swap, ptr, hne, hi, hj, hb]

theorem init_gen : Gen.CounterArray.init false = toGen init := by
  simp [Gen.CounterArray.init, ptr, init]

theorem isZeroBeforeIncrement_gen (junk : Junk) {c : CA} (h : Inv c) (hf : Fit c) {i : Nat} (hi : i < c.data.length)
    (hv : c.data.getD i 0 + 1 < 4294967296) :
    Gen.CounterArray.isZeroBeforeIncrement junk (toGen c) i =
      .ok (if c.data.getD i 0 = 0 then (toGen { c with data := c.data.set i 1 }, true)
           else (toGen (bump c i (c.data.getD i 0)), false)) :=
  (incr_gen junk h hf hi hv).2

theorem ptr_isSome (c : CA) (b : Nat) : (ptr c b).isSome = true ↔ c.bytes = b ∧ c.data.length ≠ 0 := by
  rw [Ne, List.length_eq_zero_iff]
  unfold ptr
  split <;> simp [*]

theorem ptr_getD (c : CA) (b : Nat) : (ptr c b).getD [] = if c.bytes = b then c.data else [] := by
  unfold ptr
  by_cases h1 : c.bytes = b <;> by_cases h2 : c.data = [] <;> simp [h1, h2]

@[simp] theorem ite_nil_getD (d : List Nat) : (if d = [] then none else some d).getD [] = d := by
  by_cases h : d = [] <;> simp [h]

theorem memset0_append (a b : List Nat) (n k : Nat) (ha : a.length = n) (hb : b.length = k) :
    memset0 (a ++ b) n k = a ++ List.replicate k 0 := by
  subst ha hb
  simp [memset0]

theorem realloc_grow (j : Nat → Nat) (m : Nat) (l : List Nat) (n : Nat) (h : l.length ≤ n) :
    memset0 (realloc j m l n) l.length (n - l.length) = l ++ List.replicate (n - l.length) 0 := by
  unfold realloc
  rw [List.take_of_length_le h]
  exact memset0_append _ _ _ _ rfl (fresh_length _ _ _)

/-- a converting copy into a fresh block of `n` elements followed by zeroing of its tail -/
theorem copy_memset0 (j : Nat → Nat) (m : Nat) (f : Nat → Nat) (l : List Nat) (n : Nat) :
    memset0 (l.map f ++ (fresh j m n).drop l.length) l.length (n - l.length) =
      l.map f ++ List.replicate (n - l.length) 0 :=
  memset0_append _ _ _ _ (List.length_map f) (by simp [fresh_length])

theorem realloc_shrink (j : Nat → Nat) (m : Nat) (l : List Nat) (n : Nat) (h : n ≤ l.length) :
    realloc j m l n = l.take n := by
  unfold realloc
  have : n - l.length = 0 := by omega
  simp [this, fresh]

/-- the number of elements a narrowing copy moves (`stop`) fits both blocks -/
theorem stop_le (a b : Nat) : (if a < b then a else b) ≤ a ∧ (if a < b then a else b) ≤ b := by
  split <;> omega

theorem shrink16to8_ok (junk : Junk) (g : State) (l : List Nat) (ns : Nat)
    (hw : g.watch = false) (h16 : g.data16.getD [] = l) (hs : g.size = l.length) (h0 : 0 < ns) (hn : ns < 2 ^ 62) :
    Gen.CounterArray.shrink16to8 junk g ns =
      .ok { g with data8 := some (((l.take (if ns < l.length then ns else l.length)).map (· % 256)) ++
                                   (fresh (junk [0]) 256 ns).drop (if ns < l.length then ns else l.length)),
                   data16 := none, bytes := 1 } := by
  simp [Gen.CounterArray.shrink16to8, hs, h16, hw, Nat.ne_of_gt h0, mod_size hn, stop_le]

theorem shrink32to8_ok (junk : Junk) (g : State) (l : List Nat) (ns : Nat)
    (hw : g.watch = false) (h32 : g.data32.getD [] = l) (hs : g.size = l.length) (h0 : 0 < ns) (hn : ns < 2 ^ 62) :
    Gen.CounterArray.shrink32to8 junk g ns =
      .ok { g with data8 := some (((l.take (if ns < l.length then ns else l.length)).map (· % 256)) ++
                                   (fresh (junk [0]) 256 ns).drop (if ns < l.length then ns else l.length)),
                   data32 := none, bytes := 1 } := by
  simp [Gen.CounterArray.shrink32to8, hs, h32, hw, Nat.ne_of_gt h0, mod_size hn, stop_le]

theorem shrink32to16_ok (junk : Junk) (g : State) (l : List Nat) (ns : Nat)
    (hw : g.watch = false) (h32 : g.data32.getD [] = l) (hs : g.size = l.length) (h0 : 0 < ns) (hn : ns < 2 ^ 62) :
    Gen.CounterArray.shrink32to16 junk g ns =
      .ok { g with data16 := some (((l.take (if ns < l.length then ns else l.length)).map (· % 65536)) ++
                                   (fresh (junk [0]) 65536 ns).drop (if ns < l.length then ns else l.length)),
                   data32 := none, bytes := 2 } := by
  simp [Gen.CounterArray.shrink32to16, hs, h32, hw, Nat.ne_of_gt h0, Nat.mul_eq_zero, bytes_mod hn, stop_le]

theorem expand_gen (junk : Junk) {c : CA} (h : Inv c) (hf : Fit c) {ns : Nat} (hn : ns < 2 ^ 62)
    (hgt : c.data.length < ns) :
    Gen.CounterArray.expand junk (toGen c) ns =
      .ok (toGen { renarrow c with data := (renarrow c).data ++ List.replicate (ns - c.data.length) 0 }) := by
  have _ := hf  -- `hf` is not needed: `ns < 2 ^ 62` bounds every size involved
  have hle : ¬ ns ≤ c.data.length := Nat.not_le_of_lt hgt
  have hlt : ¬ ns < c.data.length := Nat.not_lt_of_lt hgt
  have hne : ∀ l : List Nat, l ++ List.replicate (ns - c.data.length) 0 ≠ [] := fun l => by
    simp [Nat.ne_of_gt (Nat.sub_pos_of_lt hgt)]
  have hn64 : ns < 18446744073709551616 := Nat.lt_trans hn (by decide)
  have hk62 : ns - c.data.length < 2 ^ 62 := Nat.lt_of_le_of_lt (Nat.sub_le _ _) hn
  have hpos := Nat.zero_lt_of_lt hgt
  have a0 : ¬ ns = 0 := Nat.ne_of_gt hpos
  have s2 : c.data.length + (ns - c.data.length) = ns := Nat.add_sub_cancel' (Nat.le_of_lt hgt)
  have a1 := sub_mod (Nat.le_of_lt hgt) hn64
  have b1 := mod_size hn
  have c1 := mod_size hk62
  have grow := realloc_grow (l := c.data) (n := ns) (h := Nat.le_of_lt hgt)
  rcases h.bytesOK with hb | hb | hb
  · simp [Gen.CounterArray.expand, hle, a0, a1, b1, c1, renarrow, grow, ptr, hne, s2, hb]
  · by_cases z : c.c09 = 0
    · simp [Gen.CounterArray.expand, hle, renarrow, hb, z]
      rw [shrink16to8_ok _ _ c.data ns rfl (by simp [ptr_getD, hb]) rfl hpos hn]
      simp [hlt, a1, s2, fresh_length, copy_memset0, ptr, hne, hb]
    · simp [Gen.CounterArray.expand, hle, a0, a1, bytes_mod hn, bytes_mod hk62, Nat.mul_eq_zero, s2, z, renarrow, grow, ptr, hne, hb]
  · by_cases z17 : c.c17 = 0
    · by_cases z : c.c09 = 0
      · simp [Gen.CounterArray.expand, hle, renarrow, hb, z, z17]
        rw [shrink32to8_ok _ _ c.data ns rfl (by simp [ptr_getD, hb]) rfl hpos hn]
        simp [hlt, a1, s2, fresh_length, copy_memset0, ptr, hne, hb]
      · simp [Gen.CounterArray.expand, hle, renarrow, hb, z, z17]
        rw [shrink32to16_ok _ _ c.data ns rfl (by simp [ptr_getD, hb]) rfl hpos hn]
        have c5 : (ns + 18446744073709551616 - c.data.length) * 2 % 18446744073709551616 = (ns - c.data.length) * 2 := by
          rw [← Nat.mod_mul_mod, a1, bytes_mod hk62 (by decide)]
        simp [hlt, c5, s2, fresh_length, copy_memset0, ptr, hne, hb]
    · simp [Gen.CounterArray.expand, hle, a0, a1, bytes_mod hn, bytes_mod hk62, Nat.mul_eq_zero, s2, z17, renarrow, grow, ptr, hne, hb]

theorem shrink_gen (junk : Junk) {c : CA} (h : Inv c) (hf : Fit c) {ns : Nat} (h0 : ns ≠ 0)
    (hlt : ns < c.data.length) :
    Gen.CounterArray.shrink junk (toGen c) ns =
      .ok (toGen { renarrow c with data := (renarrow c).data.take ns }) := by
  have hge : ¬ ns ≥ c.data.length := Nat.not_le_of_lt hlt
  have hle : ns ≤ c.data.length := Nat.le_of_lt hlt
  have hd : c.data ≠ [] := ne_nil_of_lt hlt
  have hn : ns < 2 ^ 62 := Nat.lt_trans hlt hf.len
  have m : min ns c.data.length = ns := Nat.min_eq_left hle
  have b1 := mod_size hn
  have hpos := Nat.pos_of_ne_zero h0
  rcases h.bytesOK with hb | hb | hb
  · simp [Gen.CounterArray.shrink, hge, h0, b1, renarrow, realloc_shrink _ _ c.data ns hle, ptr, hd, m, hb]
  · by_cases z : c.c09 = 0
    · simp [Gen.CounterArray.shrink, hge, renarrow, hb, z]
      rw [shrink16to8_ok _ _ c.data ns rfl (by simp [ptr_getD, hb]) rfl hpos hn]
      simp [hlt, ptr, hd, h0, m, List.map_take, hb]
    · simp [Gen.CounterArray.shrink, hge, h0, Nat.mul_eq_zero, bytes_mod hn, z, renarrow, realloc_shrink _ _ c.data ns hle, ptr, hd, m, hb]
  · by_cases z17 : c.c17 = 0
    · by_cases z : c.c09 = 0
      · simp [Gen.CounterArray.shrink, hge, renarrow, hb, z, z17]
        rw [shrink32to8_ok _ _ c.data ns rfl (by simp [ptr_getD, hb]) rfl hpos hn]
        simp [hlt, ptr, hd, h0, m, List.map_take, hb]
      · simp [Gen.CounterArray.shrink, hge, renarrow, hb, z, z17]
        rw [shrink32to16_ok _ _ c.data ns rfl (by simp [ptr_getD, hb]) rfl hpos hn]
        simp [hlt, ptr, hd, h0, m, List.map_take, hb]
    · simp [Gen.CounterArray.shrink, hge, h0, Nat.mul_eq_zero, bytes_mod hn, z17, renarrow, realloc_shrink _ _ c.data ns hle, ptr, hd, m, hb]

end

def opG : Op → Gen.CounterArray.Op
  | .expand ns => .expand ns
  | .shrink ns => .shrink ns
  | .get i => .get i
  | .swap i j => .swap i j
  | .increment i => .increment i
  | .decrement i => .decrement i
  | .isZeroBeforeIncrement i => .isZeroBeforeIncrement i
  | .isPositiveAfterDecrement i => .isPositiveAfterDecrement i

/-- the requested size times the widest element (4 bytes) fits `size_t` -/
def OpFit : Op → Prop
  | .expand ns => ns < 2 ^ 62
  | _ => True

theorem gen_step (junk : Junk) {c : CA} (h : Inv c) (hf : Fit c) {op : Op} (ho : OpFit op) {a' : List Nat} {r : Nat}
    (hs : specStep c.data op = some (a', r)) {c' : CA} (hc : step c op = some (c', r)) :
    Gen.CounterArray.step junk (toGen c) (opG op) = .ok (toGen c', r) := by
  cases op with
  | expand ns =>
    by_cases hle : ns ≤ c.data.length
    · cases (if_pos hle).symm.trans hc
      exact congrArg (Except.map _) (if_pos hle)
    · cases (if_neg hle).symm.trans hc
      exact congrArg (Except.map _) (expand_gen junk h hf ho (Nat.lt_of_not_le hle))
  | shrink ns =>
    by_cases hle : c.data.length ≤ ns
    · cases (if_pos hle).symm.trans hc
      exact congrArg (Except.map _) (if_pos hle)
    · have hc := (if_neg hle).symm.trans hc
      by_cases h0 : ns = 0
      · cases (if_pos h0).symm.trans hc
      · cases (if_neg h0).symm.trans hc
        exact congrArg (Except.map _) (shrink_gen junk h hf h0 (Nat.lt_of_not_le hle))
  | get i =>
    obtain ⟨hi, e⟩ := of_ite_some hs
    cases e
    cases (if_pos hi).symm.trans hc
    exact congrArg (Except.map _) (get_gen h hi)
  | swap i j =>
    obtain ⟨hij, _⟩ := of_ite_some hs
    cases (if_pos hij).symm.trans hc
    exact congrArg (Except.map _) (swap_gen h hij.1 hij.2)
  | increment i =>
    obtain ⟨hi, _⟩ := of_ite_some hs
    cases (if_pos hi.1).symm.trans hc
    exact congrArg (Except.map _) (increment_gen junk h hf hi.1 hi.2)
  | decrement i =>
    obtain ⟨hi, _⟩ := of_ite_some hs
    cases (if_pos hi.1).symm.trans hc
    exact congrArg (Except.map _) (decrement_gen h hf hi.1 hi.2)
  | isZeroBeforeIncrement i =>
    obtain ⟨hi, _⟩ := of_ite_some hs
    have hc := (if_pos hi.1).symm.trans hc
    show (Gen.CounterArray.isZeroBeforeIncrement junk (toGen c) i).map _ = _
    rw [isZeroBeforeIncrement_gen junk h hf hi.1 hi.2]
    by_cases z : c.data.getD i 0 = 0
    · rw [if_pos z] at hc ⊢
      cases hc
      rfl
    · rw [if_neg z] at hc ⊢
      cases hc
      rfl
  | isPositiveAfterDecrement i =>
    obtain ⟨hi, e⟩ := of_ite_some hs
    cases e
    obtain ⟨rfl, _⟩ := Prod.mk.inj (Option.some.inj ((if_pos hi.1).symm.trans hc))
    show (Gen.CounterArray.isPositiveAfterDecrement (toGen c) i).map _ = _
    rw [isPositiveAfterDecrement_gen h hf hi.1 hi.2]
    simp [Except.map]

/-- after `n` calls: the array is shorter than 2^62 and each tally is at most `n` (a call adds at most 1) -/
structure FitN (n : Nat) (c : CA) : Prop where
  len : c.data.length < 2 ^ 62
  c09 : c.c09 ≤ n
  c17 : c.c17 ≤ n

theorem FitN.fit {n : Nat} {c : CA} (h : FitN n c) (hn : n + 1 < 2 ^ 64) : Fit c :=
  ⟨h.len, by have := h.c09; omega, by have := h.c17; omega⟩

theorem fitN_init : FitN 0 init := ⟨by decide, Nat.le_refl 0, Nat.le_refl 0⟩

theorem renarrow_fields (c : CA) :
    (renarrow c).data.length = c.data.length ∧ (renarrow c).c09 = c.c09 ∧ (renarrow c).c17 = c.c17 := by
  simp only [renarrow, apply_ite CA.c09, apply_ite CA.c17, apply_ite CA.data, apply_ite List.length,
    List.length_map, ite_self, and_self]

theorem ite_le {p : Prop} [Decidable p] {a b t : Nat} (ha : a ≤ t) (hb : b ≤ t) : (if p then a else b) ≤ t := by
  split <;> assumption

/-- every branch of `bump` leaves the length alone and raises a tally by at most one -/
theorem bump_fields (c : CA) (i v : Nat) :
    (bump c i v).data.length = c.data.length ∧ (bump c i v).c09 ≤ c.c09 + 1 ∧ (bump c i v).c17 ≤ c.c17 + 1 := by
  simp only [bump, apply_ite CA.c09, apply_ite CA.c17, apply_ite CA.data, apply_ite List.length,
    List.length_set, ite_self, true_and]
  constructor <;> repeat' apply ite_le
  all_goals omega

theorem drop1_fields (c : CA) (i v : Nat) :
    (drop1 c i v).data.length = c.data.length ∧ (drop1 c i v).c09 ≤ c.c09 ∧ (drop1 c i v).c17 ≤ c.c17 := by
  simp only [drop1, apply_ite CA.c09, apply_ite CA.c17, apply_ite CA.data, apply_ite List.length,
    List.length_set, ite_self, true_and]
  constructor <;> repeat' apply ite_le
  all_goals omega

theorem FitN.succ {n : Nat} {c c' : CA} (hf : FitN n c) (hl : c'.data.length < 2 ^ 62)
    (h9 : c'.c09 ≤ c.c09 + 1) (h17 : c'.c17 ≤ c.c17 + 1) : FitN (n + 1) c' :=
  ⟨hl, Nat.le_trans h9 (Nat.succ_le_succ hf.c09), Nat.le_trans h17 (Nat.succ_le_succ hf.c17)⟩

theorem fitN_step {n : Nat} {c c' : CA} {op : Op} {r : Nat} (hf : FitN n c) (ho : OpFit op)
    (hs : step c op = some (c', r)) : FitN (n + 1) c' := by
  have set : ∀ d : List Nat, d.length < 2 ^ 62 → FitN (n + 1) { c with data := d } :=
    fun d hd => hf.succ hd (Nat.le_succ _) (Nat.le_succ _)
  have narrow : ∀ d : List Nat, d.length < 2 ^ 62 → FitN (n + 1) { renarrow c with data := d } :=
    fun d hd => hf.succ hd ((renarrow_fields c).2.1 ▸ Nat.le_succ _) ((renarrow_fields c).2.2 ▸ Nat.le_succ _)
  have bump : ∀ i v, FitN (n + 1) (bump c i v) := fun i v =>
    have b := bump_fields c i v
    hf.succ (b.1 ▸ hf.len) b.2.1 b.2.2
  have drop : ∀ i v, FitN (n + 1) (drop1 c i v) := fun i v =>
    have b := drop1_fields c i v
    hf.succ (b.1 ▸ hf.len) (Nat.le_succ_of_le b.2.1) (Nat.le_succ_of_le b.2.2)
  cases op with
  | expand ns =>
    simp only [step] at hs
    split at hs <;> cases hs
    · exact set _ hf.len
    · refine narrow _ ?_
      simp only [List.length_append, List.length_replicate, (renarrow_fields c).1]
      simp only [OpFit] at ho
      omega
  | shrink ns =>
    simp only [step] at hs
    split at hs
    · cases hs
      exact set _ hf.len
    · split at hs <;> cases hs
      exact narrow _ (Nat.lt_of_le_of_lt (List.length_take_le' _ _) ((renarrow_fields c).1 ▸ hf.len))
  | get i =>
    obtain ⟨_, e⟩ := of_ite_some hs
    cases e
    exact set _ hf.len
  | swap i j =>
    obtain ⟨_, e⟩ := of_ite_some hs
    cases e
    exact set _ (by simpa using hf.len)
  | increment i =>
    obtain ⟨_, e⟩ := of_ite_some hs
    cases e
    exact bump _ _
  | decrement i =>
    obtain ⟨_, e⟩ := of_ite_some hs
    cases e
    exact drop _ _
  | isZeroBeforeIncrement i =>
    obtain ⟨_, e⟩ := of_ite_some hs
    split at e <;> cases e
    · exact set _ (by simpa using hf.len)
    · exact bump _ _
  | isPositiveAfterDecrement i =>
    obtain ⟨_, e⟩ := of_ite_some hs
    cases e
    exact drop _ _

def genRun (junk : Junk) (g : State) : List Op → Except Err (State × List Nat)
  | [] => .ok (g, [])
  | op :: ops =>
    match Gen.CounterArray.step junk g (opG op) with
    | .error e => .error e
    | .ok (g', r) =>
      match genRun junk g' ops with
      | .error e => .error e
      | .ok (g'', rs) => .ok (g'', r :: rs)

/-- the contents of whichever array is live -/
def contents (g : State) : List Nat :=
  match g.data8, g.data16, g.data32 with
  | some l, _, _ => l
  | none, some l, _ => l
  | none, none, some l => l
  | none, none, none => []

theorem contents_toGen {c : CA} (h : Inv c) : contents (toGen c) = c.data := by
  by_cases e : c.data = []
  · simp [contents, toGen, ptr, e]
  · rcases h.bytesOK with hb | hb | hb <;> simp [contents, toGen, ptr, e, hb]

/-- `gen_run_sim`: every in-contract call sequence, executed with the GENERATED functions from the image of a
    model state, succeeds (no undefined behaviour, no unmodelled case), returns what the model returns and ends
    in the image of the model's final state -- whatever the contents of freshly allocated memory (`junk`). -/
theorem gen_run_sim (junk : Junk) : ∀ (ops : List Op) {c : CA} {n : Nat}, Inv c → FitN n c →
    n + ops.length < 2 ^ 64 → (∀ op ∈ ops, OpFit op) → ∀ {a rs}, specRun c.data ops = some (a, rs) →
    ∃ c', run c ops = some (c', rs) ∧ genRun junk (toGen c) ops = .ok (toGen c', rs) ∧ c'.data = a ∧ Inv c' ∧
      (Exact c → cleanShrinks c.data ops → Exact c')
  | [], c, n, h, _, _, _, a, rs, hs => by
    cases hs
    exact ⟨c, rfl, rfl, rfl, h, fun e _ => e⟩
  | op :: ops, c, n, h, hf, hn, ho, a, rs, hs => by
    obtain ⟨a1, r, rs', h1, h2, rfl⟩ := specRun_cons hs
    obtain ⟨c1, s1, rfl, i1, e1⟩ := step_sim h h1
    have hop : OpFit op := ho op List.mem_cons_self
    have hn : n + 1 + ops.length < 2 ^ 64 := by rw [List.length_cons] at hn; omega
    have g1 := gen_step junk h (hf.fit (by omega)) hop h1 s1
    obtain ⟨c2, s2, g2, d2, i2, e2⟩ :=
      gen_run_sim junk ops i1 (fitN_step hf hop s1) hn (fun o ho' => ho o (List.mem_cons_of_mem _ ho')) h2
    refine ⟨c2, by simp only [run, s1, s2], by simp only [genRun, g1, g2], d2, i2, fun ex cl => ?_⟩
    simp only [cleanShrinks, h1] at cl
    exact e2 (e1 ex cl.1) cl.2

/-! Concrete runs of the generated functions (non-vacuity; sequences of the examples of State/CounterArray.lean) -/

/-- some contents of fresh memory (never 0, so that a missing memset / copy would show) -/
def junk0 : Junk := fun t k => 170 + 7 * t.length + k

def okWith (r : Except Err (State × List Nat)) (p : State → List Nat → Bool) : Bool :=
  match r with
  | .ok (g, rs) => p g rs
  | .error _ => false

example :
    okWith (genRun junk0 (Gen.CounterArray.init false)
      ([Op.expand 3] ++ List.replicate 256 (Op.increment 1) ++
       [Op.get 1, Op.isPositiveAfterDecrement 1, Op.get 1, Op.shrink 2, Op.get 1, Op.isZeroBeforeIncrement 0]))
      (fun g rs => g.data8 == some [1, 255] && g.data16 == none && g.data32 == none && g.bytes == 1 &&
                   g.size == 2 && rs.drop 257 == [256, 1, 255, 0, 255, 1]) = true := by
  decide +kernel

example :
    okWith (genRun junk0 (Gen.CounterArray.init false) ([Op.expand 2] ++ List.replicate 256 (Op.increment 0)))
      (fun g _ => g.data16 == some [256, 0] && g.data8 == none && g.counts_09bit == 1 && g.bytes == 2) = true := by
  decide +kernel

/-- the stale tally of the model's last example, in the generated code: `counts_09bit` stays 1 -/
example :
    okWith (genRun junk0 (Gen.CounterArray.init false)
      ([Op.expand 4] ++ List.replicate 300 (Op.increment 3) ++ [Op.shrink 2, Op.expand 8]))
      (fun g _ => g.data16 == some [0, 0, 0, 0, 0, 0, 0, 0] && g.counts_09bit == 1 && g.bytes == 2) = true := by
  decide +kernel

def errIs {α : Type} (r : Except Err α) (e : Err) : Bool :=
  match r with
  | .ok _ => false
  | .error x => x == e

-- out of contract: an index beyond the size is undefined behaviour, `shrink(0)` is `realloc(p, 0)`
example : errIs (Gen.CounterArray.step junk0 (Gen.CounterArray.init false) (.get 0)) .ub = true := by decide +kernel
example : errIs (genRun junk0 (Gen.CounterArray.init false) [Op.expand 2, Op.shrink 0]) .unmodelled = true := by
  decide +kernel
example : (Gen.CounterArray.init true).watched = [(true, 0, 8)] := by decide +kernel

/-- a call sequence whose size requests fit the address space and that is shorter than 2^64 calls (so that no
    tally can wrap, `FitN`) -/
def Fits (ops : List Op) : Prop := (∀ op ∈ ops, OpFit op) ∧ ops.length < 2 ^ 64

theorem gen_run_init (junk : Junk) {ops : List Op} {a rs : List Nat}
    (h : specRun [] ops = some (a, rs)) (hf : Fits ops) :
    ∃ c, run init ops = some (c, rs) ∧ genRun junk (Gen.CounterArray.init false) ops = .ok (toGen c, rs) ∧
      contents (toGen c) = a ∧ c.data = a ∧ Inv c ∧ (cleanShrinks [] ops → Exact c) := by
  obtain ⟨c, hr, hg, hd, hI, hE⟩ :=
    gen_run_sim junk ops inv_init fitN_init (by have := hf.2; omega) hf.1 (c := init) h
  exact ⟨c, hr, init_gen ▸ hg, (contents_toGen hI).trans hd, hd, hI, hE exact_init⟩

/-- `gen_counter_refines`: `counter_refines` for the GENERATED step function: on every in-contract call
    sequence the code of arrays.h / arrays.cc (as translated) returns exactly the values a plain array of
    naturals returns and holds exactly its contents afterwards, in the array selected by the non-null pointer;
    `size` is the length. -/
theorem gen_counter_refines (junk : Junk) (ops : List Op) (a rs : List Nat)
    (h : specRun [] ops = some (a, rs)) (hf : Fits ops) :
    ∃ g, genRun junk (Gen.CounterArray.init false) ops = .ok (g, rs) ∧ contents g = a ∧ g.size = a.length := by
  obtain ⟨c, _, hg, hc, hd, _⟩ := gen_run_init junk h hf
  exact ⟨toGen c, hg, hc, congrArg List.length hd⟩

/-- `gen_width_inv`: `width_inv` for the generated functions, plus the pointer discipline: exactly the pointer
    selected by `bytes` is non-null (none if the array is empty), the others are null. -/
theorem gen_width_inv (junk : Junk) (ops : List Op) (a rs : List Nat)
    (h : specRun [] ops = some (a, rs)) (hf : Fits ops) :
    ∃ g, genRun junk (Gen.CounterArray.init false) ops = .ok (g, rs) ∧
      (g.bytes = 1 ∨ g.bytes = 2 ∨ g.bytes = 4) ∧ (∀ x ∈ contents g, x < 2 ^ (8 * g.bytes)) ∧
      big 256 (contents g) ≤ g.counts_09bit ∧ big 65536 (contents g) ≤ g.counts_17bit ∧
      (g.bytes = 1 → g.counts_09bit = 0 ∧ g.counts_17bit = 0) ∧ (g.bytes = 2 → g.counts_17bit = 0) ∧
      (g.data8.isSome = true ↔ g.bytes = 1 ∧ g.size ≠ 0) ∧ (g.data16.isSome = true ↔ g.bytes = 2 ∧ g.size ≠ 0) ∧
      (g.data32.isSome = true ↔ g.bytes = 4 ∧ g.size ≠ 0) := by
  obtain ⟨c, _, hg, hc, hd, hI, _⟩ := gen_run_init junk h hf
  refine ⟨toGen c, hg, ?_⟩
  rw [hc, ← hd]
  exact ⟨hI.bytesOK, hI.fits, hI.t09, hI.t17, hI.w1, hI.w2, ptr_isSome c 1, ptr_isSome c 2, ptr_isSome c 4⟩

/-- `gen_tally_exact`: `tally_exact` for the generated functions: if every `shrink` drops only entries below
    256, `counts_09bit` / `counts_17bit` EQUAL the numbers of entries >= 256 / >= 65536. -/
theorem gen_tally_exact (junk : Junk) (ops : List Op) (a rs : List Nat)
    (h : specRun [] ops = some (a, rs)) (hc : cleanShrinks [] ops) (hf : Fits ops) :
    ∃ g, genRun junk (Gen.CounterArray.init false) ops = .ok (g, rs) ∧
      g.counts_09bit = big 256 (contents g) ∧ g.counts_17bit = big 65536 (contents g) := by
  obtain ⟨c, _, hg, hc', hd, _, hE⟩ := gen_run_init junk h hf
  refine ⟨toGen c, hg, ?_⟩
  rw [hc', ← hd]
  exact hE hc

/-- `gen_model_agrees`: the hand-written `run` and the generated functions compute the same results and the
    same final state on every in-contract call sequence (what the differential family `nodelife` checks for
    the hand-written model therefore holds for the translated code, and vice versa). -/
theorem gen_model_agrees (junk : Junk) (ops : List Op) (a rs : List Nat)
    (h : specRun [] ops = some (a, rs)) (hf : Fits ops) :
    ∃ c, run init ops = some (c, rs) ∧ genRun junk (Gen.CounterArray.init false) ops = .ok (toGen c, rs) ∧
      Gen.CounterArray.entry_bits (toGen c) = .ok c.bits := by
  obtain ⟨c, hr, hg, _, _, hI, _⟩ := gen_run_init junk h hf
  exact ⟨c, hr, hg, entry_bits_gen hI⟩

/-- `gen_junk_irrelevant`: the unspecified contents of malloc'ed / realloc'ed memory never reach a result or
    the final state of an in-contract call sequence. -/
theorem gen_junk_irrelevant (j1 j2 : Junk) (ops : List Op) (a rs : List Nat)
    (h : specRun [] ops = some (a, rs)) (hf : Fits ops) :
    genRun j1 (Gen.CounterArray.init false) ops = genRun j2 (Gen.CounterArray.init false) ops := by
  obtain ⟨c1, hr1, hg1, _⟩ := gen_model_agrees j1 ops a rs h hf
  obtain ⟨c2, hr2, hg2, _⟩ := gen_model_agrees j2 ops a rs h hf
  cases hr1.symm.trans hr2
  rw [hg1, hg2]

end Meddly.CounterArrayGen

/-
`#print axioms` (Lean 4.33.0): every theorem of this file depends on at most [propext, Classical.choice, Quot.sound].
-/
