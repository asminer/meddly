/-
  Exact model of `MEDDLY::hash_stream` (src/hash_stream.h) and of the two
  places that feed it with the contents of a decision-diagram node:

    * `unpacked_node::computeHash`      (src/unpacked_node.cc)   full and sparse unpacked nodes
    * `simple_separated::hashNode`      (src/storage/simple.cc)  full- and sparse-STORED nodes

  What the C++ hashes (found by reading the sources):

    * Both sites do `hash_stream s; s.start(0);`  -- the initial word is the
      constant 0.  NEITHER the level NOR the node size NOR the storage kind
      (full/sparse) is part of the stream (`hashNode(int level, addr)` ignores
      `level`).  Levels are separated one step later: `unique_table` has one
      `subtable` per variable.
    * Then the "extra hashed header" words (`extra_hashed` / the slots at
      `hashed_start`) are pushed one `unsigned` at a time with
      `push(const void*, bytes)`  (only extensible/marked forests have any).
    * Then, in ASCENDING index order, for every non-transparent entry `i`:
      `s.push(i, unsigned(down i))`  (the two-argument push), followed -- only
      if `forest::areEdgeValuesHashed()` -- by the raw storage words of the
      edge value pushed ONE AT A TIME (`edge_value::hash` does
      `h.push(&ev_int, sizeof(int))`, `h.push(&ev_long, sizeof(long))`, ...;
      `hashNode` does `s.push(edge + i*slots_per_edge, edge_bytes)`):
      one word for `int`/`float`, two words (low word first on the little-endian
      targets MEDDLY runs on) for `long`/`double`.
    * Transparency test: the UNPACKED full node skips `i` iff
      `isTransparentEdge(ev i, down i)` (= `down i == tv && ev i == te`) when
      edge values are hashed, `down i == tv` otherwise; the PACKED full node
      always skips iff `down[i] == tv`.  They agree iff no edge has
      `down = tv` with a non-transparent value (`Params.Canon`); see
      `hashNodeFull_disagrees_without_canon`.
    * `s.finish()` = `final_mix(); return z[0]`.

  The three-argument `push(a,b,c)` is not used by the current node hashing
  code (older versions pushed `(index, down, edgevalue)` with it); it is
  modelled and related to single pushes as well.
-/

namespace Meddly
namespace HashStream

/-- the `int slot` field; the C++ only ever holds 0..3 in it -/
inductive Slot where
  | s0 | s1 | s2 | s3
  deriving DecidableEq, Repr, Inhabited

/-- `unsigned z[3]; int slot;` -/
structure State where
  z0 : UInt32
  z1 : UInt32
  z2 : UInt32
  slot : Slot
  deriving DecidableEq, Repr, Inhabited

/-- `rot(x,k) = (x<<k) | (x>>(32-k))`, only used with 0 < k < 32 -/
def rot (x : UInt32) (k : UInt32) : UInt32 := (x <<< k) ||| (x >>> (32 - k))

/-- `static void mix(unsigned &a, unsigned &b, unsigned &c)` -/
def mix3 (a b c : UInt32) : UInt32 × UInt32 × UInt32 :=
  let a := a - c;  let a := a ^^^ rot c 4;   let c := c + b
  let b := b - a;  let b := b ^^^ rot a 6;   let a := a + c
  let c := c - b;  let c := c ^^^ rot b 8;   let b := b + a
  let a := a - c;  let a := a ^^^ rot c 16;  let c := c + b
  let b := b - a;  let b := b ^^^ rot a 19;  let a := a + c
  let c := c - b;  let c := c ^^^ rot b 4;   let b := b + a
  (a, b, c)

/-- `static void final_mix(unsigned &a, unsigned &b, unsigned &c)` -/
def finalMix3 (a b c : UInt32) : UInt32 × UInt32 × UInt32 :=
  let c := c ^^^ b;  let c := c - rot b 14
  let a := a ^^^ c;  let a := a - rot c 11
  let b := b ^^^ a;  let b := b - rot a 25
  let c := c ^^^ b;  let c := c - rot b 16
  let a := a ^^^ c;  let a := a - rot c 4
  let b := b ^^^ a;  let b := b - rot a 14
  let c := c ^^^ b;  let c := c - rot b 24
  (a, b, c)

/-- `void mix() { mix(z[2], z[1], z[0]); }` (slot untouched) -/
def State.mix (s : State) : State :=
  let r := mix3 s.z2 s.z1 s.z0
  { s with z2 := r.1, z1 := r.2.1, z0 := r.2.2 }

/-- `void final_mix() { final_mix(z[2], z[1], z[0]); }` -/
def State.finalMix (s : State) : State :=
  let r := finalMix3 s.z2 s.z1 s.z0
  { s with z2 := r.1, z1 := r.2.1, z0 := r.2.2 }

/-- `void start(unsigned init)` -/
def start (init : UInt32) : State := { z2 := init, z1 := 0, z0 := 0xdeadbeef, slot := .s2 }

/-- `void start()` (no argument; not used by any live caller in src/) -/
def start0 : State := { z2 := 0, z1 := 0, z0 := 0xdeadbeef, slot := .s3 }

/-- `unsigned finish()` -/
def finish (s : State) : UInt32 := s.finalMix.z0

/-- `unsigned long finish64()` : `(z[0] << 32) | z[1]` after `final_mix` -/
def finish64 (s : State) : UInt64 :=
  let m := s.finalMix
  (m.z0.toUInt64 <<< 32) ||| m.z1.toUInt64

/-- `void push(unsigned v)` -/
def push (s : State) (v : UInt32) : State :=
  match s.slot with
  | .s3 => { s with z2 := s.z2 + v, slot := .s2 }      -- slot--; z[slot] += v
  | .s2 => { s with z1 := s.z1 + v, slot := .s1 }
  | .s1 => { s with z0 := s.z0 + v, slot := .s0 }
  | .s0 => let m := s.mix; { m with z2 := m.z2 + v, slot := .s2 }

/-- `void push(unsigned v1, unsigned v2)` -/
def push2 (s : State) (v1 v2 : UInt32) : State :=
  match s.slot with
  | .s0 => let m := s.mix; { m with z2 := m.z2 + v1, z1 := m.z1 + v2, slot := .s1 }
  | .s1 => let t : State := { s with z0 := s.z0 + v1 }
           let m := t.mix; { m with z2 := m.z2 + v2, slot := .s2 }
  | .s2 => { s with z1 := s.z1 + v1, z0 := s.z0 + v2, slot := .s0 }
  | .s3 => { s with z2 := s.z2 + v1, z1 := s.z1 + v2, slot := .s1 }

/-- `void push(unsigned v1, unsigned v2, unsigned v3)`; NOTE none of the four
    cases assigns `slot` (correct for slots 0,1,2; not for slot 3). -/
def push3 (s : State) (v1 v2 v3 : UInt32) : State :=
  match s.slot with
  | .s0 => let m := s.mix; { m with z2 := m.z2 + v1, z1 := m.z1 + v2, z0 := m.z0 + v3 }
  | .s1 => let t : State := { s with z0 := s.z0 + v1 }
           let m := t.mix; { m with z2 := m.z2 + v2, z1 := m.z1 + v3 }
  | .s2 => let t : State := { s with z1 := s.z1 + v1, z0 := s.z0 + v2 }
           let m := t.mix; { m with z2 := m.z2 + v3 }
  | .s3 => { s with z2 := s.z2 + v1, z1 := s.z1 + v2, z0 := s.z0 + v3 }

/-- `void push(const void* data, size_t bytes)` for `bytes % sizeof(unsigned) = 0`:
    one `push` per word, in address order. -/
def pushWords (s : State) (ws : List UInt32) : State := ws.foldl push s

/-- The hash of a word sequence: `start(init)`, one `push` per word, `finish()`. -/
def hashSeq (init : UInt32) (ws : List UInt32) : UInt32 := finish (pushWords (start init) ws)

@[simp] theorem pushWords_nil (s : State) : pushWords s [] = s := rfl
@[simp] theorem pushWords_cons (s : State) (w : UInt32) (ws : List UInt32) :
    pushWords s (w :: ws) = pushWords (push s w) ws := rfl
theorem pushWords_append (s : State) (a b : List UInt32) :
    pushWords s (a ++ b) = pushWords (pushWords s a) b :=
  List.foldl_append

/-- Two-argument push = two single pushes, in EVERY slot state (0,1,2,3). -/
theorem push2_eq (s : State) (a b : UInt32) : push2 s a b = push (push s a) b := by
  cases s with
  | mk z0 z1 z2 slot => cases slot <;> rfl

/-- Three-argument push = three single pushes, in every slot state that a
    stream opened with `start(init)` can reach (slot ≠ 3). -/
theorem push3_eq (s : State) (h : s.slot ≠ .s3) (a b c : UInt32) :
    push3 s a b c = push (push (push s a) b) c := by
  cases s with
  | mk z0 z1 z2 slot =>
    cases slot with
    | s3 => exact absurd rfl h
    | _ => rfl

/-- In slot 3 (only after the argument-less `start()`), `push(a,b,c)` updates
    `z` like three single pushes but LEAVES `slot = 3` instead of `0`. -/
theorem push3_slot3 (s : State) (h : s.slot = .s3) (a b c : UInt32) :
    push3 s a b c = { push (push (push s a) b) c with slot := .s3 } := by
  cases s with
  | mk z0 z1 z2 slot => cases h; rfl

/-- so a hash finished right after such a push still agrees with three single pushes;
    the stale `slot` shows only at the next push (`push3_slot3_defect`) -/
theorem push3_slot3_finish (s : State) (h : s.slot = .s3) (a b c : UInt32) :
    finish (push3 s a b c) = finish (push (push (push s a) b) c) := by
  rw [push3_slot3 s h]; rfl

theorem push3_slot (s : State) (a b c : UInt32) : (push3 s a b c).slot = s.slot := by
  cases s with
  | mk z0 z1 z2 slot => cases slot <;> rfl

theorem push_slot_ne_s3 (s : State) (v : UInt32) : (push s v).slot ≠ .s3 := by
  cases s with
  | mk z0 z1 z2 slot => cases slot <;> simp [push, State.mix]

theorem pushWords_slot_ne_s3 (ws : List UInt32) : ∀ (s : State), s.slot ≠ .s3 →
    (pushWords s ws).slot ≠ .s3 := by
  induction ws with
  | nil => intro s h; exact h
  | cons w ws ih => intro s _; exact ih _ (push_slot_ne_s3 s w)

/-! ## Any grouping of the same word sequence gives `hashSeq` -/

/-- one call of the stream interface -/
inductive Call where
  | p1 (a : UInt32)
  | p2 (a b : UInt32)
  | p3 (a b c : UInt32)
  | pw (ws : List UInt32)      -- `push(const void*, 4*ws.length)`
  deriving Repr

def Call.words : Call → List UInt32
  | .p1 a => [a]
  | .p2 a b => [a, b]
  | .p3 a b c => [a, b, c]
  | .pw ws => ws

def Call.run (s : State) : Call → State
  | .p1 a => push s a
  | .p2 a b => push2 s a b
  | .p3 a b c => push3 s a b c
  | .pw ws => pushWords s ws

def Call.isP3 : Call → Bool
  | .p3 .. => true
  | _ => false

def runCalls (s : State) (cs : List Call) : State := cs.foldl Call.run s

theorem Call.run_eq (s : State) (c : Call) (h : s.slot ≠ .s3 ∨ c.isP3 = false) :
    c.run s = pushWords s c.words := by
  cases c with
  | p1 a => rfl
  | p2 a b => exact push2_eq s a b
  | pw ws => rfl
  | p3 a b c =>
    rcases h with h | h
    · exact push3_eq s h a b c
    · cases h

/-- a grouping is the plain word sequence as long as the three-argument push never meets slot 3:
    the stream was opened with `start(init)`, or no three-argument push occurs -/
theorem runCalls_eq (cs : List Call) : ∀ (s : State), (s.slot ≠ .s3 ∨ ∀ c ∈ cs, c.isP3 = false) →
    runCalls s cs = pushWords s (cs.flatMap Call.words) := by
  induction cs with
  | nil => intro s _; rfl
  | cons c cs ih =>
    intro s h
    show runCalls (c.run s) cs = _
    rw [ih _ (h.imp (fun h => Call.run_eq s c (.inl h) ▸ pushWords_slot_ne_s3 _ _ h) (fun h c' hc' => h c' (List.mem_cons_of_mem _ hc'))),
      Call.run_eq s c (h.imp id (fun h => h c (List.mem_cons_self ..))), List.flatMap_cons, pushWords_append]

/-- After the argument-less `start()` the same holds for groupings that do not
    use the three-argument push. -/
theorem runCalls_eq_noP3 (cs : List Call) : ∀ (s : State), (∀ c ∈ cs, c.isP3 = false) →
    runCalls s cs = pushWords s (cs.flatMap Call.words) :=
  fun s h => runCalls_eq cs s (.inr h)

/-- **The hash is a function of (init, flattened word sequence) only.** -/
theorem hash_of_sequence (init : UInt32) (cs : List Call) :
    finish (runCalls (start init) cs) = hashSeq init (cs.flatMap Call.words) := by
  rw [runCalls_eq cs _ (.inl (by simp [start]))]; rfl

theorem hash_grouping_irrelevant (init : UInt32) (cs ds : List Call)
    (h : cs.flatMap Call.words = ds.flatMap Call.words) :
    finish (runCalls (start init) cs) = finish (runCalls (start init) ds) := by
  rw [hash_of_sequence, hash_of_sequence, h]

/-- forest parameters that the hashing code consults -/
structure Params where
  tv : UInt32            -- `unsigned(forest::getTransparentNode())`
  te : List UInt32       -- storage words of `forest::getTransparentEdge()` ([] when there are no edge values)
  hashEV : Bool          -- `forest::areEdgeValuesHashed()`
  deriving Repr

/-- one slot of the child vector: down pointer and the storage words of the edge value
    (`[]` for MT forests, `[w]` for int/float, `[lo, hi]` for long/double) -/
structure Edge where
  down : UInt32
  ev : List UInt32
  deriving DecidableEq, Repr

/-- one entry of a sparse node -/
structure Entry where
  idx : UInt32
  down : UInt32
  ev : List UInt32
  deriving DecidableEq, Repr

/-- transparency test of `unpacked_node::computeHash` (full branch); also that of
    `makeSparseNode`/`makeNode` when they count/pick the nonzeros, except in a forest whose
    edge values are NOT hashed (`setFloatEdges`, `setDoubleEdges`): there those two still test
    `isTransparentEdge` while `computeHash` tests `down == tv` -/
def Params.skipU (P : Params) (e : Edge) : Bool :=
  if P.hashEV then e.down == P.tv && e.ev == P.te else e.down == P.tv

/-- transparency test of `simple_separated::hashNode` (full branch): `down[i] == tv` -/
def Params.skipP (P : Params) (e : Edge) : Bool := e.down == P.tv

/-- canonical-form side condition: an edge to the transparent node carries the
    transparent value (EV+: edges to Ω carry 0; EV*: edges to 0 carry 0) -/
def Params.Canon (P : Params) (ch : List Edge) : Prop :=
  P.hashEV = true → ∀ e ∈ ch, e.down = P.tv → e.ev = P.te

/-- `s.push(i, down); [edge value words one at a time]` -/
def pushEntry (P : Params) (s : State) (i d : UInt32) (ev : List UInt32) : State :=
  let s := push2 s i d
  if P.hashEV then pushWords s ev else s

/-- the words one entry contributes -/
def entryWords (P : Params) (e : Entry) : List UInt32 :=
  [e.idx, e.down] ++ (if P.hashEV then e.ev else [])

/-- the non-transparent entries of a child vector, ascending, numbered from `n` -/
def sparseFrom (P : Params) : Nat → List Edge → List Entry
  | _, [] => []
  | n, e :: es =>
    if P.skipU e then sparseFrom P (n+1) es
    else ⟨UInt32.ofNat n, e.down, e.ev⟩ :: sparseFrom P (n+1) es

/-- the sparse form of a logical node (what `makeSparseNode` stores, what a sorted
    sparse `unpacked_node` holds) -/
def sparseOf (P : Params) (ch : List Edge) : List Entry := sparseFrom P 0 ch

/-- the flattened word sequence of a node -/
def nodeWords (P : Params) (hdr : List UInt32) (ch : List Edge) : List UInt32 :=
  hdr ++ (sparseOf P ch).flatMap (entryWords P)

/-- THE hash of a logical node: `hashSeq 0 (header words ++ entry words)` -/
def nodeHash (P : Params) (hdr : List UInt32) (ch : List Edge) : UInt32 :=
  hashSeq 0 (nodeWords P hdr ch)

/-- loop of `computeHash`, full unpacked node -/
def uFullLoop (P : Params) : Nat → List Edge → State → State
  | _, [], s => s
  | n, e :: es, s =>
    uFullLoop P (n+1) es (if P.skipU e then s else pushEntry P s (UInt32.ofNat n) e.down e.ev)

/-- loop of `hashNode`, full stored node -/
def pFullLoop (P : Params) : Nat → List Edge → State → State
  | _, [], s => s
  | n, e :: es, s =>
    pFullLoop P (n+1) es (if P.skipP e then s else pushEntry P s (UInt32.ofNat n) e.down e.ev)

/-- loop of `computeHash` (sparse unpacked) and of `hashNode` (sparse stored): identical code shape -/
def sparseLoop (P : Params) (es : List Entry) (s : State) : State :=
  es.foldl (fun s e => pushEntry P s e.idx e.down e.ev) s

/-- `unpacked_node::computeHash`, `isFull()` -/
def computeHashFull (P : Params) (hdr : List UInt32) (ch : List Edge) : UInt32 :=
  finish (uFullLoop P 0 ch (pushWords (start 0) hdr))

/-- `unpacked_node::computeHash`, `isSparse()` (entries already sorted by `un->sort()`) -/
def computeHashSparse (P : Params) (hdr : List UInt32) (es : List Entry) : UInt32 :=
  finish (sparseLoop P es (pushWords (start 0) hdr))

/-- `simple_separated::hashNode`, node stored (truncated) full -/
def hashNodeFull (P : Params) (hdr : List UInt32) (ch : List Edge) : UInt32 :=
  finish (pFullLoop P 0 ch (pushWords (start 0) hdr))

/-- `simple_separated::hashNode`, node stored sparse -/
def hashNodeSparse (P : Params) (hdr : List UInt32) (es : List Entry) : UInt32 :=
  finish (sparseLoop P es (pushWords (start 0) hdr))

/-- what `simple_separated::hashNode` computes, by storage kind -/
inductive Packed where
  | full (ch : List Edge)
  | sparse (es : List Entry)

def hashNodePacked (P : Params) (hdr : List UInt32) : Packed → UInt32
  | .full ch => hashNodeFull P hdr ch
  | .sparse es => hashNodeSparse P hdr es

theorem pushEntry_eq (P : Params) (s : State) (e : Entry) :
    pushEntry P s e.idx e.down e.ev = pushWords s (entryWords P e) := by
  unfold pushEntry entryWords
  rw [push2_eq]
  cases P.hashEV <;> simp [pushWords]

theorem sparseLoop_eq (P : Params) (es : List Entry) : ∀ s : State,
    sparseLoop P es s = pushWords s (es.flatMap (entryWords P)) := by
  intro s
  unfold sparseLoop pushWords
  rw [List.foldl_flatMap]
  congr; funext s e; exact pushEntry_eq P s e

theorem uFullLoop_eq (P : Params) (ch : List Edge) : ∀ (n : Nat) (s : State),
    uFullLoop P n ch s = pushWords s ((sparseFrom P n ch).flatMap (entryWords P)) := by
  induction ch with
  | nil => intro n s; rfl
  | cons e es ih =>
    intro n s
    unfold uFullLoop sparseFrom
    split
    · exact ih _ _
    · rw [ih, List.flatMap_cons, pushWords_append, ← pushEntry_eq]

theorem skipP_eq_skipU (P : Params) (ch : List Edge) (hc : P.Canon ch) :
    ∀ e ∈ ch, P.skipP e = P.skipU e := by
  intro e he
  unfold Params.skipP Params.skipU
  split
  · next hh => by_cases hd : e.down = P.tv <;> simp [hd, hc hh e he]
  · rfl

theorem pFullLoop_eq_uFullLoop (P : Params) (ch : List Edge) :
    (∀ e ∈ ch, P.skipP e = P.skipU e) → ∀ (n : Nat) (s : State),
    pFullLoop P n ch s = uFullLoop P n ch s := by
  induction ch with
  | nil => intro _ n s; rfl
  | cons e es ih =>
    intro h n s
    unfold pFullLoop uFullLoop
    rw [h e (List.mem_cons_self ..)]
    exact ih (fun e' he' => h e' (List.mem_cons_of_mem _ he')) _ _

theorem computeHashFull_eq (P : Params) (hdr : List UInt32) (ch : List Edge) :
    computeHashFull P hdr ch = nodeHash P hdr ch := by
  unfold computeHashFull nodeHash hashSeq nodeWords sparseOf
  rw [uFullLoop_eq, pushWords_append]

theorem computeHashSparse_eq (P : Params) (hdr : List UInt32) (ch : List Edge) :
    computeHashSparse P hdr (sparseOf P ch) = nodeHash P hdr ch := by
  unfold computeHashSparse nodeHash hashSeq nodeWords
  rw [sparseLoop_eq, pushWords_append]

theorem hashNodeFull_eq (P : Params) (hdr : List UInt32) (ch : List Edge) (hc : P.Canon ch) :
    hashNodeFull P hdr ch = nodeHash P hdr ch := by
  rw [← computeHashFull_eq]
  unfold hashNodeFull computeHashFull
  rw [pFullLoop_eq_uFullLoop P ch (skipP_eq_skipU P ch hc)]

/-! ### Truncated-full storage: trailing transparent entries are irrelevant -/

theorem sparseFrom_append (P : Params) (a b : List Edge) : ∀ n,
    sparseFrom P n (a ++ b) = sparseFrom P n a ++ sparseFrom P (n + a.length) b := by
  induction a with
  | nil => intro n; simp [sparseFrom]
  | cons e es ih =>
    intro n
    have : n + (es.length + 1) = n + 1 + es.length := by omega
    simp only [List.cons_append, sparseFrom, List.length_cons, ih, this]
    split <;> rfl

theorem sparseFrom_transparent (P : Params) (k : Nat) : ∀ n,
    sparseFrom P n (List.replicate k ⟨P.tv, P.te⟩) = [] := by
  induction k with
  | zero => intro n; rfl
  | succ k ih =>
    intro n
    have : P.skipU ⟨P.tv, P.te⟩ = true := by
      unfold Params.skipU; cases P.hashEV <;> simp
    simp [List.replicate_succ, sparseFrom, this, ih]

/-- `makeFullNode` stores only `truncsize` entries (everything after the last
    non-transparent one is dropped): the hash does not notice. -/
theorem nodeHash_truncate (P : Params) (hdr : List UInt32) (ch : List Edge) (k : Nat) :
    nodeHash P hdr (ch ++ List.replicate k ⟨P.tv, P.te⟩) = nodeHash P hdr ch := by
  unfold nodeHash nodeWords sparseOf
  rw [sparseFrom_append, sparseFrom_transparent, List.append_nil]

theorem canon_append_transparent (P : Params) (ch : List Edge) (k : Nat) (hc : P.Canon ch) :
    P.Canon (ch ++ List.replicate k ⟨P.tv, P.te⟩) := by
  intro hh e he hd
  rcases List.mem_append.1 he with he | he
  · exact hc hh e he hd
  · rw [(List.mem_replicate.1 he).2]

/-! ### Older grouping: `push(index, down, ev)` for one-word edge values -/

/-- the one-word-edge-value variant that uses the three-argument push -/
def sparseLoop3 (es : List (UInt32 × UInt32 × UInt32)) (s : State) : State :=
  es.foldl (fun s e => push3 s e.1 e.2.1 e.2.2) s

theorem sparseLoop3_eq (es : List (UInt32 × UInt32 × UInt32)) : ∀ (s : State), s.slot ≠ .s3 →
    sparseLoop3 es s = pushWords s (es.flatMap (fun e => [e.1, e.2.1, e.2.2])) := by
  induction es with
  | nil => intro s _; rfl
  | cons e es ih =>
    intro s h
    show sparseLoop3 es (push3 s e.1 e.2.1 e.2.2) = _
    have h3 := push3_eq s h e.1 e.2.1 e.2.2
    rw [h3, ih _ (push_slot_ne_s3 _ _), List.flatMap_cons, pushWords_append]
    rfl

/-- **hash_agree.**  For one logical node (hashed-header words `hdr`, child
    vector `ch`), every hash the library ever computes for it is the same number
    `nodeHash P hdr ch = hashSeq 0 (hdr ++ flatten [(i, down i) ++ ev-words i | i non-transparent, ascending])`
    (the ev-words only when `P.hashEV`):

    * `computeHash` on the full unpacked node (any number of trailing transparent entries),
    * `computeHash` on the sorted sparse unpacked node,
    * `hashNode` on the node stored full (needs `Canon`: `down = tv → ev = te`,
      because the packed code tests only `down[i] != tv`),
    * `hashNode` on the node stored sparse.

    C++ meaning: the hash passed to `unique->add(un->hash(), node)`, the hash
    recomputed by `buildFromList` (`parent->hashNode(front)`) when a subtable is
    expanded/shrunk, the hash passed to `unique->remove(hashNode(p), p)` and the
    hash of a later search key `unique->find(*un, var)` all coincide, whatever
    the storage kind chosen by `makeNode` and whatever form (full/sparse) the
    key has.  This is hypothesis `Ctx.Agree` of `Core/UniqueTable.lean`. -/
theorem hash_agree (P : Params) (hdr : List UInt32) (ch : List Edge) (hc : P.Canon ch) (k : Nat) :
    computeHashFull P hdr ch = nodeHash P hdr ch ∧
    computeHashFull P hdr (ch ++ List.replicate k ⟨P.tv, P.te⟩) = nodeHash P hdr ch ∧
    computeHashSparse P hdr (sparseOf P ch) = nodeHash P hdr ch ∧
    hashNodePacked P hdr (.full ch) = nodeHash P hdr ch ∧
    hashNodePacked P hdr (.full (ch ++ List.replicate k ⟨P.tv, P.te⟩)) = nodeHash P hdr ch ∧
    hashNodePacked P hdr (.sparse (sparseOf P ch)) = nodeHash P hdr ch :=
  ⟨computeHashFull_eq P hdr ch,
   by rw [computeHashFull_eq, nodeHash_truncate],
   computeHashSparse_eq P hdr ch,
   hashNodeFull_eq P hdr ch hc,
   by show hashNodeFull P hdr _ = _
      rw [hashNodeFull_eq P hdr _ (canon_append_transparent P ch k hc), nodeHash_truncate],
   computeHashSparse_eq P hdr ch⟩

/-- The unpacked-node part of `hash_agree` needs no side condition. -/
theorem hash_agree_unpacked (P : Params) (hdr : List UInt32) (ch : List Edge) :
    computeHashFull P hdr ch = computeHashSparse P hdr (sparseOf P ch) := by
  rw [computeHashFull_eq, computeHashSparse_eq]

/-! ## Non-vacuity examples (values cross-checked against the real header compiled with g++) -/

section Examples

/-- MT forest: transparent node 0, no edge values -/
def Pmt : Params := { tv := 0, te := [], hashEV := false }
/-- EV forest with hashed one-word (int) edge values, transparent edge ⟨0,0⟩ -/
def Pint : Params := { tv := 0, te := [0], hashEV := true }
/-- EV forest with hashed two-word (long) edge values -/
def Plong : Params := { tv := 0, te := [0, 0], hashEV := true }

/-- 3-entry node, middle entry transparent -/
def chMT : List Edge := [⟨5, []⟩, ⟨0, []⟩, ⟨7, []⟩]
def spMT : List Entry := [⟨0, 5, []⟩, ⟨2, 7, []⟩]

example : sparseOf Pmt chMT = spMT := by decide +kernel
example : nodeWords Pmt [] chMT = [0, 5, 2, 7] := by decide +kernel
-- real C++: start(0); push(0,5); push(2,7); finish() = 2777887130
example : computeHashFull Pmt [] chMT = 2777887130 := by decide +kernel
example : computeHashSparse Pmt [] spMT = 2777887130 := by decide +kernel
example : hashNodePacked Pmt [] (.full chMT) = 2777887130 := by decide +kernel
example : hashNodePacked Pmt [] (.sparse spMT) = 2777887130 := by decide +kernel
example : hashSeq 0 [0, 5, 2, 7] = 2777887130 := by decide +kernel

def chInt : List Edge := [⟨5, [3]⟩, ⟨0, [0]⟩, ⟨7, [9]⟩]
def spInt : List Entry := [⟨0, 5, [3]⟩, ⟨2, 7, [9]⟩]
example : sparseOf Pint chInt = spInt := by decide +kernel
-- real C++: start(0); push(0,5); push(3); push(2,7); push(9); finish() = 456344633
--   and     start(0); push(0,5,3); push(2,7,9); finish()             = 456344633
example : computeHashFull Pint [] chInt = 456344633 := by decide +kernel
example : hashNodePacked Pint [] (.sparse spInt) = 456344633 := by decide +kernel
example : hashNodePacked Pint [] (.full chInt) = 456344633 := by decide +kernel
example : finish (sparseLoop3 [(0, 5, 3), (2, 7, 9)] (start 0)) = 456344633 := by decide +kernel

def chLong : List Edge := [⟨5, [3, 0]⟩, ⟨0, [0, 0]⟩, ⟨7, [0xffffffff, 0xffffffff]⟩]
-- real C++: push(0,5); push(3); push(0); push(2,7); push(0xffffffff); push(0xffffffff) = 2745102189
example : computeHashFull Plong [] chLong = 2745102189 := by decide +kernel
example : hashNodePacked Plong [] (.full chLong) = 2745102189 := by decide +kernel
example : hashNodePacked Plong [] (.sparse (sparseOf Plong chLong)) = 2745102189 := by decide +kernel

-- more than one mix: start(7); push(i*i+1) for i<10; finish() = 2627151752
set_option maxRecDepth 8192 in
example : hashSeq 7 [1, 2, 5, 10, 17, 26, 37, 50, 65, 82] = 2627151752 := by decide +kernel

/-- `Canon` is needed: an edge `⟨down = tv, ev = 4 ≠ te⟩` is hashed by
    `computeHash` (unpacked full, tests `isTransparentEdge`) but skipped by
    `hashNode` (stored full, tests `down[i] != tv`). -/
theorem hashNodeFull_disagrees_without_canon :
    computeHashFull Pint [] [⟨5, [3]⟩, ⟨0, [4]⟩] ≠ hashNodeFull Pint [] [⟨5, [3]⟩, ⟨0, [4]⟩] := by
  decide +kernel

/-- The slot-3 defect of `push(a,b,c)`: after the argument-less `start()`,
    `push(1,2,3); push(4)` skips the `mix()` that `push(1);push(2);push(3);push(4)`
    performs.  Real C++ gives 999880263 vs 3602411371 (= `raw_hash({1,2,3,4})`).
    Latent only: no live caller uses `start()`; node hashing uses `start(0)`,
    which starts in slot 2 and never reaches slot 3 (`pushWords_slot_ne_s3`). -/
theorem push3_slot3_defect :
    finish (push (push3 start0 1 2 3) 4) = 999880263 ∧
    finish (pushWords start0 [1, 2, 3, 4]) = 3602411371 := by
  decide +kernel

end Examples

/-
Output of `#print axioms` (Lean 4.33.0):
  push2_eq                              [propext, Quot.sound]
  push3_eq                              [propext, Quot.sound]
  hash_of_sequence                      [propext, Quot.sound]
  hash_agree                            [propext, Classical.choice, Quot.sound]
  nodeHash_truncate                     [propext, Classical.choice, Quot.sound]
  hashNodeFull_disagrees_without_canon  [propext, Quot.sound]
  push3_slot3_defect                    [propext, Quot.sound]
-/

end HashStream
end Meddly
