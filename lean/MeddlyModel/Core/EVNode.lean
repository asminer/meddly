/-
  `mkNodeEV`: the model of `forest::createReducedNode` for EV+ forests
  (`normalize_evplus`, then transparent / identity / redundant elimination, else
  store), with
    * `mkNodeEV_eval`: the returned edge denotes the same function as the
      un-normalised node;
    * `mkNodeEV_red` : if the children are reduced edges, the result is a
      reduced edge (`mkNodeEV_red_targets`: reduced targets suffice).
-/
import MeddlyModel.Core.EVCanon

namespace Meddly


namespace EDD

/-- `normalize_evplus`, first scan: the minimum of the edge values of the entries whose
    child is not the transparent terminal (`none` when there is no such entry, `nnz = 0`) -/
def evMin : List (Int × EDD) → Option Int
  | [] => none
  | e :: cs =>
    if isInf e.2 then evMin cs
    else match evMin cs with
      | none => some e.1
      | some m => some (min e.1 m)

/-- `normalize_evplus` on one entry: ∞-entries get value 0, the others are shifted by `m` -/
def normE (m : Int) (e : Int × EDD) : Int × EDD :=
  if isInf e.2 then dflt else (e.1 - m, e.2)

/-- `normalize_evplus`, second scan -/
def evNorm (m : Int) (cs : List (Int × EDD)) : List (Int × EDD) := cs.map (normE m)

/-- `forest::createReducedNode` for EV+ on trees.  Returns the edge (value, target). -/
def mkNodeEV (S : Shape) (k : Nat) (fi : Option Nat) (cs : List (Int × EDD)) : Int × EDD :=
  let m := (evMin cs).getD 0
  let cs' := evNorm m cs
  if cs.all (fun e => isInf e.2) then (0, .inf)
  else match S.mode k with
    | .red => if cs'.all (fun e => e == cs'.headD dflt) then (m, (cs'.headD dflt).2)
              else (m, .node k cs')
    | .none => (m, .node k cs')
    | .ident =>
      match fi with
      | some i => if evSingleton isInf dflt i cs' then (m, (cs'.getD i dflt).2)
                  else (m, .node k cs')
      | none => (m, .node k cs')

def pos : EDD → Nat
  | .node p _ => p
  | _ => 0

/-- the root of `d` is stored at position `≤ k` (terminals: position 0) -/
def Below (k : Nat) (d : EDD) : Prop := d.pos ≤ k

theorem Below_inf (k : Nat) : Below k .inf := Nat.zero_le k

theorem Below.mono {k k' : Nat} {d : EDD} (h : Below k d) (hk : k ≤ k') : Below k' d :=
  Nat.le_trans h hk

theorem Below.not_nodeAt {k : Nat} {d : EDD} (h : Below k d) : d.isNodeAt (k+1) = false := by
  cases d with
  | inf | omega => rfl
  | node p cs =>
    have : p ≠ k+1 := Nat.ne_of_lt (Nat.lt_succ_of_le h)
    simp [isNodeAt, this]

theorem Red_Below (S : Shape) (k : Nat) (fi : Option Nat) (d : EDD)
    (h : Red S k fi d = true) : Below k d := by
  induction k generalizing fi with
  | zero =>
    rcases (Red_zero_iff S fi d).mp h with rfl | rfl <;> exact Nat.le_refl 0
  | succ k ih =>
    rcases storedAt_cases (k+1) d with ⟨cs, rfl⟩ | hd
    · exact Nat.le_refl _
    · exact (ih none (Red_succ_skip S k fi hd h).2).mono (Nat.le_succ k)

/-- A target not stored at `p` is no singleton there. -/
theorem not_singleton_of_not_nodeAt (p : Nat) {d : EDD} (hd : d.isNodeAt p = false) :
    (∀ i, isSingleton p i d = false) ∧ isAnySingleton p d = false := by
  cases d with
  | inf | omega => exact ⟨fun _ => rfl, rfl⟩
  | node q cs =>
    have hq : (q == p) = false := hd
    simp only [isSingleton, isAnySingleton, hq, Bool.false_and, implies_true, and_self]

theorem edgeOK_skip {S : Shape} {k : Nat} {fi : Option Nat} {d : EDD}
    (hd : d.isNodeAt k = false) (hm : S.mode k ≠ .none) : edgeOK S k fi d = true := by
  unfold edgeOK
  split
  · rfl
  · rename_i h; exact absurd h hm
  · obtain ⟨h1, h2⟩ := not_singleton_of_not_nodeAt k hd
    cases fi <;> simp only [h1, h2, Bool.not_false]

theorem Red_skip_intro (S : Shape) (k : Nat) (fi : Option Nat) {d : EDD}
    (he : edgeOK S (k+1) fi d = true) (hr : Red S k none d = true) :
    Red S (k+1) fi d = true := by
  cases d with
  | inf | omega => rw [Red, Bool.and_eq_true]; exact ⟨he, hr⟩
  | node p cs =>
    have h2 : p < k+1 := Nat.lt_succ_of_le (Red_Below S k none _ hr)
    rw [Red, Bool.and_eq_true]
    refine ⟨he, ?_⟩
    simp only [if_neg (Nat.ne_of_lt h2), if_pos h2]
    exact hr

theorem Red_fi_irrel (S : Shape) (k : Nat) (fi fj : Option Nat) (d : EDD)
    (hm : S.mode k ≠ .ident) : Red S k fi d = Red S k fj d := by
  cases k with
  | zero => cases d <;> rfl
  | succ k =>
    cases d <;> simp only [Red, edgeOK_not_ident S (k+1) fi fj hm]

/-- A target that is reduced below *every* index of position `k+1` is reduced below a
    skipped position `k+1` (it is no singleton at all). -/
theorem Red_all_some_none {S : Shape} (hS : S.WF) {k : Nat} {d : EDD}
    (hpos : 0 < S.size (k+1))
    (h : ∀ i, i < S.size (k+1) → Red S k (some i) d = true) :
    Red S k none d = true := by
  have h0 := h 0 hpos
  by_cases hm : S.mode k = .ident
  · obtain ⟨hk1, _, _, hsz⟩ := hS.ident_below_red k hm
    obtain ⟨k', rfl⟩ : ∃ k', k = k'+1 := ⟨k-1, by omega⟩
    rcases storedAt_cases (k'+1) d with ⟨cs, rfl⟩ | hd
    · obtain ⟨_, hloc, hch⟩ := (Red_succ_node S k' (some 0) cs).mp h0
      have hlen := ((evLocalOK_iff _ _ _ _ _).mp hloc).1
      refine (Red_succ_node S k' none cs).mpr ⟨?_, hloc, hch⟩
      simp only [edgeOK, hm, isAnySingleton, evAnySingleton, beq_self_eq_true, Bool.true_and,
        Bool.not_eq_true', ← Bool.not_eq_true, List.any_eq_true, List.mem_range]
      rintro ⟨i, hi, hs⟩
      have hi' : i < S.size (k'+1+1) := by rw [hsz, ← hlen]; exact hi
      have hE := ((Red_succ_node S k' (some i) cs).mp (h i hi')).1
      have := edgeOK_ident_some S (k'+1) i hm hE
      simp only [isSingleton, beq_self_eq_true, Bool.true_and] at this
      rw [this] at hs
      cases hs
    · obtain ⟨_, hr⟩ := Red_succ_skip S k' (some 0) hd h0
      exact Red_skip_intro S k' none (edgeOK_skip hd (by rw [hm]; nofun)) hr
  · rw [Red_fi_irrel S k none (some 0) d hm]; exact h0

theorem evMin_none_iff (cs : List (Int × EDD)) :
    evMin cs = none ↔ ∀ e, e ∈ cs → isInf e.2 = true := by
  induction cs with
  | nil => simp [evMin]
  | cons e cs ih =>
    simp only [evMin, List.mem_cons, forall_eq_or_imp]
    cases hi : isInf e.2 with
    | true => simp only [if_true, ih, true_and]
    | false =>
      simp only [Bool.false_eq_true, if_false, false_and, iff_false]
      cases evMin cs <;> simp

theorem evMin_some (cs : List (Int × EDD)) (m : Int) (h : evMin cs = some m) :
    (∃ e, e ∈ cs ∧ isInf e.2 = false ∧ e.1 = m) ∧
    (∀ e, e ∈ cs → isInf e.2 = false → m ≤ e.1) := by
  induction cs generalizing m with
  | nil => cases h
  | cons e cs ih =>
    rw [evMin] at h
    simp only [List.mem_cons, exists_eq_or_imp, forall_eq_or_imp]
    cases hi : isInf e.2 with
    | true =>
      rw [hi, if_pos rfl] at h
      obtain ⟨hex, hlb⟩ := ih m h
      exact ⟨.inr hex, nofun, hlb⟩
    | false =>
      rw [hi, if_neg Bool.false_ne_true] at h
      cases hm : evMin cs with
      | none =>
        rw [hm] at h; cases h
        exact ⟨.inl ⟨rfl, rfl⟩, fun _ => Int.le_refl _,
          fun x hx hxi => by rw [(evMin_none_iff cs).mp hm x hx] at hxi; cases hxi⟩
      | some m' =>
        rw [hm] at h; cases h
        obtain ⟨⟨e', he', h1, h2⟩, hlb⟩ := ih m' hm
        refine ⟨?_, fun _ => Int.min_le_left _ _,
          fun x hx hxi => Int.le_trans (Int.min_le_right _ _) (hlb x hx hxi)⟩
        rcases Int.le_total e.1 m' with hle | hle
        · exact .inl ⟨rfl, (Int.min_eq_left hle).symm⟩
        · exact .inr ⟨e', he', h1, h2.trans (Int.min_eq_right hle).symm⟩
theorem normE_snd (m : Int) (e : Int × EDD) : (normE m e).2 = e.2 := by
  unfold normE
  cases hi : isInf e.2 with
  | true => simp only [if_true]; exact ((isInf_iff _).mp hi).symm
  | false => simp

theorem normE_dflt (m : Int) : normE m dflt = dflt := by
  simp [normE, isInf]

theorem length_evNorm (m : Int) (cs : List (Int × EDD)) : (evNorm m cs).length = cs.length := by
  simp [evNorm]

theorem getD_evNorm (m : Int) (cs : List (Int × EDD)) (j : Nat) :
    (evNorm m cs).getD j dflt = normE m (cs.getD j dflt) := by
  simp only [evNorm, List.getD_eq_getElem?_getD, List.getElem?_map]
  cases cs[j]? with
  | none => simp [normE_dflt]
  | some e => simp

theorem getD_evNorm_snd (m : Int) (cs : List (Int × EDD)) (j : Nat) :
    ((evNorm m cs).getD j dflt).2 = (cs.getD j dflt).2 := by
  rw [getD_evNorm, normE_snd]

theorem evalEdge_normE (S : Shape) (k : Nat) (m : Int) (e : Int × EDD) (a : Assign) :
    (evalEdge S k (normE m e) a).map (· + m) = evalEdge S k e a := by
  unfold normE
  cases hi : isInf e.2 with
  | true =>
    have : e.2 = .inf := (isInf_iff _).mp hi
    simp only [if_true, evalEdge_dflt, Option.map_none]
    unfold evalEdge
    rw [this, eval_inf]; rfl
  | false =>
    simp only [Bool.false_eq_true, if_false, evalEdge]
    cases eval S k e.2 a with
    | none => rfl
    | some n => simp only [Option.map_some, Option.some.injEq]; omega

theorem evNorm_local {cs : List (Int × EDD)} {m : Int} (hm : evMin cs = some m) :
    (∀ e, e ∈ evNorm m cs → (isInf e.2 = true → e.1 = 0) ∧ (isInf e.2 = false → 0 ≤ e.1)) ∧
    (∃ e, e ∈ evNorm m cs ∧ isInf e.2 = false ∧ e.1 = 0) := by
  obtain ⟨⟨e0, he0, hi0, hv0⟩, hlb⟩ := evMin_some cs m hm
  constructor
  · intro e' he'
    obtain ⟨e, he, rfl⟩ := List.mem_map.mp he'
    unfold normE
    cases hi : isInf e.2 with
    | true => simp [isInf]
    | false =>
      simp only [Bool.false_eq_true, if_false, hi, false_implies, true_implies, true_and]
      have := hlb e he hi; omega
  · refine ⟨normE m e0, List.mem_map.mpr ⟨e0, he0, rfl⟩, ?_, ?_⟩
    · rw [normE_snd]; exact hi0
    · unfold normE; rw [hi0]; simp only [Bool.false_eq_true, if_false]; omega

theorem mkNodeEV_cases (S : Shape) (k : Nat) (fi : Option Nat) (cs : List (Int × EDD)) :
    (cs.all (fun e => isInf e.2) = true ∧ mkNodeEV S k fi cs = (0, .inf)) ∨
    (∃ m, evMin cs = some m ∧
      ((S.mode k = .red ∧
          (evNorm m cs).all (fun e => e == (evNorm m cs).headD dflt) = true ∧
          mkNodeEV S k fi cs = (m, ((evNorm m cs).headD dflt).2)) ∨
       (S.mode k = .ident ∧ ∃ i, fi = some i ∧ evSingleton isInf dflt i (evNorm m cs) = true ∧
          mkNodeEV S k fi cs = (m, ((evNorm m cs).getD i dflt).2)) ∨
       (mkNodeEV S k fi cs = (m, .node k (evNorm m cs)) ∧
          (S.mode k = .red →
            (evNorm m cs).all (fun e => e == (evNorm m cs).headD dflt) = false) ∧
          (S.mode k = .ident → ∀ i, fi = some i →
            evSingleton isInf dflt i (evNorm m cs) = false)))) := by
  by_cases hz : cs.all (fun e => isInf e.2) = true
  · left; exact ⟨hz, by unfold mkNodeEV; simp only [hz, if_true]⟩
  · right
    have hz' : cs.all (fun e => isInf e.2) = false := Bool.eq_false_iff.mpr hz
    obtain ⟨m, hm⟩ : ∃ m, evMin cs = some m := by
      cases hm : evMin cs with
      | some m => exact ⟨m, rfl⟩
      | none => exact absurd (List.all_eq_true.mpr ((evMin_none_iff cs).mp hm)) hz
    refine ⟨m, hm, ?_⟩
    unfold mkNodeEV
    simp only [hm, Option.getD_some, hz', Bool.false_eq_true, if_false]
    cases hmode : S.mode k with
    | red =>
      by_cases hh : (evNorm m cs).all (fun e => e == (evNorm m cs).headD dflt) = true
      · left; exact ⟨rfl, hh, by simp only [if_pos hh]⟩
      · right; right
        exact ⟨by simp only [if_neg hh], (fun _ => Bool.eq_false_iff.mpr hh), nofun⟩
    | none =>
      right; right
      exact ⟨rfl, nofun, nofun⟩
    | ident =>
      cases fi with
      | none =>
        right; right
        exact ⟨rfl, nofun, nofun⟩
      | some i =>
        by_cases hs : evSingleton isInf dflt i (evNorm m cs) = true
        · right; left
          exact ⟨rfl, i, rfl, hs, by simp only [if_pos hs]⟩
        · right; right
          exact ⟨by simp only [if_neg hs], nofun,
            fun _ j hj => Option.some.inj hj ▸ Bool.eq_false_iff.mpr hs⟩

theorem all_head_getD' {d0 : Int × EDD} {cs : List (Int × EDD)}
    (h : cs.all (fun c => c == cs.headD d0) = true) {i : Nat} (hi : i < cs.length) :
    cs.getD i d0 = cs.headD d0 :=
  beq_iff_eq.mp (List.all_eq_true.mp h _ (getD_mem cs i d0 hi))

theorem headD_eq_getD' {β : Type} (l : List β) (d : β) : l.headD d = l.getD 0 d := by
  cases l <;> rfl

theorem evalEdge_evNorm_node (S : Shape) (k : Nat) (m : Int) (cs : List (Int × EDD))
    (x : Assign) :
    evalEdge S (k+1) (m, .node (k+1) (evNorm m cs)) x = eval S (k+1) (.node (k+1) cs) x := by
  show (eval S (k+1) (.node (k+1) (evNorm m cs)) x).map (· + m) = _
  rw [eval_succ_node, eval_succ_node, getD_evNorm, evalEdge_normE]

/-- A node may be replaced by a target `t` below it when the entry selected by `x` is
    `(0, t)` where a skip of `k+1` reads through, and an ∞-entry where it does not. -/
theorem evalEdge_node_eq_skip {S : Shape} {k : Nat} {m : Int} {cs : List (Int × EDD)} {t : EDD}
    {x : Assign} (hb : Below k t)
    (h0 : ¬ (S.mode (k+1) = .ident ∧ x (k+1) ≠ x (k+2)) → cs.getD (x (k+1)) dflt = (0, t))
    (h1 : S.mode (k+1) = .ident ∧ x (k+1) ≠ x (k+2) → (cs.getD (x (k+1)) dflt).2 = .inf) :
    evalEdge S (k+1) (m, t) x = evalEdge S (k+1) (m, .node (k+1) cs) x := by
  show (eval S (k+1) t x).map (· + m) = (eval S (k+1) (.node (k+1) cs) x).map (· + m)
  rw [eval_succ_node, eval_succ_skip S k x hb.not_nodeAt]
  split
  · rename_i hc
    unfold evalEdge
    rw [h1 hc, eval_inf]; rfl
  · rename_i hc
    rw [h0 hc, evalEdge_zero]

/-- `mkNodeEV` returns an edge that denotes the same function as the un-normalised node
    `node (k+1) cs` (entry `x (k+1)` of `cs`, read from `k`). -/
theorem mkNodeEV_eval (S : Shape) (k : Nat) (fi : Option Nat) (cs : List (Int × EDD))
    (x : Assign) (hlen : cs.length = S.size (k+1)) (hx : x (k+1) < S.size (k+1))
    (hb : ∀ e, e ∈ cs → Below k e.2)
    (hfi : S.mode (k+1) = .ident → fi = some (x (k+2))) :
    evalEdge S (k+1) (mkNodeEV S (k+1) fi cs) x = eval S (k+1) (.node (k+1) cs) x := by
  have hj : x (k+1) < cs.length := by rw [hlen]; exact hx
  rcases mkNodeEV_cases S (k+1) fi cs with ⟨hz, hr⟩ | ⟨m, hm, hcase⟩
  · rw [hr, evalEdge_inf, eval_succ_node]
    have hi := List.all_eq_true.mp hz _ (getD_mem cs (x (k+1)) dflt hj)
    unfold evalEdge
    rw [(isInf_iff _).mp hi, eval_inf]; rfl
  · obtain ⟨_, e0, he0, hi0, hv0⟩ := evNorm_local hm
    have hj' : x (k+1) < (evNorm m cs).length := by rw [length_evNorm]; exact hj
    have hbn : ∀ j, Below k ((evNorm m cs).getD j dflt).2 := by
      intro j
      rw [getD_evNorm_snd]
      by_cases hjl : j < cs.length
      · exact hb _ (getD_mem cs j dflt hjl)
      · rw [List.getD_eq_getElem?_getD, List.getElem?_eq_none (Nat.le_of_not_lt hjl)]
        exact Below_inf k
    rw [← evalEdge_evNorm_node S k m cs x]
    rcases hcase with ⟨hmode, hh, hr⟩ | ⟨hmode, i, hi, hs, hr⟩ | ⟨hr, _, _⟩
    · -- redundant: every entry is the head, which is `e0` and carries 0
      have hhead : (evNorm m cs).headD dflt = e0 :=
        (beq_iff_eq.mp (List.all_eq_true.mp hh e0 he0)).symm
      rw [hr]
      refine evalEdge_node_eq_skip ?_ ?_ ?_
      · rw [headD_eq_getD']; exact hbn 0
      · intro _
        rw [all_head_getD' hh hj', hhead]
        exact Prod.ext hv0 rfl
      · intro hc; rw [hmode] at hc; cases hc.1
    · -- identity pattern: the only non-∞ entry sits at `x (k+2)` and carries 0
      obtain rfl : i = x (k+2) := Option.some.inj (hi.symm.trans (hfi hmode))
      obtain ⟨hil, hoth, hne⟩ := evSingleton_iff.mp hs
      have hval : ((evNorm m cs).getD (x (k+2)) dflt).1 = 0 := by
        obtain ⟨j, hjl, rfl⟩ := List.getElem_of_mem he0
        have hget : (evNorm m cs).getD j dflt = (evNorm m cs)[j] := by
          rw [List.getD_eq_getElem?_getD, List.getElem?_eq_getElem hjl]; rfl
        rcases hoth j hjl with rfl | h
        · rw [hget]; exact hv0
        · rw [hget, hi0] at h; cases h
      rw [hr]
      refine evalEdge_node_eq_skip (hbn _) ?_ ?_
      · intro hc
        have he : x (k+1) = x (k+2) := Decidable.byContradiction fun h => hc ⟨hmode, h⟩
        rw [he]
        exact Prod.ext hval rfl
      · intro hc
        exact (isInf_iff _).mp ((hoth _ hj').resolve_left hc.2)
    · rw [hr]

theorem mkNodeEV_eval_child (S : Shape) (k : Nat) (fi : Option Nat) (cs : List (Int × EDD))
    (x : Assign) (hk : k+1 ≤ S.top) (hlen : cs.length = S.size (k+1)) (hx : Assign.Valid S x)
    (hb : ∀ e, e ∈ cs → Below k e.2)
    (hfi : S.mode (k+1) = .ident → fi = some (x (k+2))) :
    evalEdge S (k+1) (mkNodeEV S (k+1) fi cs) x = evalEdge S k (cs.getD (x (k+1)) dflt) x := by
  rw [mkNodeEV_eval S k fi cs x hlen (hx (k+1) (by omega) hk) hb hfi, eval_succ_node]

theorem RedEdge_skip {S : Shape} {k : Nat} {fi : Option Nat} {m : Int} {d : EDD}
    (hm : S.mode (k+1) ≠ .none) (hr : Red S k none d = true) (hne : d ≠ .inf) :
    RedEdge S (k+1) fi (m, d) = true := by
  have hb := Red_Below S k none d hr
  exact (RedEdge_iff _ _ _ _).mpr
    ⟨Red_skip_intro S k fi (edgeOK_skip hb.not_nodeAt hm) hr, fun h => absurd h hne⟩

/-- `mkNodeEV` returns a reduced edge as soon as the TARGETS of the children are reduced:
    `normalize_evplus` resets whatever value an edge to the transparent terminal carries. -/
theorem mkNodeEV_red_targets (S : Shape) (hS : S.WF) (k : Nat) (fi : Option Nat)
    (cs : List (Int × EDD)) (hlen : cs.length = S.size (k+1))
    (hch : ∀ i, i < cs.length → Red S k (some i) (cs.getD i dflt).2 = true)
    (hfi : fi = none → S.mode (k+1) ≠ .ident) :
    RedEdge S (k+1) fi (mkNodeEV S (k+1) fi cs) = true := by
  rcases mkNodeEV_cases S (k+1) fi cs with ⟨_, hr⟩ | ⟨m, hm, hcase⟩
  · rw [hr]
    exact (RedEdge_iff _ _ _ _).mpr ⟨Red_inf S (k+1) fi, fun _ => rfl⟩
  · obtain ⟨hloc, e0, he0, hi0, hv0⟩ := evNorm_local hm
    have hlen' := length_evNorm m cs
    have hchn : ∀ i, i < (evNorm m cs).length →
        Red S k (some i) ((evNorm m cs).getD i dflt).2 = true := by
      intro i hi
      rw [getD_evNorm_snd]
      exact hch i (by rw [← hlen']; exact hi)
    rcases hcase with ⟨hmode, hh, hr⟩ | ⟨hmode, i, hi, hs, hr⟩ | ⟨hr, hred, hid⟩
    · -- redundant node: replaced by its (common) child
      rw [hr]
      have hhead : (evNorm m cs).headD dflt = e0 :=
        (beq_iff_eq.mp (List.all_eq_true.mp hh e0 he0)).symm
      have hall : ∀ i, i < S.size (k+1) →
          Red S k (some i) ((evNorm m cs).headD dflt).2 = true := by
        intro i hi
        have hi' : i < (evNorm m cs).length := by rw [hlen', hlen]; exact hi
        rw [← all_head_getD' hh hi']; exact hchn i hi'
      have hnone := Red_all_some_none hS (by rw [← hlen, ← hlen']; exact List.length_pos_of_mem he0) hall
      refine RedEdge_skip (by rw [hmode]; nofun) hnone ?_
      rw [hhead]
      exact (isInf_false_iff _).mp hi0
    · -- identity pattern: replaced by the only non-∞ child
      rw [hr]
      obtain ⟨hil, _, hne⟩ := evSingleton_iff.mp hs
      have hnone : Red S k none ((evNorm m cs).getD i dflt).2 = true := by
        rw [Red_fi_irrel S k none (some i) _ (hS.not_ident_below hmode)]; exact hchn i hil
      exact RedEdge_skip (by rw [hmode]; nofun) hnone
        ((isInf_false_iff _).mp hne)
    · -- stored
      rw [hr]
      refine (RedEdge_iff _ _ _ _).mpr ⟨?_, fun h => by cases h⟩
      refine (Red_succ_node S k fi _).mpr ⟨?_, ?_, hchn⟩
      · unfold edgeOK
        cases hmode : S.mode (k+1) with
        | red => rfl
        | none => simp [isNodeAt]
        | ident =>
          cases fi with
          | none => exact absurd hmode (hfi rfl)
          | some i =>
            simp only [isSingleton, beq_self_eq_true, Bool.true_and, hid hmode i rfl, Bool.not_false]
      · refine (evLocalOK_iff _ _ _ _ _).mpr ⟨by rw [hlen', hlen], hloc, ⟨e0, he0, hi0, hv0⟩, ?_⟩
        intro hm' hall
        have := hred (beq_iff_eq.mp hm')
        rw [← Bool.not_eq_true, List.all_eq_true] at this
        exact this (fun c hc => beq_iff_eq.mpr (hall c hc))

theorem mkNodeEV_red (S : Shape) (hS : S.WF) (k : Nat) (fi : Option Nat)
    (cs : List (Int × EDD)) (hlen : cs.length = S.size (k+1))
    (hch : ∀ i, i < cs.length → RedEdge S k (some i) (cs.getD i dflt) = true)
    (hfi : fi = none → S.mode (k+1) ≠ .ident) :
    RedEdge S (k+1) fi (mkNodeEV S (k+1) fi cs) = true :=
  mkNodeEV_red_targets S hS k fi cs hlen (fun i hi => ((RedEdge_iff _ _ _ _).mp (hch i hi)).1) hfi

end EDD
end Meddly
