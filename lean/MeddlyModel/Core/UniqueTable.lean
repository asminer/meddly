/-
  Model of ONE `unique_table::subtable` (src/unique_table.h, src/unique_table.cc):
  the per-variable chained hash table in which a forest looks up a freshly
  reduced node before storing it (`forest::createReducedNode`:
  `un->computeHash(); node = unique->find(*un, var); if (node) return it;
  ... unique->add(un->hash(), node)`), and from which `forest::deleteNode`
  unlinks a dead node (`unique->remove(hashNode(p), p)`).

  What the C++ does (found by reading):

    * `init`:   `size = MIN_SIZE = 8; num_entries = 0; next_expand = 2*size; next_shrink = 0`.
    * `find(key)`: `h = key.hash() % size`; walk the chain `table[h], getNext(..)`;
      first `ptr` with `parent->areDuplicates(ptr, key)` is moved to the FRONT
      of its chain and returned; 0 if none.
    * `add(hash, item)`: `if (num_entries >= next_expand) expand(); num_entries++;
      h = hash % size;  setNext(item, table[h]); table[h] = item`  (no duplicate check).
    * `remove(hash, item)`: `h = hash % size`; walk the chain, unlink the node
      with `ptr == item`; `num_entries--; if (num_entries < next_shrink) shrink();`
      `FAIL("not found")` if it is not in that chain.
    * `expand`: `ptr = convertToList(); newSize = 2*size; next_shrink = size;
      size = newSize; next_expand = (size >= MAX_SIZE ? UINT_MAX : 2*size);
      buildFromList(ptr)`.
    * `shrink`: `ptr = convertToList(); newSize = size/2; next_expand = size;
      size = newSize; next_shrink = (size <= MIN_SIZE ? 0 : size/2); buildFromList(ptr)`.
    * `convertToList`: buckets 0..size-1 in order, each chain front to back,
      every node pushed on the HEAD of one list (so the list is the reverse of
      the concatenation of the chains); `num_entries = 0`.
    * `buildFromList`: for each node of that list, front to back:
      `h = parent->hashNode(node) % size; push front; num_entries++`
      -- the hash is RECOMPUTED FROM THE STORED NODE here.
    So the thresholds are: expand when `num_entries >= 2*size` (before the
    insertion), shrink when `num_entries < size/2` (after the removal) and
    `size > 8`  (`Shape`, proved invariant).

  Chains are threaded through the node headers in the C++ (`getNext/setNext`);
  here a chain is a `List` of handles and the bucket array a `List` of chains.
  All arithmetic is in `Nat` (the C++ `unsigned` cannot overflow below 2^30
  buckets / 2^31 handles).
-/
import MeddlyModel.Core.HashStream
import MeddlyModel.Core.Dump

namespace Meddly
namespace UniqueTable

section Buckets
variable {α β : Type}

def updAt (f : α → α) : Nat → List α → List α
  | _, [] => []
  | 0, b :: bs => f b :: bs
  | i+1, b :: bs => b :: updAt f i bs

theorem length_updAt (f : α → α) : ∀ (i : Nat) (l : List α), (updAt f i l).length = l.length
  | i, [] => by cases i <;> simp [updAt]
  | 0, _ :: _ => rfl
  | i+1, _ :: bs => by simp [updAt, length_updAt f i bs]

theorem getElem?_updAt (f : α → α) : ∀ (i : Nat) (l : List α) (j : Nat),
    (updAt f i l)[j]? = if j = i then (l[j]?).map f else l[j]?
  | i, [], j => by simp [updAt]
  | 0, b :: bs, 0 => rfl
  | 0, b :: bs, j+1 => by rw [if_neg (Nat.succ_ne_zero j)]; rfl
  | i+1, b :: bs, 0 => by rw [if_neg (Nat.succ_ne_zero i).symm]; rfl
  | i+1, b :: bs, j+1 => by
    simp only [updAt, List.getElem?_cons_succ, getElem?_updAt f i bs j, Nat.add_right_cancel_iff]

/-- rewriting bucket `i` changes the flattened table as it changes that bucket, up to order;
    `x`, `y` hold an element added or removed on either side -/
theorem perm_flatten_updAt {f : List β → List β} {x y b : List β} (hp : (x ++ f b).Perm (y ++ b)) :
    ∀ (i : Nat) (l : List (List β)), l[i]? = some b →
      (x ++ (updAt f i l).flatten).Perm (y ++ l.flatten)
  | _, [], h => by cases h
  | 0, b0 :: bs, h => by
    cases h
    simpa only [updAt, List.flatten_cons, List.append_assoc] using hp.append_right bs.flatten
  | i+1, b0 :: bs, h => by
    exact (List.perm_append_comm_assoc ..).trans (((perm_flatten_updAt hp i bs h).append_left b0).trans
      (List.perm_append_comm_assoc ..))

theorem perm_pushFront {l : List (List β)} {i : Nat} {b : List β} (h : l[i]? = some b) (p : β) :
    (updAt (fun c => p :: c) i l).flatten.Perm (p :: l.flatten) :=
  perm_flatten_updAt (x := []) (y := [p]) (List.Perm.refl _) i l h

theorem flatten_replicate_nil' (n : Nat) : (List.replicate n ([] : List β)).flatten = [] := by
  induction n with
  | zero => rfl
  | succ n ih => simp [List.replicate_succ, ih]

end Buckets

/-- what the table needs to know about nodes: the stored content of a handle
    (header + child vector, as compared by `areDuplicates`), the hash of a
    search key (`unpacked_node::hash()`, from `computeHash`) and the hash
    recomputed from a stored node (`forest::hashNode(p)`) -/
structure Ctx (H C : Type) where
  content : H → C
  hashOf : C → UInt32
  hashNode : H → UInt32

/-- `HashStream.hash_agree`: the stored-node hash is the key hash of its content -/
def Ctx.Agree {H C : Type} (ctx : Ctx H C) : Prop := ∀ p, ctx.hashNode p = ctx.hashOf (ctx.content p)

def MAX_SIZE : Nat := 1073741824
def MIN_SIZE : Nat := 8
def UINT_MAX : Nat := 4294967295

/-- `class unique_table::subtable` -/
structure SubTable (H : Type) where
  table : List (List H)     -- `node_handle* table` + the `next` links: bucket i = chain i, front first
  size : Nat
  numEntries : Nat
  nextExpand : Nat
  nextShrink : Nat
  deriving Repr, DecidableEq

set_option linter.unusedSectionVars false

variable {H C : Type} [DecidableEq H] [DecidableEq C]

/-- `subtable::init` -/
def SubTable.init : SubTable H :=
  { table := List.replicate MIN_SIZE [], size := MIN_SIZE, numEntries := 0,
    nextExpand := 2 * MIN_SIZE, nextShrink := 0 }

/-- abstract view: the handles in the table (what `getItems` returns) -/
def SubTable.items (t : SubTable H) : List H := t.table.flatten

/-- `hash % size` -/
def bucketOf (hash : UInt32) (size : Nat) : Nat := hash.toNat % size

/-- the chain hanging off `table[i]` -/
def chain (tb : List (List H)) (i : Nat) : List H := (tb[i]?).getD []

/-- `setNext(item, table[h]); table[h] = item` -/
def pushFront (tb : List (List H)) (i : Nat) (p : H) : List (List H) := updAt (fun c => p :: c) i tb

/-- `subtable::convertToList` -/
def convertToList (t : SubTable H) : List H := t.table.flatten.reverse

/-- `subtable::buildFromList` into the (emptied) bucket array `tb` of `size` buckets -/
def buildFromList (ctx : Ctx H C) (size : Nat) (l : List H) (tb : List (List H)) : List (List H) :=
  l.foldl (fun tb p => pushFront tb (bucketOf (ctx.hashNode p) size) p) tb

/-- `subtable::expand` -/
def expand (ctx : Ctx H C) (t : SubTable H) : SubTable H :=
  let l := convertToList t
  let newSize := t.size * 2
  { table := buildFromList ctx newSize l (List.replicate newSize []),
    size := newSize,
    numEntries := l.length,
    nextShrink := t.size,
    nextExpand := if newSize ≥ MAX_SIZE then UINT_MAX else newSize * 2 }

/-- `subtable::shrink` -/
def shrink (ctx : Ctx H C) (t : SubTable H) : SubTable H :=
  let l := convertToList t
  let newSize := t.size / 2
  { table := buildFromList ctx newSize l (List.replicate newSize []),
    size := newSize,
    numEntries := l.length,
    nextExpand := t.size,
    nextShrink := if newSize ≤ MIN_SIZE then 0 else newSize / 2 }

/-- the part of `add` after the expand test:
    `num_entries++; h = hash % size; setNext(item, table[h]); table[h] = item` -/
def addTail (t : SubTable H) (hash : UInt32) (item : H) : SubTable H :=
  { t with numEntries := t.numEntries + 1, table := pushFront t.table (bucketOf hash t.size) item }

/-- `subtable::add(hash, item)` -/
def add (ctx : Ctx H C) (t : SubTable H) (hash : UInt32) (item : H) : SubTable H :=
  addTail (if t.numEntries ≥ t.nextExpand then expand ctx t else t) hash item

/-- `subtable::remove(hash, item)`; `none` = `FAIL("not found")` -/
def remove (ctx : Ctx H C) (t : SubTable H) (hash : UInt32) (item : H) : SubTable H × Option H :=
  let h := bucketOf hash t.size
  if item ∈ chain t.table h then
    let t1 : SubTable H :=
      { t with table := updAt (fun c => c.erase item) h t.table, numEntries := t.numEntries - 1 }
    (if t1.numEntries < t1.nextShrink then shrink ctx t1 else t1, some item)
  else (t, none)

/-- `subtable::find(key)` with `key.hash() = hashOf k`, `areDuplicates(ptr,key) ↔ content ptr = k` -/
def find (ctx : Ctx H C) (t : SubTable H) (k : C) : SubTable H × Option H :=
  let h := bucketOf (ctx.hashOf k) t.size
  match (chain t.table h).find? (fun p => decide (ctx.content p = k)) with
  | some p => ({ t with table := updAt (fun c => p :: c.erase p) h t.table }, some p)
  | none => (t, none)

/-- every item sits in the bucket of its (key) hash -/
def Placed (ctx : Ctx H C) (n : Nat) (tb : List (List H)) : Prop :=
  ∀ i b, tb[i]? = some b → ∀ p ∈ b, bucketOf (ctx.hashOf (ctx.content p)) n = i

/-- no two listed handles have equal content -/
def InjOn (ctx : Ctx H C) (l : List H) : Prop :=
  ∀ p ∈ l, ∀ q ∈ l, ctx.content p = ctx.content q → p = q

/-- the size/threshold discipline: `size = 8·2^k`, shrink threshold `size/2`
    (0 at the minimum size), expand threshold `2·size` (below `MAX_SIZE`) -/
structure Shape (t : SubTable H) : Prop where
  pow : ∃ k, t.size = 8 * 2 ^ k ∧ t.nextShrink = (if k = 0 then 0 else t.size / 2)
  exp : t.size < MAX_SIZE → t.nextExpand = 2 * t.size

structure Inv (ctx : Ctx H C) (t : SubTable H) : Prop where
  shape : Shape t
  len : t.table.length = t.size
  placed : Placed ctx t.size t.table
  nodup : t.items.Nodup
  count : t.numEntries = t.items.length
  inj : InjOn ctx t.items

section Helpers
variable {ctx : Ctx H C} {t : SubTable H}

theorem Shape.size_ge (s : Shape t) : 8 ≤ t.size := by
  obtain ⟨k, hk, _⟩ := s.pow
  have : 0 < 2 ^ k := Nat.two_pow_pos k
  omega

theorem Inv.size_pos (h : Inv ctx t) : 0 < t.size := by
  have := h.shape.size_ge; omega

theorem bucket_exists {tb : List (List H)} {n : Nat} (hl : tb.length = n) (hn : 0 < n) (hash : UInt32) :
    ∃ b, tb[bucketOf hash n]? = some b ∧ chain tb (bucketOf hash n) = b := by
  have hlt : bucketOf hash n < tb.length := by rw [hl]; exact Nat.mod_lt _ hn
  exact ⟨_, List.getElem?_eq_getElem hlt, by rw [chain, List.getElem?_eq_getElem hlt]; rfl⟩

theorem placed_updAt {n : Nat} {tb : List (List H)} (hP : Placed ctx n tb)
    (f : List H → List H) (i : Nat)
    (hf : ∀ b, tb[i]? = some b → ∀ p ∈ f b, p ∈ b ∨ bucketOf (ctx.hashOf (ctx.content p)) n = i) :
    Placed ctx n (updAt f i tb) := by
  intro j b' hj p hp
  rw [getElem?_updAt] at hj
  split at hj
  · rename_i hji
    subst hji
    obtain ⟨b, hb, rfl⟩ := Option.map_eq_some_iff.1 hj
    exact (hf b hb p hp).elim (hP j b hb p) id
  · exact hP j b' hj p hp

theorem InjOn.perm {l l' : List H} (h : InjOn ctx l) (hp : l'.Perm l) : InjOn ctx l' :=
  fun p hpm q hqm e => h p (hp.mem_iff.1 hpm) q (hp.mem_iff.1 hqm) e

theorem InjOn.cons {l : List H} (h : InjOn ctx l) {x : H}
    (hx : ∀ q ∈ l, ctx.content q ≠ ctx.content x) : InjOn ctx (x :: l) := by
  intro p hp q hq e
  rcases List.mem_cons.1 hp with rfl | hpl <;> rcases List.mem_cons.1 hq with rfl | hql
  · rfl
  · exact absurd e.symm (hx q hql)
  · exact absurd e (hx p hpl)
  · exact h p hpl q hql e

theorem InjOn.of_cons {l : List H} {x : H} (h : InjOn ctx (x :: l)) : InjOn ctx l :=
  fun p hp q hq e => h p (List.mem_cons_of_mem _ hp) q (List.mem_cons_of_mem _ hq) e

theorem Inv.of_perm {L : List H}
    (hs : Shape t) (hl : t.table.length = t.size) (hp : Placed ctx t.size t.table)
    (hperm : t.items.Perm L) (hnd : L.Nodup) (hinj : InjOn ctx L) (hc : t.numEntries = L.length) :
    Inv ctx t :=
  { shape := hs, len := hl, placed := hp,
    nodup := hperm.nodup_iff.2 hnd,
    count := by rw [hc, hperm.length_eq],
    inj := hinj.perm hperm }

/-- rewriting one chain keeps the invariant when the chain only receives items of its own
    bucket and the items become a permutation of a good list -/
theorem Inv.updAt (h : Inv ctx t) (f : List H → List H)
    (i n' : Nat) {L : List H}
    (hf : ∀ b, t.table[i]? = some b → ∀ p ∈ f b,
      p ∈ b ∨ bucketOf (ctx.hashOf (ctx.content p)) t.size = i)
    (hperm : (UniqueTable.updAt f i t.table).flatten.Perm L) (hnd : L.Nodup) (hinj : InjOn ctx L)
    (hc : n' = L.length) :
    Inv ctx { t with table := UniqueTable.updAt f i t.table, numEntries := n' } :=
  Inv.of_perm ⟨h.shape.pow, h.shape.exp⟩ ((length_updAt ..).trans h.len)
    (placed_updAt h.placed f i hf) hperm hnd hinj hc

theorem placed_replicate {n : Nat} : Placed ctx n (List.replicate n ([] : List H)) := by
  intro i b hb p hp
  rw [List.getElem?_replicate] at hb
  split at hb
  · cases hb; cases hp
  · cases hb

theorem buildFromList_spec (hA : ctx.Agree) (n : Nat) (hn : 0 < n) (l : List H)
    (tb : List (List H)) (hl : tb.length = n) (hP : Placed ctx n tb) :
      (buildFromList ctx n l tb).length = n ∧ Placed ctx n (buildFromList ctx n l tb) ∧
      (buildFromList ctx n l tb).flatten.Perm (l ++ tb.flatten) := by
  induction l generalizing tb with
  | nil => exact ⟨hl, hP, .refl _⟩
  | cons p l ih =>
    obtain ⟨b, hb, _⟩ := bucket_exists hl hn (ctx.hashNode p)
    have hP' : Placed ctx n (pushFront tb (bucketOf (ctx.hashNode p) n) p) :=
      placed_updAt hP _ _ fun c _ q hq =>
        (List.mem_cons.1 hq).symm.imp id (by rintro rfl; rw [hA])
    obtain ⟨h1, h2, h3⟩ := ih _ ((length_updAt ..).trans hl) hP'
    exact ⟨h1, h2, h3.trans (((perm_pushFront hb p).append_left l).trans List.perm_middle)⟩

theorem expand_shape (hs : Shape t) : Shape (expand ctx t) := by
  obtain ⟨k, hk, _⟩ := hs.pow
  constructor
  · refine ⟨k+1, ?_, ?_⟩
    · show t.size * 2 = 8 * 2 ^ (k+1)
      rw [Nat.pow_succ, hk, Nat.mul_assoc]
    · show t.size = if k + 1 = 0 then 0 else t.size * 2 / 2
      rw [if_neg (Nat.succ_ne_zero k), Nat.mul_div_cancel _ (by decide)]
  · intro (h : t.size * 2 < MAX_SIZE)
    show (if t.size * 2 ≥ MAX_SIZE then UINT_MAX else t.size * 2 * 2) = 2 * (t.size * 2)
    rw [if_neg (Nat.not_le.2 h), Nat.mul_comm]

theorem shrink_shape (hs : Shape t) (hlt : t.numEntries < t.nextShrink) :
    Shape (shrink ctx t) ∧ 0 < t.size / 2 := by
  obtain ⟨k, hk, hsh⟩ := hs.pow
  cases k with
  | zero => rw [if_pos rfl] at hsh; exact absurd (hsh ▸ hlt) (Nat.not_lt_zero _)
  | succ j =>
    -- shrinking happens only above the minimum size, and halves `8·2^(j+1)` to `8·2^j`
    rw [Nat.pow_succ] at hk
    have hhalf : t.size / 2 = 8 * 2 ^ j := by omega
    refine ⟨⟨⟨j, hhalf, ?_⟩, fun _ => ?_⟩, hhalf ▸ Nat.mul_pos (by decide) (Nat.two_pow_pos j)⟩
    · show (if t.size / 2 ≤ MIN_SIZE then 0 else t.size / 2 / 2) = if j = 0 then 0 else t.size / 2 / 2
      rw [hhalf]
      cases j with
      | zero => rfl
      | succ i =>
        have := Nat.two_pow_pos i
        rw [if_neg (Nat.succ_ne_zero i), if_neg]
        rw [Nat.pow_succ]; unfold MIN_SIZE; omega
    · show t.size = 2 * (t.size / 2)
      omega

/-- a table whose buckets are the rehash of `t`'s items into its own size satisfies the
    invariant once its shape is right -/
theorem rehash_inv (hA : ctx.Agree) {t' : SubTable H} (h : Inv ctx t)
    (hs : Shape t')
    (htab : t'.table = buildFromList ctx t'.size (convertToList t) (List.replicate t'.size []))
    (hnum : t'.numEntries = (convertToList t).length) :
    Inv ctx t' ∧ t'.items.Perm t.items := by
  obtain ⟨h1, h2, h3⟩ := buildFromList_spec hA t'.size (by have := hs.size_ge; omega) (convertToList t) _
    (List.length_replicate ..) placed_replicate
  rw [← htab] at h1 h2 h3
  rw [flatten_replicate_nil', List.append_nil] at h3
  have hperm : t'.items.Perm t.items := h3.trans (List.reverse_perm _)
  exact ⟨Inv.of_perm hs h1 h2 hperm h.nodup h.inj (hnum.trans (List.length_reverse ..)), hperm⟩

theorem expand_inv (hA : ctx.Agree) (h : Inv ctx t) :
    Inv ctx (expand ctx t) ∧ (expand ctx t).items.Perm t.items :=
  rehash_inv hA h (expand_shape h.shape) rfl rfl

theorem shrink_inv (hA : ctx.Agree) (h : Inv ctx t)
    (hlt : t.numEntries < t.nextShrink) :
    Inv ctx (shrink ctx t) ∧ (shrink ctx t).items.Perm t.items :=
  rehash_inv hA h (shrink_shape (ctx := ctx) h.shape hlt).1 rfl rfl

theorem find_snd (ctx : Ctx H C) (t : SubTable H) (k : C) :
    (find ctx t k).2 = (chain t.table (bucketOf (ctx.hashOf k) t.size)).find?
      (fun p => decide (ctx.content p = k)) := by
  simp only [find]; split <;> simp [*]

theorem mem_chain_of_mem_items (h : Inv ctx t) {p : H}
    (hp : p ∈ t.items) : p ∈ chain t.table (bucketOf (ctx.hashOf (ctx.content p)) t.size) := by
  obtain ⟨b, hbm, hpb⟩ := List.mem_flatten.1 hp
  obtain ⟨i, hb⟩ := List.mem_iff_getElem?.1 hbm
  have := h.placed i b hb p hpb
  rw [this]; simp [chain, hb, hpb]

theorem mem_items_of_mem_chain {i : Nat} {p : H} (hp : p ∈ chain t.table i) :
    p ∈ t.items := by
  unfold chain at hp
  cases hb : t.table[i]? with
  | none => simp [hb] at hp
  | some b =>
    rw [hb] at hp
    exact List.mem_flatten.2 ⟨b, List.mem_iff_getElem?.2 ⟨i, hb⟩, by simpa using hp⟩

/-- **find refines lookup-by-content** -/
theorem find_some_iff (h : Inv ctx t) (k : C) (x : H) :
    (find ctx t k).2 = some x ↔ x ∈ t.items ∧ ctx.content x = k := by
  rw [find_snd]
  constructor
  · intro hf
    exact ⟨mem_items_of_mem_chain (List.mem_of_find?_eq_some hf), by simpa using List.find?_some hf⟩
  · -- `x` sits in the chain walked for `k`; what is found there has the same content
    rintro ⟨hx, rfl⟩
    have hm := mem_chain_of_mem_items h hx
    cases hf : (chain t.table (bucketOf (ctx.hashOf (ctx.content x)) t.size)).find?
        (fun p => decide (ctx.content p = ctx.content x)) with
    | none => have := List.find?_eq_none.1 hf x hm; simp at this
    | some p =>
      rw [h.inj p (mem_items_of_mem_chain (List.mem_of_find?_eq_some hf)) x hx
        (by simpa using List.find?_some hf)]

theorem find_none_iff (h : Inv ctx t) (k : C) :
    (find ctx t k).2 = none ↔ ∀ x ∈ t.items, ctx.content x ≠ k := by
  simp only [Option.eq_none_iff_forall_ne_some, Ne, find_some_iff h k, not_and]

/-- `find` only reorders one chain: invariant kept, same items -/
theorem find_inv (h : Inv ctx t) (k : C) :
    Inv ctx (find ctx t k).1 ∧ (find ctx t k).1.items.Perm t.items := by
  simp only [find]
  split
  · rename_i p hf
    obtain ⟨b, hb, hch⟩ := bucket_exists h.len h.size_pos (ctx.hashOf k)
    rw [hch] at hf
    have hpb : p ∈ b := List.mem_of_find?_eq_some hf
    have hperm : (updAt (fun c => p :: c.erase p) (bucketOf (ctx.hashOf k) t.size) t.table).flatten.Perm
        t.table.flatten :=
      perm_flatten_updAt (x := []) (y := []) (List.perm_cons_erase hpb).symm _ _ hb
    refine ⟨h.updAt _ _ t.numEntries ?_ hperm h.nodup h.inj h.count, hperm⟩
    intro c hc q hq
    rw [hb] at hc; cases hc
    left
    rcases List.mem_cons.1 hq with rfl | hq
    · exact hpb
    · exact List.mem_of_mem_erase hq
  · exact ⟨h, List.Perm.refl _⟩

theorem pushFront_inv (h : Inv ctx t) (item : H)
    (hfresh : ∀ q ∈ t.items, ctx.content q ≠ ctx.content item) :
    Inv ctx (addTail t (ctx.hashOf (ctx.content item)) item) ∧
    (addTail t (ctx.hashOf (ctx.content item)) item).items.Perm (item :: t.items) := by
  obtain ⟨b, hb, _⟩ := bucket_exists h.len h.size_pos (ctx.hashOf (ctx.content item))
  have hperm := perm_pushFront hb item
  have hnot : item ∉ t.items := fun hm => hfresh item hm rfl
  exact ⟨h.updAt _ _ (t.numEntries + 1)
    (fun c _ q hq => (List.mem_cons.1 hq).symm.imp id (by rintro rfl; rfl)) hperm
    (List.nodup_cons.2 ⟨hnot, h.nodup⟩) (h.inj.cons hfresh) (congrArg (· + 1) h.count), hperm⟩

/-- `add` with the contract "hash is the key hash of the item's content, and no
    item with that content is in the table" -/
theorem add_inv (hA : ctx.Agree) (h : Inv ctx t) (item : H)
    (hfresh : ∀ q ∈ t.items, ctx.content q ≠ ctx.content item) :
    Inv ctx (add ctx t (ctx.hashOf (ctx.content item)) item) ∧
    (add ctx t (ctx.hashOf (ctx.content item)) item).items.Perm (item :: t.items) := by
  unfold add
  split
  · obtain ⟨hi, hp⟩ := expand_inv hA h
    obtain ⟨h1, h2⟩ := pushFront_inv hi item fun q hq => hfresh q (hp.mem_iff.1 hq)
    exact ⟨h1, h2.trans (hp.cons _)⟩
  · exact pushFront_inv h item hfresh

theorem remove_inv (hA : ctx.Agree) (h : Inv ctx t) (item : H)
    (hmem : item ∈ t.items) :
    (remove ctx t (ctx.hashNode item) item).2 = some item ∧
    Inv ctx (remove ctx t (ctx.hashNode item) item).1 ∧
    (item :: (remove ctx t (ctx.hashNode item) item).1.items).Perm t.items := by
  have hch : item ∈ chain t.table (bucketOf (ctx.hashNode item) t.size) := by
    rw [hA]; exact mem_chain_of_mem_items h hmem
  obtain ⟨b, hb, hcb⟩ := bucket_exists h.len h.size_pos (ctx.hashNode item)
  have hib : item ∈ b := hcb ▸ hch
  -- the table after unlinking, before the shrink test
  let t1 : SubTable H :=
    { t with table := updAt (fun c => c.erase item) (bucketOf (ctx.hashNode item) t.size) t.table,
             numEntries := t.numEntries - 1 }
  have hperm1 : (item :: t1.items).Perm t.items :=
    perm_flatten_updAt (x := [item]) (y := []) (List.perm_cons_erase hib).symm _ _ hb
  have hinv1 : Inv ctx t1 :=
    h.updAt _ _ (t.numEntries - 1) (fun c _ q hq => .inl (List.mem_of_mem_erase hq))
      (List.Perm.refl _) (List.nodup_cons.1 (hperm1.nodup_iff.2 h.nodup)).2
      (h.inj.perm hperm1).of_cons (by rw [h.count, ← hperm1.length_eq]; rfl)
  simp only [remove, hch, ↓reduceIte]
  refine ⟨trivial, ?_⟩
  split
  · obtain ⟨hi, hp⟩ := shrink_inv hA hinv1 ‹_›
    exact ⟨hi, (hp.cons _).trans hperm1⟩
  · exact ⟨hinv1, hperm1⟩

theorem init_items : (SubTable.init : SubTable H).items = [] := flatten_replicate_nil' _

theorem init_inv (ctx : Ctx H C) : Inv ctx (SubTable.init : SubTable H) :=
  { shape := ⟨⟨0, rfl, rfl⟩, fun _ => rfl⟩
    len := List.length_replicate ..
    placed := placed_replicate
    nodup := by rw [init_items]; exact List.nodup_nil
    count := by rw [init_items]; rfl
    inj := by rw [init_items]; intro p hp; cases hp }

end Helpers

/-! ## Traces of operations under the caller's contract -/

/-- one call made by the forest -/
inductive Op (H C : Type) where
  | find (k : C)          -- `unique->find(key, var)`
  | add (item : H)        -- `unique->add(un->hash(), item)`   with `un` the unpacked form of `item`
  | remove (item : H)     -- `unique->remove(hashNode(item), item)`

/-- the effect of a call on the table, with the hashes the forest passes -/
def step (ctx : Ctx H C) (t : SubTable H) : Op H C → SubTable H
  | .find k => (find ctx t k).1
  | .add item => add ctx t (ctx.hashOf (ctx.content item)) item
  | .remove item => (remove ctx t (ctx.hashNode item) item).1

/-- the caller's contract: add only after an unsuccessful find for that
    content; remove only items that are in the table -/
def Legal (ctx : Ctx H C) (t : SubTable H) : Op H C → Prop
  | .find _ => True
  | .add item => (find ctx t (ctx.content item)).2 = none
  | .remove item => item ∈ t.items

def LegalTrace (ctx : Ctx H C) : SubTable H → List (Op H C) → Prop
  | _, [] => True
  | t, op :: ops => Legal ctx t op ∧ LegalTrace ctx (step ctx t op) ops

def run (ctx : Ctx H C) (t : SubTable H) (ops : List (Op H C)) : SubTable H := ops.foldl (step ctx) t

/-- abstract effect of a call on the SET of handles -/
def absStep (S : List H) : Op H C → List H
  | .find _ => S
  | .add item => item :: S
  | .remove item => S.erase item

theorem step_inv {ctx : Ctx H C} (hA : ctx.Agree) {t : SubTable H} (h : Inv ctx t) (op : Op H C)
    (hl : Legal ctx t op) :
    Inv ctx (step ctx t op) ∧ (step ctx t op).items.Perm (absStep t.items op) := by
  cases op with
  | find k => exact find_inv h k
  | add item => exact add_inv hA h item ((find_none_iff h _).1 hl)
  | remove item =>
    obtain ⟨_, hi, hp⟩ := remove_inv hA h item hl
    exact ⟨hi, (List.perm_cons item).1 (hp.trans (List.perm_cons_erase hl))⟩

/-! ## The forest's use: find, and add only on a miss -/

/-- `createReducedNode`'s tail: look the content of `fresh` up; on a hit return
    the stored handle; on a miss add `fresh`.  `fresh` stands for the handle that
    `getFreeNodeHandle` hands out AFTER the miss: on a hit the C++ takes no handle
    and only recycles the unpacked node. -/
def findOrAdd (ctx : Ctx H C) (t : SubTable H) (fresh : H) : SubTable H × H :=
  match find ctx t (ctx.content fresh) with
  | (t', some x) => (t', x)
  | (t', none) => (add ctx t' (ctx.hashOf (ctx.content fresh)) fresh, fresh)

/-- `createReducedNode` returns a handle with the requested content that is in
    the table afterwards, and it enlarges the table only on a miss. -/
theorem create_spec {ctx : Ctx H C} (hA : ctx.Agree) {t : SubTable H} (h : Inv ctx t) (fresh : H) :
    Inv ctx (findOrAdd ctx t fresh).1 ∧
    ctx.content (findOrAdd ctx t fresh).2 = ctx.content fresh ∧
    (findOrAdd ctx t fresh).2 ∈ (findOrAdd ctx t fresh).1.items ∧
    (∀ x, x ∈ (findOrAdd ctx t fresh).1.items ↔ x ∈ t.items ∨
      (x = fresh ∧ ∀ q ∈ t.items, ctx.content q ≠ ctx.content fresh)) := by
  obtain ⟨hfi, hfp⟩ := find_inv h (ctx.content fresh)
  unfold findOrAdd
  cases hr : find ctx t (ctx.content fresh) with
  | mk t' r =>
    rw [hr] at hfi hfp
    cases r with
    | some x =>
      obtain ⟨hx, hxc⟩ := (find_some_iff h _ x).1 (congrArg Prod.snd hr)
      refine ⟨hfi, hxc, hfp.mem_iff.2 hx, ?_⟩
      intro y
      show y ∈ t'.items ↔ _
      rw [hfp.mem_iff]
      exact ⟨Or.inl, fun hy => hy.elim id fun ⟨_, hall⟩ => absurd hxc (hall x hx)⟩
    | none =>
      have hall := (find_none_iff h _).1 (congrArg Prod.snd hr)
      have hall' : ∀ q ∈ t'.items, ctx.content q ≠ ctx.content fresh :=
        fun q hq => hall q (hfp.mem_iff.1 hq)
      obtain ⟨hai, hap⟩ := add_inv hA hfi fresh hall'
      refine ⟨hai, rfl, hap.mem_iff.2 (List.mem_cons_self ..), ?_⟩
      intro y
      show y ∈ (add ctx t' _ fresh).items ↔ _
      rw [hap.mem_iff, List.mem_cons, hfp.mem_iff]
      exact ⟨fun hy => hy.symm.imp id fun e => ⟨e, hall⟩, fun hy => hy.symm.imp And.left id⟩

/-! ## Refinement of a finite set of handles -/

theorem absStep_perm {S S' : List H} (hp : S.Perm S') (op : Op H C) :
    (absStep S op).Perm (absStep S' op) := by
  cases op with
  | find k => exact hp
  | add item => exact List.Perm.cons _ hp
  | remove item => exact hp.erase _

theorem run_refines {ctx : Ctx H C} (hA : ctx.Agree) : ∀ (ops : List (Op H C)) (t : SubTable H)
    (S : List H), Inv ctx t → LegalTrace ctx t ops → t.items.Perm S →
    Inv ctx (run ctx t ops) ∧ (run ctx t ops).items.Perm (ops.foldl absStep S)
  | [], _, _, h, _, hp => ⟨h, hp⟩
  | op :: ops, t, S, h, hl, hp =>
    have ⟨hi, hs⟩ := step_inv hA h op hl.1
    run_refines hA ops (step ctx t op) (absStep S op) hi hl.2 (hs.trans (absStep_perm hp op))

/-! ## Forest-level traces: create (find, add on a miss) and delete -/

/-- what a forest does to one subtable -/
inductive FOp (H : Type) where
  | create (fresh : H)     -- `createReducedNode` reaching the unique-table lookup; `fresh` = the handle it will take on a miss
  | delete (item : H)      -- `deleteNode(item)`

def fstep (ctx : Ctx H C) (t : SubTable H) : FOp H → SubTable H
  | .create fresh => (findOrAdd ctx t fresh).1
  | .delete item => (remove ctx t (ctx.hashNode item) item).1

/-- `deleteNode` is only called on active nodes, which are in the table -/
def FLegal (t : SubTable H) : FOp H → Prop
  | .create _ => True
  | .delete item => item ∈ t.items

def FLegalTrace (ctx : Ctx H C) : SubTable H → List (FOp H) → Prop
  | _, [] => True
  | t, op :: ops => FLegal t op ∧ FLegalTrace ctx (fstep ctx t op) ops

def frun (ctx : Ctx H C) (t : SubTable H) (ops : List (FOp H)) : SubTable H := ops.foldl (fstep ctx) t

theorem fstep_inv {ctx : Ctx H C} (hA : ctx.Agree) {t : SubTable H} (h : Inv ctx t) (op : FOp H)
    (hl : FLegal t op) : Inv ctx (fstep ctx t op) := by
  cases op with
  | create fresh => exact (create_spec hA h fresh).1
  | delete item => exact (remove_inv hA h item hl).2.1

theorem frun_inv {ctx : Ctx H C} (hA : ctx.Agree) : ∀ (ops : List (FOp H)) (t : SubTable H),
    Inv ctx t → FLegalTrace ctx t ops → Inv ctx (frun ctx t ops)
  | [], _, h, _ => h
  | op :: ops, t, h, hl => frun_inv hA ops (fstep ctx t op) (fstep_inv hA h op hl.1) hl.2

/-! ## Link to `Dump.distinctOK` -/

section DumpLink
variable {α : Type} [DecidableEq α]

/-- the dump records of a list of handles whose content is `(pos, down)` -/
def dumpOf (ctx : Ctx Nat (Nat × List (Child α))) (l : List Nat) : Dump α :=
  l.map fun h => ⟨h, (ctx.content h).1, (ctx.content h).2⟩

theorem distinctOK_of_items (ctx : Ctx Nat (Nat × List (Child α))) : ∀ (l : List Nat),
    l.Nodup → InjOn ctx l → (dumpOf ctx l).distinctOK = true
  | [], _, _ => rfl
  | x :: l, hnd, hinj => by
    obtain ⟨hx, hnd'⟩ := List.nodup_cons.1 hnd
    refine Dump.distinctOK_cons.2 ⟨fun m hm => ?_, distinctOK_of_items ctx l hnd' hinj.of_cons⟩
    obtain ⟨q, hq, rfl⟩ := List.mem_map.1 hm
    have hqx : q ≠ x := fun e => hx (e ▸ hq)
    exact ⟨hqx, fun hh =>
      hqx (hinj q (List.mem_cons_of_mem _ hq) x (List.mem_cons_self ..) (Prod.ext hh.1 hh.2))⟩

end DumpLink

/-! ## Instantiation with the real node hash of `Core/HashStream.lean` -/

section RealHash
open HashStream

/-- a stored node: hashed-header words, logical child vector, storage kind chosen by `makeNode` -/
structure Stored where
  hdr : List UInt32
  ch : List Edge
  sparse : Bool

/-- what `simple_separated` keeps for it -/
def Stored.packed (P : Params) (n : Stored) : Packed :=
  if n.sparse then .sparse (sparseOf P n.ch) else .full n.ch

/-- The unique-table context of a real forest: the content compared by
    `areDuplicates` is (hashed header, non-transparent entries); the key hash is
    `unpacked_node::computeHash`; the stored-node hash is `simple_separated::hashNode`. -/
def nodeCtx {H : Type} (P : Params) (store : H → Stored) : Ctx H (List UInt32 × List Entry) :=
  { content := fun h => ((store h).hdr, sparseOf P (store h).ch)
    hashOf := fun k => computeHashSparse P k.1 k.2
    hashNode := fun h => hashNodePacked P (store h).hdr ((store h).packed P) }

/-- `hash_agree` IS the hypothesis `Ctx.Agree` of the table theorems. -/
theorem nodeCtx_agree {H : Type} (P : Params) (store : H → Stored)
    (hc : ∀ h, P.Canon (store h).ch) : (nodeCtx P store).Agree := by
  intro h
  obtain ⟨_, _, h3, h4, _, h6⟩ := hash_agree P (store h).hdr (store h).ch (hc h) 0
  simp only [nodeCtx, Stored.packed]
  cases (store h).sparse
  · exact h4.trans h3.symm
  · exact h6.trans h3.symm

/-- a search key may equally be a FULL unpacked node: same key hash -/
theorem nodeCtx_key_full {H : Type} (P : Params) (store : H → Stored) (hdr : List UInt32)
    (ch : List Edge) :
    computeHashFull P hdr ch = (nodeCtx P store).hashOf (hdr, sparseOf P ch) :=
  hash_agree_unpacked P hdr ch

end RealHash

/-- **ut_inv.**  Starting from `subtable::init`, after ANY sequence of
    `find` / `add` / `remove` calls that respects the caller's contract (add only
    after an unsuccessful find for that content, with `hash = key hash of the
    content`; remove only items that are in the table, with `hash = hashNode(item)`),
    and provided the stored-node hash agrees with the key hash (`Ctx.Agree`,
    i.e. `HashStream.hash_agree`):

      * `size = 8·2^k`, `next_shrink = (k = 0 ? 0 : size/2)`, `next_expand = 2·size` (below MAX_SIZE);
      * the bucket array has `size` buckets and every item sits in bucket
        `hash(content item) % size`  (through every expand and shrink);
      * no handle occurs twice;  `num_entries` = total chain length;
      * NO TWO ITEMS HAVE EQUAL CONTENT. -/
theorem ut_inv {ctx : Ctx H C} (hA : ctx.Agree) (ops : List (Op H C))
    (hl : LegalTrace ctx SubTable.init ops) : Inv ctx (run ctx SubTable.init ops) :=
  (run_refines hA ops _ _ (init_inv ctx) hl (.refl _)).1

/-- **ut_find_spec.**  In a table satisfying the invariant, `find k` returns
    `h` iff `h` is in the table and has content `k`; it returns 0 (`none`) iff no
    item has content `k`; and the answer is unique.  I.e. the chained,
    move-to-front, resizing table refines a finite map keyed by content:
    `unique->find(*un, var)` finds the duplicate of `un` whenever one is stored. -/
theorem ut_find_spec {ctx : Ctx H C} {t : SubTable H} (h : Inv ctx t) (k : C) :
    (∀ x, (find ctx t k).2 = some x ↔ x ∈ t.items ∧ ctx.content x = k) ∧
    ((find ctx t k).2 = none ↔ ∀ x ∈ t.items, ctx.content x ≠ k) ∧
    (∀ x y, x ∈ t.items → y ∈ t.items → ctx.content x = k → ctx.content y = k → x = y) ∧
    Inv ctx (find ctx t k).1 ∧ (∀ x, x ∈ (find ctx t k).1.items ↔ x ∈ t.items) :=
  ⟨find_some_iff h k, find_none_iff h k,
   fun x y hx hy ex ey => h.inj x hx y hy (ex.trans ey.symm),
   (find_inv h k).1, fun _ => (find_inv h k).2.mem_iff⟩

theorem ut_find_spec_run {ctx : Ctx H C} (hA : ctx.Agree) (ops : List (Op H C))
    (hl : LegalTrace ctx SubTable.init ops) (k : C) (x : H) :
    (find ctx (run ctx SubTable.init ops) k).2 = some x ↔
      x ∈ (run ctx SubTable.init ops).items ∧ ctx.content x = k :=
  find_some_iff (ut_inv hA ops hl) k x

/-- **ut_refines_set.**  The abstract view of the table is the finite set of
    stored handles: `find` leaves it alone, a legal `add item` inserts `item`,
    a legal `remove item` deletes `item` (and reports `item`, never `FAIL`s);
    nothing else ever appears or disappears, in particular not during
    expand/shrink. -/
theorem ut_refines_set {ctx : Ctx H C} (hA : ctx.Agree) {t : SubTable H} (h : Inv ctx t) :
    (∀ k x, x ∈ (step ctx t (.find k)).items ↔ x ∈ t.items) ∧
    (∀ item, Legal ctx t (.add item) →
        ∀ x, x ∈ (step ctx t (.add item)).items ↔ x = item ∨ x ∈ t.items) ∧
    (∀ item, Legal ctx t (.remove item) →
        (remove ctx t (ctx.hashNode item) item).2 = some item ∧
        ∀ x, x ∈ (step ctx t (.remove item)).items ↔ x ∈ t.items ∧ x ≠ item) := by
  refine ⟨fun k x => (step_inv hA h (.find k) trivial).2.mem_iff, ?_, ?_⟩
  · intro item hl x
    rw [(step_inv hA h (.add item) hl).2.mem_iff]
    exact List.mem_cons
  · intro item hl
    refine ⟨(remove_inv hA h item hl).1, fun x => ?_⟩
    rw [(step_inv hA h (.remove item) hl).2.mem_iff]
    show x ∈ t.items.erase item ↔ _
    rw [h.nodup.mem_erase_iff]
    exact And.comm

/-- trace form: the items after a legal trace are (a permutation of) the result
    of running the obvious list-as-set operations -/
theorem ut_refines_set_run {ctx : Ctx H C} (hA : ctx.Agree) (ops : List (Op H C))
    (hl : LegalTrace ctx SubTable.init ops) :
    (run ctx SubTable.init ops).items.Perm (ops.foldl absStep ([] : List H)) :=
  (run_refines hA ops _ _ (init_inv ctx) hl (by rw [init_items])).2

/-- **no_duplicate_contents** (the C01 corollary).  A forest that only ever
    does "find, and add only on a miss" (`createReducedNode`) and deletes only
    stored nodes (`deleteNode`) never has two nodes with equal content in a
    subtable.  Together with "one subtable per variable" (nodes of different
    levels have different `pos`) this is exactly the `distinctOK` half of
    `Dump.storeOK` ("no two distinct nodes with the same `(pos, down)`"), the
    hypothesis from which `Dump.unfold_inj` derives C01: two edges of one forest
    are equal iff they denote the same function. -/
theorem no_duplicate_contents {ctx : Ctx H C} (hA : ctx.Agree) (ops : List (FOp H))
    (hl : FLegalTrace ctx SubTable.init ops) :
    ∀ p ∈ (frun ctx SubTable.init ops).items, ∀ q ∈ (frun ctx SubTable.init ops).items,
      ctx.content p = ctx.content q → p = q :=
  (frun_inv hA ops _ (init_inv ctx) hl).inj

/-- The same statement in the vocabulary of `Core/Dump.lean`: dump the handles
    of a subtable as `DNode`s `(handle, pos, down)`; then `Dump.distinctOK` holds. -/
theorem dump_distinctOK {α : Type} [DecidableEq α] {ctx : Ctx Nat (Nat × List (Child α))}
    (hA : ctx.Agree) (ops : List (FOp Nat)) (hl : FLegalTrace ctx SubTable.init ops) :
    (dumpOf ctx (frun ctx SubTable.init ops).items).distinctOK = true :=
  let h := frun_inv hA ops _ (init_inv ctx) hl
  distinctOK_of_items ctx _ h.nodup h.inj

/-- `no_duplicate_contents` for the real hashes: with `computeHash` as key hash
    and `hashNode` as stored-node hash (both modelled word for word in
    `Core/HashStream.lean`), and nodes in canonical form (`Params.Canon`), a
    subtable driven by `createReducedNode`/`deleteNode` never holds two nodes with
    the same header and the same non-transparent entries -- whatever mix of full
    and sparse storage `makeNode` chose and however often the table was resized. -/
theorem no_duplicate_contents_real {H : Type} [DecidableEq H] (P : HashStream.Params)
    (store : H → Stored) (hc : ∀ h, P.Canon (store h).ch) (ops : List (FOp H))
    (hl : FLegalTrace (nodeCtx P store) SubTable.init ops) :
    ∀ p ∈ (frun (nodeCtx P store) SubTable.init ops).items,
    ∀ q ∈ (frun (nodeCtx P store) SubTable.init ops).items,
      ((store p).hdr, HashStream.sparseOf P (store p).ch) =
        ((store q).hdr, HashStream.sparseOf P (store q).ch) → p = q :=
  no_duplicate_contents (nodeCtx_agree P store hc) ops hl

/-- the thresholds the code uses, as invariants: minimum size 8, sizes are
    `8·2^k`, expansion doubles when `num_entries ≥ 2·size` at `add`, shrinking
    halves when `num_entries < size/2` after `remove` and `size > 8` -/
theorem ut_thresholds {ctx : Ctx H C} {t : SubTable H} (h : Inv ctx t) :
    8 ≤ t.size ∧ (∃ k, t.size = 8 * 2 ^ k) ∧
    (t.size = 8 → t.nextShrink = 0) ∧ (8 < t.size → t.nextShrink = t.size / 2) ∧
    (t.size < MAX_SIZE → t.nextExpand = 2 * t.size) := by
  obtain ⟨k, hk, hsh⟩ := h.shape.pow
  refine ⟨h.shape.size_ge, ⟨k, hk⟩, fun h8 => ?_, fun h8 => ?_, h.shape.exp⟩
  · rw [hsh, if_pos]
    cases k with
    | zero => rfl
    | succ j => have := Nat.two_pow_pos j; rw [Nat.pow_succ] at hk; omega
  · rw [hsh, if_neg]
    rintro rfl
    rw [hk] at h8; exact absurd h8 (by decide)

/-! ## Non-vacuity examples -/

section Examples

instance decLegal (ctx : Ctx H C) (t : SubTable H) : (op : Op H C) → Decidable (Legal ctx t op)
  | .find _ => isTrue trivial
  | .add item => inferInstanceAs (Decidable ((find ctx t (ctx.content item)).2 = none))
  | .remove item => inferInstanceAs (Decidable (item ∈ t.items))

instance decLegalTrace (ctx : Ctx H C) : (t : SubTable H) → (ops : List (Op H C)) →
    Decidable (LegalTrace ctx t ops)
  | _, [] => isTrue trivial
  | t, op :: ops =>
    have := decLegalTrace ctx (step ctx t op) ops
    inferInstanceAs (Decidable (Legal ctx t op ∧ LegalTrace ctx (step ctx t op) ops))

/-- handles are numbers, the content of handle `h` is `h % 100` (so 5 and 105
    are duplicates), the key hash is the content itself, and the stored-node
    hash agrees with it -/
def goodCtx : Ctx Nat Nat :=
  { content := fun h => h % 100, hashOf := fun c => UInt32.ofNat c,
    hashNode := fun h => UInt32.ofNat (h % 100) }

theorem goodCtx_agree : goodCtx.Agree := fun _ => rfl

/-- the trace of the examples: 17 insertions (the 17th expands 8 → 16), one `find`
    that hits, then 10 removals (the 10th leaves 7 < 8 entries and shrinks 16 → 8) -/
def adds17 : List (Op Nat Nat) := (List.range 17).map (fun i => Op.add (i + 1))
def removes10 : List (Op Nat Nat) := (List.range 10).map (fun i => Op.remove (i + 1))

def T17 : SubTable Nat := run goodCtx SubTable.init adds17
def T7 : SubTable Nat := run goodCtx T17 (Op.find 12 :: removes10)

example : LegalTrace goodCtx SubTable.init (adds17 ++ Op.find 12 :: removes10) := by decide +kernel
example : (run goodCtx SubTable.init ((List.range 16).map (fun i => Op.add (i + 1)))).size = 8 := by decide +kernel
example : T17.size = 16 ∧ T17.numEntries = 17 ∧ T17.nextShrink = 8 ∧ T17.nextExpand = 32 := by decide +kernel
example : (find goodCtx T17 5).2 = some 5 ∧ (find goodCtx T17 55).2 = none := by decide +kernel
-- 1 and 17 share bucket 1 of 16; 17 was added last and is in front; finding 1 moves it to the front
example : chain T17.table 1 = [17, 1] ∧ chain (find goodCtx T17 1).1.table 1 = [1, 17] := by decide +kernel
-- a duplicate request (handle 105, content 5) is answered with the stored handle 5; nothing is added
example : (findOrAdd goodCtx T17 105).2 = 5 ∧ (findOrAdd goodCtx T17 105).1.numEntries = 17 := by decide +kernel
example : T7.size = 8 ∧ T7.numEntries = 7 ∧ T7.nextShrink = 0 ∧ T7.nextExpand = 16 := by decide +kernel
example : (find goodCtx T7 12).2 = some 12 ∧ (find goodCtx T7 3).2 = none := by decide +kernel
example : (remove goodCtx T7 (goodCtx.hashNode 3) 3).2 = none := by decide +kernel   -- contract violated: FAIL("not found")

/-- WRONG stored-node hash: `hashNode` (used at rehash and at `remove`) is not
    the key hash of the content -/
def badCtx : Ctx Nat Nat :=
  { content := fun h => h % 100, hashOf := fun c => UInt32.ofNat c, hashNode := fun _ => 7 }

def creates (ctx : Ctx Nat Nat) (t : SubTable Nat) (l : List Nat) : SubTable Nat :=
  l.foldl (fun t h => (findOrAdd ctx t h).1) t

/-- 17 `createReducedNode`s of pairwise different contents; the 17th expands
    the table and REHASHES nodes 1..16 with the wrong hash -/
def B17 : SubTable Nat := creates badCtx SubTable.init ((List.range 17).map (· + 1))

/-- **Why `hash_agree` matters.**  If the hash recomputed at rehash differs
    from the hash used at insertion/lookup:
      * node 5 is still in the table but `find` no longer sees it
        (it was rehashed into bucket `7 % 16` instead of `5 % 16`);
      * so the forest stores a DUPLICATE: creating content 5 again (handle 105)
        adds 105, and now two stored nodes have equal content -- canonicity
        (C01) is lost: two edges denoting the same function compare different;
      * and `deleteNode(17)` (added after the rehash, in bucket `17 % 16`)
        `FAIL`s with "not found" because `remove` looks in bucket `hashNode(17) % 16 = 7`. -/
theorem bad_rehash_breaks_table :
    5 ∈ B17.items ∧ (find badCtx B17 5).2 = none ∧
    (findOrAdd badCtx B17 105).2 = 105 ∧
    5 ∈ (findOrAdd badCtx B17 105).1.items ∧ 105 ∈ (findOrAdd badCtx B17 105).1.items ∧
    badCtx.content 5 = badCtx.content 105 ∧
    17 ∈ B17.items ∧ (remove badCtx B17 (badCtx.hashNode 17) 17).2 = none := by
  decide +kernel

/-- with the agreeing hash the very same calls keep the table canonical -/
example :
    let G17 := creates goodCtx SubTable.init ((List.range 17).map (· + 1))
    (find goodCtx G17 5).2 = some 5 ∧ (findOrAdd goodCtx G17 105).2 = 5 ∧
    (remove goodCtx G17 (goodCtx.hashNode 17) 17).2 = some 17 := by
  decide +kernel

/-- real hashes: handle 1 = node `[5, tv, 7]` stored full, handle 2 = the same
    logical node with a trailing transparent entry stored sparse, handle 3 =
    a different node -/
def realStore : Nat → Stored
  | 1 => ⟨[], HashStream.chMT, false⟩
  | 2 => ⟨[], HashStream.chMT ++ [⟨0, []⟩], true⟩
  | _ => ⟨[], [⟨7, []⟩, ⟨5, []⟩], false⟩

def realCtx : Ctx Nat (List UInt32 × List HashStream.Entry) := nodeCtx HashStream.Pmt realStore

/-- creating 1, then 2 (a duplicate in another storage form), then 3: the
    duplicate is answered with handle 1 and the table ends with {1, 3} -/
example :
    let t1 := (findOrAdd realCtx SubTable.init 1).1
    (findOrAdd realCtx t1 2).2 = 1 ∧
    (findOrAdd realCtx (findOrAdd realCtx t1 2).1 3).2 = 3 ∧
    (findOrAdd realCtx (findOrAdd realCtx t1 2).1 3).1.numEntries = 2 := by
  decide +kernel

end Examples

/-
  No theorem of this file rests on an axiom beyond `propext`, `Classical.choice`, `Quot.sound`
  (`#print axioms`).
-/

end UniqueTable
end Meddly
