/-
  Canonicity of the reduced form: two reduced trees (`DD.Red`) that denote the
  same function (`DD.eval`) over all valid assignments are equal.

  Induction on positions (`CanonAt`, `canonAt`), for a tree entered through an
  optional index `fi` of the position above (an `ident` position reads it).  At
  `k+1` both trees are stored (children agree, `agree_children`), both skip
  (`agree_skip`), or one is stored and one skips, which the reduction rule of
  the position's mode excludes (`canon_mixed`).  Results: `canon`, `canon_gen`,
  `zero_unique`.  `exists_fix`, `exists_through`, `skip_fix` (facts about
  assignments only) are reused by `Core/EVCanon`.
-/
import MeddlyModel.Core.DD

namespace Meddly

set_option linter.unusedSectionVars false

/-- Well-formed shapes: every variable has at least two values, and an
    `ident` position sits directly below a `red` position of the same size
    (so the top position is never `ident`). -/
structure Shape.WF (S : Shape) : Prop where
  size_ge : ∀ p, 1 ≤ p → p ≤ S.top → 2 ≤ S.size p
  ident_below_red : ∀ p, S.mode p = .ident →
    1 ≤ p ∧ p + 1 ≤ S.top ∧ S.mode (p+1) = .red ∧ S.size (p+1) = S.size p

theorem Shape.WF.not_ident_below {S : Shape} (hS : S.WF) {k : Nat}
    (hm : S.mode (k+1) = .ident) : S.mode k ≠ .ident := by
  intro hk
  have := (hS.ident_below_red k hk).2.2.1
  rw [hm] at this; cases this

def Assign.Valid (S : Shape) (a : Assign) : Prop :=
  ∀ p, 1 ≤ p → p ≤ S.top → a p < S.size p

def Assign.upd (a : Assign) (p v : Nat) : Assign := fun q => if q = p then v else a q

theorem Assign.upd_same (a : Assign) (p v : Nat) : Assign.upd a p v p = v := by
  simp [Assign.upd]

theorem Assign.upd_other (a : Assign) {p q : Nat} (v : Nat) (h : q ≠ p) :
    Assign.upd a p v q = a q := by
  simp [Assign.upd, h]

theorem Assign.Valid.upd {S : Shape} {a : Assign} (h : Assign.Valid S a) {p v : Nat}
    (hv : v < S.size p) : Assign.Valid S (Assign.upd a p v) := by
  intro q h1 h2
  by_cases hq : q = p
  · subst hq; rw [Assign.upd_same]; exact hv
  · rw [Assign.upd_other a v hq]; exact h q h1 h2

theorem Assign.valid_const_zero {S : Shape} (hS : S.WF) : Assign.Valid S (fun _ => 0) := by
  intro p h1 h2
  exact Nat.lt_of_lt_of_le Nat.zero_lt_two (hS.size_ge p h1 h2)

namespace DD
variable {α : Type} [DecidableEq α]

section
variable (S : Shape) (zero : α)

theorem eval_zero_leaf (v : α) (a : Assign) :
    eval S zero 0 (.leaf v) a = v := by
  simp only [eval]

theorem eval_succ_node (k : Nat) (cs : List (DD α)) (a : Assign) :
    eval S zero (k+1) (.node (k+1) cs) a
      = eval S zero k (cs.getD (a (k+1)) (.leaf zero)) a := by
  rw [eval]; simp only [if_true]

theorem eval_succ_skip (k : Nat) {d : DD α} (a : Assign)
    (h : d.isNodeAt (k+1) = false) :
    eval S zero (k+1) d a
      = if S.mode (k+1) = .ident ∧ a (k+1) ≠ a (k+2) then zero else eval S zero k d a := by
  cases d with
  | leaf v => rw [eval]
  | node p cs =>
    have hp : p ≠ k+1 := by simpa [isNodeAt] using h
    rw [eval]; simp only [hp, if_false]

theorem storedAt_cases (p : Nat) (d : DD α) :
    (∃ cs, d = .node p cs) ∨ d.isNodeAt p = false := by
  cases d with
  | leaf v => right; rfl
  | node q cs =>
    by_cases h : q = p
    · left; exact ⟨cs, by rw [h]⟩
    · right; simp [isNodeAt, h]

theorem eval_leaf_zero (k : Nat) (a : Assign) :
    eval S zero k (.leaf zero) a = zero := by
  induction k with
  | zero => rfl
  | succ k ih =>
    rw [eval_succ_skip S zero k a rfl, ih, ite_self]

/-- `eval … k d a` only reads `a` at positions `≤ k`, and at position `k+1`
    when position `k` is an `ident` position. -/
theorem eval_congr (k : Nat) (d : DD α) (a a' : Assign)
    (h1 : ∀ p, p ≤ k → a p = a' p) (h2 : S.mode k = .ident → a (k+1) = a' (k+1)) :
    eval S zero k d a = eval S zero k d a' := by
  induction k generalizing d with
  | zero => cases d <;> rfl
  | succ k ih =>
    have hk1 : a (k+1) = a' (k+1) := h1 (k+1) (Nat.le_refl _)
    have hlow : ∀ p, p ≤ k → a p = a' p := fun p hp => h1 p (Nat.le_succ_of_le hp)
    rcases storedAt_cases (k+1) d with ⟨cs, rfl⟩ | hd
    · rw [eval_succ_node, eval_succ_node, hk1]
      exact ih _ hlow (fun _ => hk1)
    · rw [eval_succ_skip S zero k a hd, eval_succ_skip S zero k a' hd, ih d hlow (fun _ => hk1)]
      by_cases hm : S.mode (k+1) = .ident
      · rw [hk1, h2 hm]
      · rw [if_neg (fun h => hm h.1), if_neg (fun h => hm h.1)]

theorem Red_zero_iff (fi : Option Nat) (d : DD α) :
    Red S zero 0 fi d = true ↔ ∃ v, d = .leaf v := by
  cases d <;> simp [Red]

theorem Red_succ_skip (k : Nat) (fi : Option Nat) {d : DD α}
    (h : d.isNodeAt (k+1) = false) (hr : Red S zero (k+1) fi d = true) :
    edgeOK S zero (k+1) fi d = true ∧ Red S zero k none d = true := by
  cases d with
  | leaf v =>
    rw [Red] at hr
    simpa using hr
  | node p cs =>
    have hp : p ≠ k+1 := by simpa [isNodeAt] using h
    rw [Red] at hr
    simp only [hp, if_false, Bool.and_eq_true, Bool.if_false_right, decide_eq_true_eq] at hr
    exact ⟨hr.1, hr.2.2⟩

theorem Red_succ_node (k : Nat) (fi : Option Nat) (cs : List (DD α)) :
    Red S zero (k+1) fi (.node (k+1) cs) = true ↔
      edgeOK S zero (k+1) fi (.node (k+1) cs) = true ∧
      cs.length = S.size (k+1) ∧
      (∃ c, c ∈ cs ∧ c ≠ .leaf zero) ∧
      (S.mode (k+1) = .red → ¬ ∀ c, c ∈ cs → c = cs.headD (.leaf zero)) ∧
      (∀ i, i < cs.length → Red S zero k (some i) (cs.getD i (.leaf zero)) = true) := by
  rw [Red]
  simp only [if_true, Bool.and_eq_true, beq_iff_eq, List.any_eq_true, bne_iff_ne, ne_eq,
    Bool.or_eq_true, Bool.not_eq_true', ← Bool.not_eq_true, List.all_eq_true, List.mem_range,
    ← Decidable.imp_iff_not_or, and_assoc]

theorem isSingleton_node_iff (zero : α) (p i : Nat) (cs : List (DD α)) :
    isSingleton zero p i (.node p cs) = true ↔
      i < cs.length ∧
      (∀ j, j < cs.length → j = i ∨ cs.getD j (.leaf zero) = .leaf zero) ∧
      cs.getD i (.leaf zero) ≠ .leaf zero := by
  simp only [isSingleton, Bool.and_eq_true, beq_self_eq_true, true_and, decide_eq_true_eq,
    List.all_eq_true, List.mem_range, Bool.or_eq_true, beq_iff_eq, bne_iff_ne, ne_eq, and_assoc]

theorem isAnySingleton_of_isSingleton (zero : α) (p i : Nat) (d : DD α)
    (h : isSingleton zero p i d = true) : isAnySingleton zero p d = true := by
  cases d with
  | leaf v => simp [isSingleton] at h
  | node q cs =>
    have hi : i < cs.length := by
      simp only [isSingleton, Bool.and_eq_true, decide_eq_true_eq] at h
      exact h.1.1.2
    simp only [isAnySingleton, List.any_eq_true, List.mem_range]
    exact ⟨i, hi, h⟩

theorem edgeOK_none_some (k i : Nat) (d : DD α)
    (h : edgeOK S zero k none d = true) : edgeOK S zero k (some i) d = true := by
  unfold edgeOK at h ⊢
  split
  · rfl
  · rename_i hm; rw [hm] at h; exact h
  · rename_i hm; rw [hm] at h
    simp only [Bool.not_eq_eq_eq_not, Bool.not_true] at h ⊢
    cases hs : isSingleton zero k i d with
    | false => rfl
    | true => rw [isAnySingleton_of_isSingleton zero k i d hs] at h; exact absurd h (by simp)

theorem edgeOK_leaf_zero (k : Nat) (fi : Option Nat) :
    edgeOK S zero k fi (.leaf zero) = true := by
  unfold edgeOK
  split
  · rfl
  · simp
  · cases fi <;> simp [isSingleton, isAnySingleton]

theorem edgeOK_none_skip (k : Nat) (fi : Option Nat) {d : DD α}
    (hm : S.mode (k+1) = .none) (hd : d.isNodeAt (k+1) = false)
    (h : edgeOK S zero (k+1) fi d = true) : d = .leaf zero := by
  unfold edgeOK at h
  rw [hm] at h
  simpa [hd] using h

theorem edgeOK_ident_some (k i : Nat) {d : DD α}
    (hm : S.mode k = .ident) (h : edgeOK S zero k (some i) d = true) :
    isSingleton zero k i d = false := by
  unfold edgeOK at h
  rw [hm] at h
  simpa using h

theorem edgeOK_not_ident (k : Nat) (fi fj : Option Nat) {d : DD α}
    (hm : S.mode k ≠ .ident) : edgeOK S zero k fi d = edgeOK S zero k fj d := by
  unfold edgeOK
  split
  · rfl
  · rfl
  · rename_i h; exact absurd h hm

theorem Red_none_some (k i : Nat) (d : DD α)
    (h : Red S zero k none d = true) : Red S zero k (some i) d = true := by
  cases k with
  | zero =>
    obtain ⟨v, rfl⟩ := (Red_zero_iff S zero none d).mp h
    rfl
  | succ k =>
    -- the arriving index only enters through the `edgeOK` conjunct
    cases d <;> rw [Red, Bool.and_eq_true] at h ⊢ <;>
      exact ⟨edgeOK_none_some S zero (k+1) i _ h.1, h.2⟩

theorem Red_leaf_zero (k : Nat) (fi : Option Nat) :
    Red S zero k fi (.leaf zero) = true := by
  induction k generalizing fi with
  | zero => rfl
  | succ k ih =>
    rw [Red, Bool.and_eq_true]
    exact ⟨edgeOK_leaf_zero S zero (k+1) fi, ih none⟩

theorem list_all_eq_of_getD {β : Type} (l : List β) (dflt x : β)
    (h : ∀ j, j < l.length → l.getD j dflt = x) : ∀ c, c ∈ l → c = x := by
  intro c hc
  obtain ⟨j, hj, rfl⟩ := List.getElem_of_mem hc
  have := h j hj
  simpa [List.getD_eq_getElem?_getD, hj] using this

theorem list_headD_eq_getD {β : Type} (l : List β) (dflt : β) : l.headD dflt = l.getD 0 dflt := by
  cases l <;> rfl

theorem list_ext_getD {β : Type} (l1 l2 : List β) (dflt : β) (hl : l1.length = l2.length)
    (h : ∀ j, j < l1.length → l1.getD j dflt = l2.getD j dflt) : l1 = l2 := by
  apply List.ext_getElem hl
  intro j h1 h2
  have := h j h1
  simpa [List.getD_eq_getElem?_getD, h1, h2] using this

def Agree (S : Shape) (zero : α) (k : Nat) (fi : Option Nat) (d1 d2 : DD α) : Prop :=
  ∀ a, Assign.Valid S a → (∀ i, fi = some i → a (k+1) = i) →
    eval S zero k d1 a = eval S zero k d2 a

theorem Agree.symm {S : Shape} {zero : α} {k : Nat} {fi : Option Nat} {d1 d2 : DD α}
    (h : Agree S zero k fi d1 d2) : Agree S zero k fi d2 d1 :=
  fun a ha hf => (h a ha hf).symm

/-- Canonicity at position `k` (the induction statement). -/
def CanonAt (S : Shape) (zero : α) (k : Nat) : Prop :=
  ∀ (fi : Option Nat) (d1 d2 : DD α), (∀ i, fi = some i → i < S.size (k+1)) →
    Red S zero k fi d1 = true → Red S zero k fi d2 = true →
    Agree S zero k fi d1 d2 → d1 = d2

theorem lt_of_some_eq {j n : Nat} (hj : j < n) (i : Nat) (h : some j = some i) : i < n :=
  Option.some.inj h ▸ hj

theorem exists_fix (S : Shape) (p : Nat) (fi : Option Nat)
    (hfi : ∀ i, fi = some i → i < S.size p) (a : Assign) (ha : Assign.Valid S a) :
    ∃ a', Assign.Valid S a' ∧ (∀ i, fi = some i → a' p = i) ∧ ∀ q, q ≠ p → a' q = a q := by
  cases fi with
  | none =>
    exact ⟨a, ha, fun _ => nofun, fun _ _ => rfl⟩
  | some i =>
    exact ⟨Assign.upd a p i, ha.upd (hfi i rfl),
      fun _ h => Option.some.inj h ▸ Assign.upd_same a p i, fun _ => Assign.upd_other a i⟩

/-- A valid assignment can be changed at position `k+1` only (and only if it is an `ident`
    position) so that a skip of `k+1` reads through: copy the value at `k+2`. -/
theorem exists_through {S : Shape} (hS : S.WF) (k : Nat) {a : Assign} (ha : Assign.Valid S a) :
    ∃ a', Assign.Valid S a' ∧ (∀ q, q ≠ k+1 ∨ S.mode (k+1) ≠ .ident → a' q = a q) ∧
      ¬ (S.mode (k+1) = .ident ∧ a' (k+1) ≠ a' (k+2)) := by
  by_cases hm : S.mode (k+1) = .ident
  · obtain ⟨_, htop, _, hsz⟩ := hS.ident_below_red (k+1) hm
    have hv : a (k+2) < S.size (k+1) := by
      rw [← hsz]; exact ha (k+2) (Nat.le_add_left 1 (k+1)) htop
    refine ⟨Assign.upd a (k+1) (a (k+2)), ha.upd hv,
      fun q hq => Assign.upd_other a _ (hq.resolve_right fun h => h hm), fun h => h.2 ?_⟩
    rw [Assign.upd_same, Assign.upd_other a _ (Nat.succ_ne_self (k+1))]
  · exact ⟨a, ha, fun _ _ => rfl, fun h => hm h.1⟩

theorem zero_of_canon {S : Shape} {zero : α} {k : Nat} (hC : CanonAt S zero k)
    {fi : Option Nat} {d : DD α} (hfi : ∀ i, fi = some i → i < S.size (k+1))
    (hr : Red S zero k fi d = true)
    (hz : ∀ a, Assign.Valid S a → (∀ i, fi = some i → a (k+1) = i) → eval S zero k d a = zero) :
    d = .leaf zero := by
  apply hC fi d (.leaf zero) hfi hr (Red_leaf_zero S zero k fi)
  intro a ha hf
  rw [hz a ha hf, eval_leaf_zero]

section step
variable {S} {zero} {k : Nat} {fi : Option Nat} {cs : List (DD α)} {d1 d2 : DD α}

/-- The child selected by `a` of a node stored at `k+1` denotes, on `a`, what the node (hence
    `d2`) denotes on any admissible `a'` that coincides with `a` up to `k+1`. -/
theorem agree_child (hA : Agree S zero (k+1) fi (.node (k+1) cs) d2) {a a' : Assign}
    (ha' : Assign.Valid S a') (hf' : ∀ i, fi = some i → a' (k+2) = i)
    (hsame : ∀ p, p ≤ k+1 → a' p = a p) :
    eval S zero k (cs.getD (a (k+1)) (.leaf zero)) a = eval S zero (k+1) d2 a' := by
  have hk1 := hsame (k+1) (Nat.le_refl _)
  rw [← hA a' ha' hf', eval_succ_node, hk1]
  exact eval_congr S zero k _ a a' (fun p hp => (hsame p (Nat.le_succ_of_le hp)).symm)
    (fun _ => hk1.symm)

variable (hfi : ∀ i, fi = some i → i < S.size (k+2))
include hfi

theorem agree_child_of (hA : Agree S zero (k+1) fi (.node (k+1) cs) d2) {a : Assign}
    (ha : Assign.Valid S a) :
    ∃ a', Assign.Valid S a' ∧ (∀ q, q ≤ k+1 → a' q = a q) ∧
      eval S zero k (cs.getD (a (k+1)) (.leaf zero)) a = eval S zero (k+1) d2 a' := by
  obtain ⟨a', ha', hf', hsame⟩ := exists_fix S (k+2) fi hfi a ha
  have hlow : ∀ q, q ≤ k+1 → a' q = a q :=
    fun q hq => hsame q (Nat.ne_of_lt (Nat.lt_succ_of_le hq))
  exact ⟨a', ha', hlow, agree_child hA ha' hf' hlow⟩

theorem agree_children {cs1 cs2 : List (DD α)} (j : Nat)
    (hA : Agree S zero (k+1) fi (.node (k+1) cs1) (.node (k+1) cs2)) :
    Agree S zero k (some j) (cs1.getD j (.leaf zero)) (cs2.getD j (.leaf zero)) := by
  intro a ha hf
  obtain rfl : a (k+1) = j := hf j rfl
  obtain ⟨a', _, hsame, h⟩ := agree_child_of hfi hA ha
  have hk1 := hsame (k+1) (Nat.le_refl _)
  rw [h, eval_succ_node, hk1]
  exact eval_congr S zero k _ a' a (fun p hp => hsame p (Nat.le_succ_of_le hp)) (fun _ => hk1)

/-- Any valid assignment can be changed at positions `k+1` and `k+2` only, so that it
    respects the arriving index at `k+2` and a skip of position `k+1` reads through.  What `eval`
    at position `k` reads is kept: the positions `≤ k`, and `k+1` when `k` is an `ident` position
    (then `k+1` is not one, `Shape.WF.not_ident_below`, so it was not changed). -/
theorem skip_fix (hS : S.WF) {a : Assign} (ha : Assign.Valid S a) :
    ∃ a', Assign.Valid S a' ∧ (∀ i, fi = some i → a' (k+2) = i) ∧
      ¬ (S.mode (k+1) = .ident ∧ a' (k+1) ≠ a' (k+2)) ∧
      (∀ p, p ≤ k → a' p = a p) ∧ (S.mode k = .ident → a' (k+1) = a (k+1)) := by
  obtain ⟨a1, ha1, hf1, hsame1⟩ := exists_fix S (k+2) fi hfi a ha
  obtain ⟨a2, ha2, hsame2, hne⟩ := exists_through hS k ha1
  have hlow : ∀ q, q ≤ k+1 → q ≠ k+1 ∨ S.mode (k+1) ≠ .ident → a2 q = a q :=
    fun q hq h => (hsame2 q h).trans (hsame1 q (Nat.ne_of_lt (Nat.lt_succ_of_le hq)))
  exact ⟨a2, ha2, fun i hi => (hsame2 _ (.inl (Nat.succ_ne_self (k+1)))).trans (hf1 i hi), hne,
    fun p hp => hlow p (Nat.le_succ_of_le hp) (.inl (Nat.ne_of_lt (Nat.lt_succ_of_le hp))),
    fun h => hlow (k+1) (Nat.le_refl _) (.inr fun h1 => hS.not_ident_below h1 h)⟩

theorem agree_skip (hS : S.WF) (h1 : d1.isNodeAt (k+1) = false) (h2 : d2.isNodeAt (k+1) = false)
    (hA : Agree S zero (k+1) fi d1 d2) : Agree S zero k none d1 d2 := by
  intro a ha _
  obtain ⟨a', ha', hf', hne, hlow, hk⟩ := skip_fix hfi hS ha
  -- for trees not stored at `k+1`, reading from `k+1` on `a'` is reading from `k` on `a`
  have he : ∀ d : DD α, d.isNodeAt (k+1) = false →
      eval S zero (k+1) d a' = eval S zero k d a := by
    intro d hd
    rw [eval_succ_skip S zero k a' hd, if_neg hne]
    exact eval_congr S zero k d a' a hlow hk
  rw [← he d1 h1, ← he d2 h2]
  exact hA a' ha' hf'

/-- A reduced node stored at `k+1` never denotes the same function as a reduced
    tree that skips `k+1`. -/
theorem canon_mixed (hS : S.WF) (hC : CanonAt S zero k)
    (h1 : Red S zero (k+1) fi (.node (k+1) cs) = true) (hd2 : d2.isNodeAt (k+1) = false)
    (h2 : Red S zero (k+1) fi d2 = true)
    (hA : Agree S zero (k+1) fi (.node (k+1) cs) d2) : False := by
  obtain ⟨hE, hlen, hnz, hred, hch⟩ := (Red_succ_node S zero k fi cs).mp h1
  obtain ⟨hE2, hR2⟩ := Red_succ_skip S zero k fi hd2 h2
  -- a child that denotes `zero` wherever it is read is the transparent leaf; not all are
  have hzero : ∀ j, j < cs.length →
      (∀ a, Assign.Valid S a → a (k+1) = j → eval S zero k (cs.getD j (.leaf zero)) a = zero) →
      cs.getD j (.leaf zero) = .leaf zero :=
    fun j hj hz => zero_of_canon hC (lt_of_some_eq (hlen ▸ hj)) (hch j hj)
      (fun a ha hf => hz a ha (hf j rfl))
  have hnotall : ¬ ∀ j, j < cs.length → cs.getD j (.leaf zero) = .leaf zero := by
    intro hall
    obtain ⟨c, hc, hcne⟩ := hnz
    exact hcne (list_all_eq_of_getD cs _ _ hall c hc)
  cases hm : S.mode (k+1) with
  | red =>
    -- every child equals `d2`: the node is redundant
    have hall : ∀ j, j < cs.length → cs.getD j (.leaf zero) = d2 := by
      intro j hj
      apply hC (some j) _ _ (lt_of_some_eq (hlen ▸ hj)) (hch j hj) (Red_none_some S zero k j d2 hR2)
      intro a ha hf
      obtain ⟨a', _, hsame, h⟩ := agree_child_of hfi hA ha
      have hne : ¬ (S.mode (k+1) = .ident ∧ a' (k+1) ≠ a' (k+2)) := by
        intro h; rw [hm] at h; cases h.1
      rw [← hf j rfl, h, eval_succ_skip S zero k a' hd2, if_neg hne]
      exact eval_congr S zero k d2 a' a (fun p hp => hsame p (Nat.le_succ_of_le hp))
        (fun _ => hsame (k+1) (Nat.le_refl _))
    apply hred hm
    intro c hc
    rw [list_headD_eq_getD, hall 0 (List.length_pos_of_mem hc)]
    exact list_all_eq_of_getD cs _ d2 hall c hc
  | none =>
    obtain rfl : d2 = .leaf zero := edgeOK_none_skip S zero k fi hm hd2 hE2
    refine hnotall fun j hj => hzero j hj fun a ha hj' => ?_
    obtain ⟨a', _, _, h⟩ := agree_child_of hfi hA ha
    rw [← hj', h, eval_leaf_zero]
  | ident =>
    obtain ⟨_, htop, _, hsz⟩ := hS.ident_below_red (k+1) hm
    -- child `j` reads as `zero` as soon as position `k+2` may hold a value `v ≠ j`
    have hz : ∀ j v, j < cs.length → v < S.size (k+2) → v ≠ j →
        (∀ i, fi = some i → v = i) → cs.getD j (.leaf zero) = .leaf zero := by
      intro j v hj hv hvj hvf
      refine hzero j hj fun a ha hj' => ?_
      have e1 : Assign.upd a (k+2) v (k+1) = j := by
        rw [Assign.upd_other a v (Nat.ne_of_lt (Nat.lt_succ_self _))]; exact hj'
      have hpos : S.mode (k+1) = .ident ∧
          Assign.upd a (k+2) v (k+1) ≠ Assign.upd a (k+2) v (k+2) := by
        refine ⟨hm, ?_⟩
        rw [e1, Assign.upd_same]; exact fun h => hvj h.symm
      rw [← hj', agree_child hA (ha.upd hv)
        (fun i hi => by rw [Assign.upd_same]; exact hvf i hi)
        (fun p hp => Assign.upd_other a v (Nat.ne_of_lt (Nat.lt_succ_of_le hp))),
        eval_succ_skip S zero k _ hd2, if_pos hpos]
    have hsz2 : 2 ≤ S.size (k+2) := hS.size_ge (k+2) (Nat.le_add_left 1 (k+1)) htop
    cases fi with
    | none =>
      refine hnotall fun j hj => ?_
      by_cases hj0 : j = 0
      · exact hz j 1 hj hsz2 (fun h => Nat.one_ne_zero (h.trans hj0)) (fun i h => nomatch h)
      · exact hz j 0 hj (Nat.lt_of_succ_lt hsz2) (fun h => hj0 h.symm) (fun i h => nomatch h)
    | some i =>
      -- only child `i` may be non-transparent: an `i`-singleton below index `i`
      have hothers : ∀ j, j < cs.length → j = i ∨ cs.getD j (.leaf zero) = .leaf zero := by
        intro j hj
        by_cases hji : j = i
        · exact .inl hji
        · exact .inr (hz j i hj (hfi i rfl) (fun h => hji h.symm) (fun i' h => by cases h; rfl))
      have hsing : isSingleton zero (k+1) i (.node (k+1) cs) = true := by
        rw [isSingleton_node_iff]
        refine ⟨by rw [hlen, ← hsz]; exact hfi i rfl, hothers, fun hiz => hnotall fun j hj => ?_⟩
        rcases hothers j hj with rfl | h
        · exact hiz
        · exact h
      rw [edgeOK_ident_some S zero (k+1) i hm hE] at hsing
      cases hsing

end step
end

theorem canonAt (S : Shape) (zero : α) (hS : S.WF) : ∀ k, CanonAt S zero k
  | 0 => by
    intro fi d1 d2 hfi h1 h2 hA
    obtain ⟨v1, rfl⟩ := (Red_zero_iff S zero fi d1).mp h1
    obtain ⟨v2, rfl⟩ := (Red_zero_iff S zero fi d2).mp h2
    obtain ⟨a, ha, hf, _⟩ := exists_fix S 1 fi hfi (fun _ => 0) (Assign.valid_const_zero hS)
    have := hA a ha hf
    rw [eval_zero_leaf, eval_zero_leaf] at this
    rw [this]
  | k+1 => by
    have hC := canonAt S zero hS k
    intro fi d1 d2 hfi h1 h2 hA
    rcases storedAt_cases (k+1) d1 with ⟨cs1, rfl⟩ | hd1 <;>
      rcases storedAt_cases (k+1) d2 with ⟨cs2, rfl⟩ | hd2
    · obtain ⟨_, hlen1, _, _, hch1⟩ := (Red_succ_node S zero k fi cs1).mp h1
      obtain ⟨_, hlen2, _, _, hch2⟩ := (Red_succ_node S zero k fi cs2).mp h2
      have hl : cs1.length = cs2.length := by rw [hlen1, hlen2]
      congr 1
      apply list_ext_getD cs1 cs2 (.leaf zero) hl
      exact fun j hj => hC (some j) _ _ (lt_of_some_eq (hlen1 ▸ hj)) (hch1 j hj) (hch2 j (hl ▸ hj))
        (agree_children hfi j hA)
    · exact (canon_mixed hfi hS hC h1 hd2 h2 hA).elim
    · exact (canon_mixed hfi hS hC h2 hd1 h1 hA.symm).elim
    · exact hC none d1 d2 (fun i h => nomatch h)
        (Red_succ_skip S zero k fi hd1 h1).2 (Red_succ_skip S zero k fi hd2 h2).2
        (agree_skip hfi hS hd1 hd2 hA)

/-- Canonicity, general form: two trees reduced for position `k` (arriving
    through index `fi`) with the same denotation are equal. -/
theorem canon_gen (S : Shape) (zero : α) (hS : S.WF) :
    ∀ (k : Nat), k ≤ S.top → ∀ (fi : Option Nat) (d1 d2 : DD α),
      (∀ i, fi = some i → i < S.size (k+1)) →
      Red S zero k fi d1 = true → Red S zero k fi d2 = true →
      (∀ a, Assign.Valid S a → (∀ i, fi = some i → a (k+1) = i) →
        eval S zero k d1 a = eval S zero k d2 a) →
      d1 = d2 :=
  fun k _ => canonAt S zero hS k

/-- Canonicity: reduced trees are equal iff they denote the same function. -/
theorem canon (S : Shape) (zero : α) (hS : S.WF) (d1 d2 : DD α)
    (h1 : Red S zero S.top none d1 = true) (h2 : Red S zero S.top none d2 = true) :
    (∀ a, Assign.Valid S a → eval S zero S.top d1 a = eval S zero S.top d2 a) ↔ d1 = d2 := by
  constructor
  · exact fun h => canonAt S zero hS S.top none d1 d2 (fun _ => nofun) h1 h2 fun a ha _ => h a ha
  · intro h a _; rw [h]

/-- The only reduced tree denoting the constant `zero` is the transparent leaf. -/
theorem zero_unique (S : Shape) (zero : α) (hS : S.WF) (k : Nat) (_hk : k ≤ S.top)
    (fi : Option Nat) (d : DD α) (hfi : ∀ i, fi = some i → i < S.size (k+1))
    (hr : Red S zero k fi d = true)
    (hz : ∀ a, Assign.Valid S a → (∀ i, fi = some i → a (k+1) = i) →
      eval S zero k d a = zero) :
    d = .leaf zero :=
  zero_of_canon (canonAt S zero hS k) hfi hr hz

end DD

/-! ### Non-vacuity: concrete shapes and reduced trees -/

namespace CanonExamples
open DD

/-- (a) fully reduced, three positions, sizes 2 (pos 1), 3 (pos 2), 2 (pos 3). -/
def SA : Shape where
  top := 3
  size := fun p => if p = 2 then 3 else 2
  mode := fun _ => .red

theorem SA_WF : SA.WF where
  size_ge := by intro p _ _; show 2 ≤ (if p = 2 then 3 else 2); split <;> omega
  ident_below_red := nofun

def xA : DD Nat := .node 1 [.leaf 0, .leaf 1]
def yA : DD Nat := .node 1 [.leaf 1, .leaf 0]
def mA : DD Nat := .node 2 [xA, yA, .leaf 1]
def nA : DD Nat := .node 2 [xA, xA, yA]
/-- uses `xA`, `yA` several times (shared sub-trees) -/
def tA1 : DD Nat := .node 3 [mA, nA]
/-- child 0 skips position 2 -/
def tA2 : DD Nat := .node 3 [xA, mA]

example : Red SA 0 3 none tA1 = true := by decide +kernel
example : Red SA 0 3 none tA2 = true := by decide +kernel
/-- a redundant node is rejected -/
example : Red SA 0 3 none (.node 3 [mA, mA]) = false := by decide +kernel
/-- wrong number of children is rejected -/
example : Red SA 0 3 none (.node 3 [.node 2 [xA, yA], nA]) = false := by decide +kernel
example : tA1 ≠ tA2 := by decide +kernel
/-- by canonicity the two reduced trees denote different functions -/
example : ¬ ∀ a, Assign.Valid SA a → eval SA 0 3 tA1 a = eval SA 0 3 tA2 a := by
  intro h
  have := (canon SA 0 SA_WF tA1 tA2 (by decide +kernel) (by decide +kernel)).mp h
  exact absurd this (by decide +kernel)

/-- (b) identity-reduced relation over two variables: positions 4, 2 unprimed
    (`red`), positions 3, 1 primed (`ident`), all sizes 2. -/
def SB : Shape where
  top := 4
  size := fun _ => 2
  mode := fun p => if p = 3 ∨ p = 1 then .ident else .red

theorem SB_WF : SB.WF where
  size_ge := by intro p _ _; exact Nat.le_refl 2
  ident_below_red := by
    intro p h
    have hp : p = 3 ∨ p = 1 := Decidable.byContradiction fun hp => by
      have h' : (if p = 3 ∨ p = 1 then Mode.ident else Mode.red) = Mode.ident := h
      rw [if_neg hp] at h'; cases h'
    rcases hp with rfl | rfl <;> decide

/-- stored node at the `ident` position 1 (a 0-singleton, reached through index 1) -/
def wB : DD Nat := .node 1 [.leaf 1, .leaf 0]
/-- child 0 (`leaf 1`) skips the `ident` position 1; child 1 is stored there -/
def uB : DD Nat := .node 2 [.leaf 1, wB]
/-- child 0 is a redundant node at the `ident` position 3; child 1 skips
    positions 3 and 2 and is stored at position 1 (no singleton) -/
def tB : DD Nat := .node 4 [.node 3 [uB, uB], .node 1 [.leaf 1, .leaf 2]]

example : Red SB 0 4 none tB = true := by decide +kernel
/-- the identity relation is the single terminal -/
example : Red SB 0 4 none (.leaf 1 : DD Nat) = true := by decide +kernel
/-- an `i`-singleton below index `i` is rejected (it spells an identity) -/
example : Red SB 0 4 none (.node 4 [.node 3 [.leaf 1, .leaf 0], .leaf 1] : DD Nat) = false := by
  decide +kernel
/-- any singleton at an `ident` position is rejected when the unprimed position was skipped -/
example : Red SB 0 4 none (.node 4 [.leaf 1, .node 1 [.leaf 0, .leaf 2]] : DD Nat) = false := by
  decide +kernel

/-- (c) quasi reduced, two positions of size 2. -/
def SC : Shape where
  top := 2
  size := fun _ => 2
  mode := fun _ => .none

theorem SC_WF : SC.WF where
  size_ge := by intro p _ _; exact Nat.le_refl 2
  ident_below_red := nofun

example : Red SC 0 2 none (.node 2 [.node 1 [.leaf 0, .leaf 1], .leaf 0] : DD Nat) = true := by
  decide +kernel
/-- redundant nodes are stored in quasi-reduced forests -/
example : Red SC 0 2 none
    (.node 2 [.node 1 [.leaf 1, .leaf 1], .node 1 [.leaf 0, .leaf 1]] : DD Nat) = true := by
  decide +kernel
/-- only the transparent terminal may skip a position -/
example : Red SC 0 2 none (.node 2 [.leaf 1, .leaf 0] : DD Nat) = false := by decide +kernel

end CanonExamples

#print axioms DD.canon
#print axioms DD.canon_gen
#print axioms DD.zero_unique
/- Output (Lean 4.33.0):
'Meddly.DD.canon' depends on axioms: [propext, Classical.choice, Quot.sound]
'Meddly.DD.canon_gen' depends on axioms: [propext, Classical.choice, Quot.sound]
'Meddly.DD.zero_unique' depends on axioms: [propext, Classical.choice, Quot.sound]
-/

end Meddly
