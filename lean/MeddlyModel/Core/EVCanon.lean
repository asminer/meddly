/-
  Canonicity of the EV+ normal form (`EDD.RedEdge`): two reduced edges that
  denote the same function (`EDD.evalEdge`) over all valid assignments are equal.

  Key facts: a reduced non-∞ target attains the value 0 on some valid
  assignment (`eval_attain`) and never goes below 0 (`eval_nonneg`); hence the
  value of a reduced edge is the minimum of its denotation.
-/
import MeddlyModel.Core.EV

namespace Meddly


section generic
variable {β : Type}

theorem evLocalOK_iff [DecidableEq β] (isInf : β → Bool) (d0 : Int × β) (sz : Nat) (red : Bool)
    (cs : List (Int × β)) :
    evLocalOK isInf d0 sz red cs = true ↔
      cs.length = sz ∧
      (∀ e, e ∈ cs → (isInf e.2 = true → e.1 = 0) ∧ (isInf e.2 = false → 0 ≤ e.1)) ∧
      (∃ e, e ∈ cs ∧ isInf e.2 = false ∧ e.1 = 0) ∧
      (red = true → ¬ ∀ e, e ∈ cs → e = cs.headD d0) := by
  have hite : ∀ e : Int × β, (if isInf e.2 then e.1 == 0 else decide (0 ≤ e.1)) = true ↔
      (isInf e.2 = true → e.1 = 0) ∧ (isInf e.2 = false → 0 ≤ e.1) := by
    intro e
    cases isInf e.2 <;> simp
  simp only [evLocalOK, Bool.and_eq_true, beq_iff_eq, List.all_eq_true, List.any_eq_true,
    Bool.or_eq_true, Bool.not_eq_true', ← Bool.not_eq_true, hite, ← Decidable.imp_iff_not_or,
    and_assoc]

theorem evSingleton_iff {isInf : β → Bool} {d0 : Int × β} {i : Nat} {cs : List (Int × β)} :
    evSingleton isInf d0 i cs = true ↔
      i < cs.length ∧
      (∀ j, j < cs.length → j = i ∨ isInf (cs.getD j d0).2 = true) ∧
      isInf (cs.getD i d0).2 = false := by
  simp only [evSingleton, Bool.and_eq_true, decide_eq_true_eq, List.all_eq_true, List.mem_range,
    Bool.or_eq_true, beq_iff_eq, Bool.not_eq_true', and_assoc]

theorem evAnySingleton_of (isInf : β → Bool) (d0 : Int × β) (i : Nat) (cs : List (Int × β))
    (h : evSingleton isInf d0 i cs = true) : evAnySingleton isInf d0 cs = true := by
  have hi := (evSingleton_iff.mp h).1
  simp only [evAnySingleton, List.any_eq_true, List.mem_range]
  exact ⟨i, hi, h⟩

end generic

theorem getD_mem {β : Type} (l : List β) (i : Nat) (d : β) (hi : i < l.length) :
    l.getD i d ∈ l := by
  rw [List.getD_eq_getElem?_getD, List.getElem?_eq_getElem hi]
  exact List.getElem_mem hi

theorem opt_map_add_inj {x y : Option Int} {v : Int}
    (h : x.map (· + v) = y.map (· + v)) : x = y := by
  cases x <;> cases y <;> simp at h ⊢
  omega

namespace EDD

section
variable (S : Shape)

theorem eval_succ_node (k : Nat) (cs : List (Int × EDD)) (a : Assign) :
    eval S (k+1) (.node (k+1) cs) a = evalEdge S k (cs.getD (a (k+1)) dflt) a := by
  rw [eval]; simp only [if_true]; rfl

theorem eval_succ_skip (k : Nat) {d : EDD} (a : Assign)
    (h : d.isNodeAt (k+1) = false) :
    eval S (k+1) d a
      = if S.mode (k+1) = .ident ∧ a (k+1) ≠ a (k+2) then none else eval S k d a := by
  cases d with
  | inf | omega => rw [eval]
  | node p cs =>
    have hp : p ≠ k+1 := by simpa [isNodeAt] using h
    rw [eval]; simp only [hp, if_false]

theorem storedAt_cases (p : Nat) (d : EDD) :
    (∃ cs, d = .node p cs) ∨ d.isNodeAt p = false := by
  cases d with
  | inf | omega => right; rfl
  | node q cs =>
    by_cases h : q = p
    · left; exact ⟨cs, by rw [h]⟩
    · right; simp [isNodeAt, h]

theorem eval_inf (k : Nat) (a : Assign) : eval S k .inf a = none := by
  induction k with
  | zero => rfl
  | succ k ih =>
    rw [eval_succ_skip S k a rfl, ih, ite_self]

theorem evalEdge_inf (k : Nat) (v : Int) (a : Assign) :
    evalEdge S k (v, .inf) a = none := by
  simp only [evalEdge, eval_inf, Option.map_none]

theorem evalEdge_dflt (k : Nat) (a : Assign) : evalEdge S k dflt a = none :=
  evalEdge_inf S k 0 a

theorem evalEdge_zero (k : Nat) (d : EDD) (a : Assign) :
    evalEdge S k (0, d) a = eval S k d a := by
  simp only [evalEdge, Int.add_zero]
  cases eval S k d a <;> rfl

theorem isInf_iff (d : EDD) : isInf d = true ↔ d = .inf := by
  cases d <;> simp [isInf]

theorem isInf_false_iff (d : EDD) : isInf d = false ↔ d ≠ .inf := by
  cases d <;> simp [isInf]

/-- `eval … k d a` only reads `a` at positions `≤ k`, and at position `k+1`
    when position `k` is an `ident` position. -/
theorem eval_congr (k : Nat) (d : EDD) (a a' : Assign)
    (h1 : ∀ p, p ≤ k → a p = a' p) (h2 : S.mode k = .ident → a (k+1) = a' (k+1)) :
    eval S k d a = eval S k d a' := by
  induction k generalizing d with
  | zero => cases d <;> rfl
  | succ k ih =>
    have hk1 : a (k+1) = a' (k+1) := h1 (k+1) (Nat.le_refl _)
    have hlow : ∀ p, p ≤ k → a p = a' p := fun p hp => h1 p (Nat.le_succ_of_le hp)
    rcases storedAt_cases (k+1) d with ⟨cs, rfl⟩ | hd
    · rw [eval_succ_node, eval_succ_node, hk1]
      unfold evalEdge
      rw [ih _ hlow (fun _ => hk1)]
    · rw [eval_succ_skip S k a hd, eval_succ_skip S k a' hd, ih d hlow (fun _ => hk1)]
      by_cases hm : S.mode (k+1) = .ident
      · rw [hk1, h2 hm]
      · rw [if_neg (fun h => hm h.1), if_neg (fun h => hm h.1)]

theorem evalEdge_congr (k : Nat) (e : Int × EDD) (a a' : Assign)
    (h1 : ∀ p, p ≤ k → a p = a' p) (h2 : S.mode k = .ident → a (k+1) = a' (k+1)) :
    evalEdge S k e a = evalEdge S k e a' := by
  unfold evalEdge
  rw [eval_congr S k e.2 a a' h1 h2]

theorem Red_zero_iff (fi : Option Nat) (d : EDD) :
    Red S 0 fi d = true ↔ d = .inf ∨ d = .omega := by
  cases d <;> simp [Red]

theorem Red_succ_skip (k : Nat) (fi : Option Nat) {d : EDD}
    (h : d.isNodeAt (k+1) = false) (hr : Red S (k+1) fi d = true) :
    edgeOK S (k+1) fi d = true ∧ Red S k none d = true := by
  cases d with
  | inf | omega => rw [Red] at hr; simpa using hr
  | node p cs =>
    have hp : p ≠ k+1 := by simpa [isNodeAt] using h
    rw [Red] at hr
    simp only [hp, if_false, Bool.and_eq_true, Bool.if_false_right, decide_eq_true_eq] at hr
    exact ⟨hr.1, hr.2.2⟩

theorem Red_succ_node (k : Nat) (fi : Option Nat) (cs : List (Int × EDD)) :
    Red S (k+1) fi (.node (k+1) cs) = true ↔
      edgeOK S (k+1) fi (.node (k+1) cs) = true ∧
      evLocalOK isInf dflt (S.size (k+1)) (S.mode (k+1) == .red) cs = true ∧
      (∀ i, i < cs.length → Red S k (some i) (cs.getD i dflt).2 = true) := by
  rw [Red]
  simp only [if_true, Bool.and_eq_true, List.all_eq_true, List.mem_range]

theorem Red_node_local {S : Shape} {k : Nat} {fi : Option Nat} {cs : List (Int × EDD)}
    (h : Red S (k+1) fi (.node (k+1) cs) = true) :
    cs.length = S.size (k+1) ∧
    (∀ e, e ∈ cs → (e.2 = .inf → e.1 = 0) ∧ (e.2 ≠ .inf → 0 ≤ e.1)) ∧
    (∃ e, e ∈ cs ∧ e.2 ≠ .inf ∧ e.1 = 0) ∧
    (S.mode (k+1) = .red → ¬ ∀ e, e ∈ cs → e = cs.headD dflt) := by
  have hl := (evLocalOK_iff _ _ _ _ _).mp ((Red_succ_node S k fi cs).mp h).2.1
  simpa only [isInf_iff, isInf_false_iff, beq_iff_eq] using hl

theorem isSingleton_node_iff (p i : Nat) (cs : List (Int × EDD)) :
    isSingleton p i (.node p cs) = true ↔
      i < cs.length ∧
      (∀ j, j < cs.length → j = i ∨ (cs.getD j dflt).2 = .inf) ∧
      (cs.getD i dflt).2 ≠ .inf := by
  simp only [isSingleton, beq_self_eq_true, Bool.true_and, evSingleton_iff, isInf_iff,
    isInf_false_iff]

theorem isAnySingleton_of_isSingleton (p i : Nat) (d : EDD)
    (h : isSingleton p i d = true) : isAnySingleton p d = true := by
  cases d with
  | inf | omega => simp [isSingleton] at h
  | node q cs =>
    simp only [isSingleton, Bool.and_eq_true] at h
    simp only [isAnySingleton, Bool.and_eq_true]
    exact ⟨h.1, evAnySingleton_of _ _ i cs h.2⟩

theorem edgeOK_none_some (k i : Nat) (d : EDD)
    (h : edgeOK S k none d = true) : edgeOK S k (some i) d = true := by
  unfold edgeOK at h ⊢
  split
  · rfl
  · rename_i hm; rw [hm] at h; exact h
  · rename_i hm; rw [hm] at h
    simp only [Bool.not_eq_eq_eq_not, Bool.not_true] at h ⊢
    cases hs : isSingleton k i d with
    | false => rfl
    | true => rw [isAnySingleton_of_isSingleton k i d hs] at h; exact absurd h (by simp)

theorem edgeOK_inf (k : Nat) (fi : Option Nat) :
    edgeOK S k fi .inf = true := by
  unfold edgeOK
  split
  · rfl
  · simp
  · cases fi <;> simp [isSingleton, isAnySingleton]

theorem edgeOK_none_skip (k : Nat) (fi : Option Nat) {d : EDD}
    (hm : S.mode (k+1) = .none) (hd : d.isNodeAt (k+1) = false)
    (h : edgeOK S (k+1) fi d = true) : d = .inf := by
  unfold edgeOK at h
  rw [hm] at h
  simpa [hd] using h

theorem edgeOK_ident_some (k i : Nat) {d : EDD}
    (hm : S.mode k = .ident) (h : edgeOK S k (some i) d = true) :
    isSingleton k i d = false := by
  unfold edgeOK at h
  rw [hm] at h
  simpa using h

theorem edgeOK_not_ident (k : Nat) (fi fj : Option Nat) {d : EDD}
    (hm : S.mode k ≠ .ident) : edgeOK S k fi d = edgeOK S k fj d := by
  unfold edgeOK
  split
  · rfl
  · rfl
  · rename_i h; exact absurd h hm

theorem Red_none_some (k i : Nat) (d : EDD)
    (h : Red S k none d = true) : Red S k (some i) d = true := by
  cases k with
  | zero =>
    rcases (Red_zero_iff S none d).mp h with rfl | rfl <;> rfl
  | succ k =>
    -- the arriving index only enters through the `edgeOK` conjunct
    cases d <;> rw [Red, Bool.and_eq_true] at h ⊢ <;>
      exact ⟨edgeOK_none_some S (k+1) i _ h.1, h.2⟩

theorem Red_inf (k : Nat) (fi : Option Nat) : Red S k fi .inf = true := by
  induction k generalizing fi with
  | zero => rfl
  | succ k ih =>
    rw [Red, Bool.and_eq_true]
    exact ⟨edgeOK_inf S (k+1) fi, ih none⟩

theorem RedEdge_iff (k : Nat) (fi : Option Nat) (e : Int × EDD) :
    RedEdge S k fi e = true ↔ Red S k fi e.2 = true ∧ (e.2 = .inf → e.1 = 0) := by
  simp only [RedEdge, Bool.and_eq_true, Bool.or_eq_true, Bool.not_eq_true', ← Bool.not_eq_true,
    beq_iff_eq, ← Decidable.imp_iff_not_or, isInf_iff]

theorem RedEdge_child {S : Shape} {k : Nat} {fi : Option Nat} {cs : List (Int × EDD)}
    (h : Red S (k+1) fi (.node (k+1) cs) = true) {j : Nat} (hj : j < cs.length) :
    RedEdge S k (some j) (cs.getD j dflt) = true :=
  (RedEdge_iff S k (some j) _).mpr ⟨((Red_succ_node S k fi cs).mp h).2.2 j hj,
    ((Red_node_local h).2.1 _ (getD_mem cs j dflt hj)).1⟩

theorem eval_nonneg {S : Shape} {k : Nat} {fi : Option Nat} {d : EDD} {a : Assign} {n : Int}
    (hr : Red S k fi d = true) (he : eval S k d a = some n) : 0 ≤ n := by
  induction k generalizing fi d n with
  | zero =>
    rcases (Red_zero_iff S fi d).mp hr with rfl | rfl
    · cases he
    · simp only [eval, Option.some.injEq] at he; omega
  | succ k ih =>
    rcases storedAt_cases (k+1) d with ⟨cs, rfl⟩ | hd
    · obtain ⟨_, hloc, _, _⟩ := Red_node_local hr
      obtain ⟨_, _, hch⟩ := (Red_succ_node S k fi cs).mp hr
      rw [eval_succ_node] at he
      by_cases hj : a (k+1) < cs.length
      · have hmem := getD_mem cs (a (k+1)) dflt hj
        unfold evalEdge at he
        cases hev : eval S k (cs.getD (a (k+1)) dflt).2 a with
        | none => rw [hev] at he; cases he
        | some m =>
          rw [hev] at he
          simp only [Option.map_some, Option.some.injEq] at he
          have hm : 0 ≤ m := ih (hch _ hj) hev
          have hne : (cs.getD (a (k+1)) dflt).2 ≠ .inf := by
            intro hi; rw [hi, eval_inf] at hev; cases hev
          have := (hloc _ hmem).2 hne
          omega
      · have : cs.getD (a (k+1)) dflt = dflt := by
          rw [List.getD_eq_getElem?_getD, List.getElem?_eq_none (Nat.le_of_not_lt hj)]; rfl
        rw [this, evalEdge_dflt] at he
        cases he
    · rw [eval_succ_skip S k a hd] at he
      split at he
      · cases he
      · exact ih (Red_succ_skip S k fi hd hr).2 he

theorem eval_attain {S : Shape} (hS : S.WF) {k : Nat} {fi : Option Nat} {d : EDD} {a : Assign}
    (hr : Red S k fi d = true) (hne : d ≠ .inf) (ha : Assign.Valid S a) :
    ∃ a', Assign.Valid S a' ∧ (∀ q, k < q → a' q = a q) ∧ eval S k d a' = some 0 := by
  induction k generalizing fi d a with
  | zero =>
    rcases (Red_zero_iff S fi d).mp hr with rfl | rfl
    · exact absurd rfl hne
    · exact ⟨a, ha, fun _ _ => rfl, rfl⟩
  | succ k ih =>
    rcases storedAt_cases (k+1) d with ⟨cs, rfl⟩ | hd
    · obtain ⟨hlen, _, ⟨e, he, hei, hev⟩, _⟩ := Red_node_local hr
      obtain ⟨_, _, hch⟩ := (Red_succ_node S k fi cs).mp hr
      obtain ⟨j, hj, rfl⟩ := List.getElem_of_mem he
      have hget : cs.getD j dflt = cs[j] := by
        rw [List.getD_eq_getElem?_getD, List.getElem?_eq_getElem hj]; rfl
      have ha1 : Assign.Valid S (Assign.upd a (k+1) j) := ha.upd (by rw [← hlen]; exact hj)
      have hrj := hch j hj
      rw [hget] at hrj
      obtain ⟨a', ha', hsame, hz⟩ := ih hrj hei ha1
      refine ⟨a', ha', ?_, ?_⟩
      · intro q hq
        rw [hsame q (Nat.lt_of_succ_lt hq), Assign.upd_other a j (Nat.ne_of_gt hq)]
      · have hk1 : a' (k+1) = j := by
          rw [hsame (k+1) (Nat.lt_succ_self k), Assign.upd_same]
        rw [eval_succ_node, hk1, hget]
        unfold evalEdge
        rw [hz, hev]; rfl
    · obtain ⟨_, hr'⟩ := Red_succ_skip S k fi hd hr
      -- first let the skip of `k+1` read through, then descend
      obtain ⟨a1, ha1, hs1, hne1⟩ := DD.exists_through hS k ha
      obtain ⟨a', ha', hsame, hz⟩ := ih hr' hne ha1
      refine ⟨a', ha', fun q hq => by
        rw [hsame q (Nat.lt_of_succ_lt hq), hs1 q (.inl (Nat.ne_of_gt hq))], ?_⟩
      rw [eval_succ_skip S k a' hd, hsame (k+1) (Nat.lt_succ_self k),
        hsame (k+2) (Nat.lt_succ_of_lt (Nat.lt_succ_self k)), if_neg hne1]
      exact hz

def Agree (S : Shape) (k : Nat) (fi : Option Nat) (d1 d2 : EDD) : Prop :=
  ∀ a, Assign.Valid S a → (∀ i, fi = some i → a (k+1) = i) → eval S k d1 a = eval S k d2 a

def AgreeE (S : Shape) (k : Nat) (fi : Option Nat) (e1 e2 : Int × EDD) : Prop :=
  ∀ a, Assign.Valid S a → (∀ i, fi = some i → a (k+1) = i) →
    evalEdge S k e1 a = evalEdge S k e2 a

theorem Agree.symm {S : Shape} {k : Nat} {fi : Option Nat} {d1 d2 : EDD}
    (h : Agree S k fi d1 d2) : Agree S k fi d2 d1 :=
  fun a ha hf => (h a ha hf).symm

theorem AgreeE.symm {S : Shape} {k : Nat} {fi : Option Nat} {e1 e2 : Int × EDD}
    (h : AgreeE S k fi e1 e2) : AgreeE S k fi e2 e1 :=
  fun a ha hf => (h a ha hf).symm

/-- Canonicity of targets at position `k` (the induction statement). -/
def CanonAt (S : Shape) (k : Nat) : Prop :=
  ∀ (fi : Option Nat) (d1 d2 : EDD), (∀ i, fi = some i → i < S.size (k+1)) →
    Red S k fi d1 = true → Red S k fi d2 = true → Agree S k fi d1 d2 → d1 = d2

def CanonEAt (S : Shape) (k : Nat) : Prop :=
  ∀ (fi : Option Nat) (e1 e2 : Int × EDD), (∀ i, fi = some i → i < S.size (k+1)) →
    RedEdge S k fi e1 = true → RedEdge S k fi e2 = true → AgreeE S k fi e1 e2 → e1 = e2

theorem edge_min {S : Shape} (hS : S.WF) {k : Nat} {fi : Option Nat} {e : Int × EDD}
    (hfi : ∀ i, fi = some i → i < S.size (k+1))
    (hr : Red S k fi e.2 = true) (hne : e.2 ≠ .inf) :
    (∃ a, Assign.Valid S a ∧ (∀ i, fi = some i → a (k+1) = i) ∧ evalEdge S k e a = some e.1) ∧
    (∀ a n, evalEdge S k e a = some n → e.1 ≤ n) := by
  constructor
  · -- the target attains 0 on an assignment that respects the arriving index
    obtain ⟨a0, ha0, hf0, _⟩ :=
      DD.exists_fix S (k+1) fi hfi (fun _ => 0) (Assign.valid_const_zero hS)
    obtain ⟨a, ha, hsame, hz⟩ := eval_attain hS hr hne ha0
    refine ⟨a, ha, fun i hi => by rw [hsame (k+1) (Nat.lt_succ_self k)]; exact hf0 i hi, ?_⟩
    unfold evalEdge
    rw [hz]; simp
  · intro a n he
    unfold evalEdge at he
    cases hev : eval S k e.2 a with
    | none => rw [hev] at he; cases he
    | some m =>
      rw [hev] at he
      simp only [Option.map_some, Option.some.injEq] at he
      have := eval_nonneg hr hev
      omega

theorem edge_inf_of_agree {S : Shape} (hS : S.WF) {k : Nat} {fi : Option Nat} {e : Int × EDD}
    (hfi : ∀ i, fi = some i → i < S.size (k+1))
    (hr : RedEdge S k fi e = true)
    (hz : ∀ a, Assign.Valid S a → (∀ i, fi = some i → a (k+1) = i) → evalEdge S k e a = none) :
    e = (0, .inf) := by
  obtain ⟨hr1, hr2⟩ := (RedEdge_iff S k fi e).mp hr
  by_cases hne : e.2 = .inf
  · exact Prod.ext (hr2 hne) hne
  · obtain ⟨⟨a, ha, hf, he⟩, _⟩ := edge_min hS hfi hr1 hne
    rw [hz a ha hf] at he; cases he

theorem edge_eq_of_inf {S : Shape} (hS : S.WF) {k : Nat} {fi : Option Nat} {e1 e2 : Int × EDD}
    (hfi : ∀ i, fi = some i → i < S.size (k+1))
    (h1 : RedEdge S k fi e1 = true) (h2 : RedEdge S k fi e2 = true)
    (hA : AgreeE S k fi e1 e2) (hi : e1.2 = .inf) : e1 = e2 := by
  have e1eq : e1 = (0, .inf) := Prod.ext (((RedEdge_iff S k fi e1).mp h1).2 hi) hi
  rw [e1eq] at hA ⊢
  refine (edge_inf_of_agree hS hfi h2 fun a ha hf => ?_).symm
  rw [← hA a ha hf, evalEdge_inf]

theorem canonE_of_canon (hS : S.WF) (k : Nat) (hC : CanonAt S k) : CanonEAt S k := by
  intro fi e1 e2 hfi h1 h2 hA
  have hr1 := ((RedEdge_iff S k fi e1).mp h1).1
  have hr2 := ((RedEdge_iff S k fi e2).mp h2).1
  by_cases hi1 : e1.2 = .inf
  · exact edge_eq_of_inf hS hfi h1 h2 hA hi1
  by_cases hi2 : e2.2 = .inf
  · exact (edge_eq_of_inf hS hfi h2 h1 hA.symm hi2).symm
  -- both values are the minimum of the common denotation
  obtain ⟨⟨a1, ha1, hf1, he1⟩, hmin1⟩ := edge_min hS hfi hr1 hi1
  obtain ⟨⟨a2, ha2, hf2, he2⟩, hmin2⟩ := edge_min hS hfi hr2 hi2
  have hle1 : e2.1 ≤ e1.1 := hmin2 a1 e1.1 (by rw [← hA a1 ha1 hf1]; exact he1)
  have hle2 : e1.1 ≤ e2.1 := hmin1 a2 e2.1 (by rw [hA a2 ha2 hf2]; exact he2)
  have hv : e1.1 = e2.1 := by omega
  refine Prod.ext hv (hC fi e1.2 e2.2 hfi hr1 hr2 fun a ha hf => ?_)
  have := hA a ha hf
  unfold evalEdge at this
  rw [hv] at this
  exact opt_map_add_inj this

end

theorem inf_of_canon (S : Shape) (k : Nat) (hC : CanonAt S k)
    (fi : Option Nat) (d : EDD) (hfi : ∀ i, fi = some i → i < S.size (k+1))
    (hr : Red S k fi d = true)
    (hz : ∀ a, Assign.Valid S a → (∀ i, fi = some i → a (k+1) = i) → eval S k d a = none) :
    d = .inf := by
  apply hC fi d .inf hfi hr (Red_inf S k fi)
  intro a ha hf
  rw [hz a ha hf, eval_inf]

section step
variable {S : Shape} {k : Nat} {fi : Option Nat} {cs : List (Int × EDD)} {d1 d2 : EDD}

/-- The child edge selected by `a` of a node stored at `k+1` denotes, on `a`, what the node
    (hence `d2`) denotes on any admissible `a'` that coincides with `a` up to `k+1`. -/
theorem agree_child (hA : Agree S (k+1) fi (.node (k+1) cs) d2) {a a' : Assign}
    (ha' : Assign.Valid S a') (hf' : ∀ i, fi = some i → a' (k+2) = i)
    (hsame : ∀ p, p ≤ k+1 → a' p = a p) :
    evalEdge S k (cs.getD (a (k+1)) dflt) a = eval S (k+1) d2 a' := by
  have hk1 := hsame (k+1) (Nat.le_refl _)
  rw [← hA a' ha' hf', eval_succ_node, hk1]
  exact evalEdge_congr S k _ a a' (fun p hp => (hsame p (Nat.le_succ_of_le hp)).symm)
    (fun _ => hk1.symm)

variable (hfi : ∀ i, fi = some i → i < S.size (k+2))
include hfi

theorem agree_child_of (hA : Agree S (k+1) fi (.node (k+1) cs) d2) {a : Assign}
    (ha : Assign.Valid S a) :
    ∃ a', Assign.Valid S a' ∧ (∀ q, q ≤ k+1 → a' q = a q) ∧
      evalEdge S k (cs.getD (a (k+1)) dflt) a = eval S (k+1) d2 a' := by
  obtain ⟨a', ha', hf', hsame⟩ := DD.exists_fix S (k+2) fi hfi a ha
  have hlow : ∀ q, q ≤ k+1 → a' q = a q :=
    fun q hq => hsame q (Nat.ne_of_lt (Nat.lt_succ_of_le hq))
  exact ⟨a', ha', hlow, agree_child hA ha' hf' hlow⟩

theorem agree_children {cs1 cs2 : List (Int × EDD)} (j : Nat)
    (hA : Agree S (k+1) fi (.node (k+1) cs1) (.node (k+1) cs2)) :
    AgreeE S k (some j) (cs1.getD j dflt) (cs2.getD j dflt) := by
  intro a ha hf
  obtain rfl : a (k+1) = j := hf j rfl
  obtain ⟨a', _, hsame, h⟩ := agree_child_of hfi hA ha
  have hk1 := hsame (k+1) (Nat.le_refl _)
  rw [h, eval_succ_node, hk1]
  exact evalEdge_congr S k _ a' a (fun p hp => hsame p (Nat.le_succ_of_le hp)) (fun _ => hk1)

theorem agree_skip (hS : S.WF) (h1 : d1.isNodeAt (k+1) = false) (h2 : d2.isNodeAt (k+1) = false)
    (hA : Agree S (k+1) fi d1 d2) : Agree S k none d1 d2 := by
  intro a ha _
  obtain ⟨a', ha', hf', hne, hlow, hk⟩ := DD.skip_fix hfi hS ha
  -- for targets not stored at `k+1`, reading from `k+1` on `a'` is reading from `k` on `a`
  have he : ∀ d : EDD, d.isNodeAt (k+1) = false → eval S (k+1) d a' = eval S k d a := by
    intro d hd
    rw [eval_succ_skip S k a' hd, if_neg hne]
    exact eval_congr S k d a' a hlow hk
  rw [← he d1 h1, ← he d2 h2]
  exact hA a' ha' hf'

/-- A reduced node stored at `k+1` never denotes the same function as a reduced
    target that skips `k+1`. -/
theorem canon_mixed (hS : S.WF) (hC : CanonAt S k)
    (h1 : Red S (k+1) fi (.node (k+1) cs) = true) (hd2 : d2.isNodeAt (k+1) = false)
    (h2 : Red S (k+1) fi d2 = true) (hA : Agree S (k+1) fi (.node (k+1) cs) d2) : False := by
  have hCE := canonE_of_canon S hS k hC
  have hE := ((Red_succ_node S k fi cs).mp h1).1
  obtain ⟨hlen, _, hnz, hred⟩ := Red_node_local h1
  obtain ⟨hE2, hR2⟩ := Red_succ_skip S k fi hd2 h2
  -- a child edge that denotes ∞ wherever it is read has an ∞ target; not all have
  have hinf : ∀ j, j < cs.length →
      (∀ a, Assign.Valid S a → a (k+1) = j → evalEdge S k (cs.getD j dflt) a = none) →
      (cs.getD j dflt).2 = .inf := by
    intro j hj hz
    rw [edge_inf_of_agree hS (DD.lt_of_some_eq (hlen ▸ hj)) (RedEdge_child h1 hj)
      (fun a ha hf => hz a ha (hf j rfl))]
  have hnotall : ¬ ∀ j, j < cs.length → (cs.getD j dflt).2 = .inf := by
    intro hall
    obtain ⟨e, he, hne, _⟩ := hnz
    obtain ⟨j, hj, rfl⟩ := List.getElem_of_mem he
    have := hall j hj
    rw [List.getD_eq_getElem?_getD, List.getElem?_eq_getElem hj] at this
    exact hne this
  cases hm : S.mode (k+1) with
  | red =>
    -- every child edge equals `(0, d2)`: the node is redundant
    have hall : ∀ j, j < cs.length → cs.getD j dflt = (0, d2) := by
      intro j hj
      apply hCE (some j) _ _ (DD.lt_of_some_eq (hlen ▸ hj)) (RedEdge_child h1 hj)
      · exact (RedEdge_iff S k (some j) _).mpr ⟨Red_none_some S k j d2 hR2, fun _ => rfl⟩
      intro a ha hf
      obtain ⟨a', _, hsame, h⟩ := agree_child_of hfi hA ha
      have hne : ¬ (S.mode (k+1) = .ident ∧ a' (k+1) ≠ a' (k+2)) := by
        intro h; rw [hm] at h; cases h.1
      rw [← hf j rfl, h, eval_succ_skip S k a' hd2, if_neg hne, evalEdge_zero]
      exact eval_congr S k d2 a' a (fun p hp => hsame p (Nat.le_succ_of_le hp))
        (fun _ => hsame (k+1) (Nat.le_refl _))
    apply hred hm
    intro c hc
    rw [DD.list_headD_eq_getD, hall 0 (List.length_pos_of_mem hc)]
    exact DD.list_all_eq_of_getD cs _ (0, d2) hall c hc
  | none =>
    obtain rfl : d2 = .inf := edgeOK_none_skip S k fi hm hd2 hE2
    refine hnotall fun j hj => hinf j hj fun a ha hj' => ?_
    obtain ⟨a', _, _, h⟩ := agree_child_of hfi hA ha
    rw [← hj', h, eval_inf]
  | ident =>
    obtain ⟨_, htop, _, hsz⟩ := hS.ident_below_red (k+1) hm
    -- child `j` reads as ∞ as soon as position `k+2` may hold a value `v ≠ j`
    have hz : ∀ j v, j < cs.length → v < S.size (k+2) → v ≠ j →
        (∀ i, fi = some i → v = i) → (cs.getD j dflt).2 = .inf := by
      intro j v hj hv hvj hvf
      refine hinf j hj fun a ha hj' => ?_
      have e1 : Assign.upd a (k+2) v (k+1) = j := by
        rw [Assign.upd_other a v (Nat.ne_of_lt (Nat.lt_succ_self _))]; exact hj'
      have hpos : S.mode (k+1) = .ident ∧
          Assign.upd a (k+2) v (k+1) ≠ Assign.upd a (k+2) v (k+2) := by
        refine ⟨hm, ?_⟩
        rw [e1, Assign.upd_same]; exact fun h => hvj h.symm
      rw [← hj', agree_child hA (ha.upd hv)
        (fun i hi => by rw [Assign.upd_same]; exact hvf i hi)
        (fun p hp => Assign.upd_other a v (Nat.ne_of_lt (Nat.lt_succ_of_le hp))),
        eval_succ_skip S k _ hd2, if_pos hpos]
    have hsz2 : 2 ≤ S.size (k+2) := hS.size_ge (k+2) (Nat.le_add_left 1 (k+1)) htop
    cases fi with
    | none =>
      refine hnotall fun j hj => ?_
      by_cases hj0 : j = 0
      · exact hz j 1 hj hsz2 (fun h => Nat.one_ne_zero (h.trans hj0)) (fun i h => nomatch h)
      · exact hz j 0 hj (Nat.lt_of_succ_lt hsz2) (fun h => hj0 h.symm) (fun i h => nomatch h)
    | some i =>
      -- only entry `i` may be non-∞: an `i`-singleton below index `i`
      have hothers : ∀ j, j < cs.length → j = i ∨ (cs.getD j dflt).2 = .inf := by
        intro j hj
        by_cases hji : j = i
        · exact .inl hji
        · exact .inr (hz j i hj (hfi i rfl) (fun h => hji h.symm) (fun i' h => by cases h; rfl))
      have hsing : isSingleton (k+1) i (.node (k+1) cs) = true := by
        rw [isSingleton_node_iff]
        refine ⟨by rw [hlen, ← hsz]; exact hfi i rfl, hothers, fun hiz => hnotall fun j hj => ?_⟩
        rcases hothers j hj with rfl | h
        · exact hiz
        · exact h
      rw [edgeOK_ident_some S (k+1) i hm hE] at hsing
      cases hsing

end step

theorem canonAt (S : Shape) (hS : S.WF) : ∀ k, CanonAt S k
  | 0 => by
    intro fi d1 d2 hfi h1 h2 hA
    obtain ⟨a, ha, hf, _⟩ := DD.exists_fix S 1 fi hfi (fun _ => 0) (Assign.valid_const_zero hS)
    have := hA a ha hf
    rcases (Red_zero_iff S fi d1).mp h1 with rfl | rfl <;>
      rcases (Red_zero_iff S fi d2).mp h2 with rfl | rfl
    · rfl
    · simp [eval] at this
    · simp [eval] at this
    · rfl
  | k+1 => by
    have hC := canonAt S hS k
    intro fi d1 d2 hfi h1 h2 hA
    rcases storedAt_cases (k+1) d1 with ⟨cs1, rfl⟩ | hd1 <;>
      rcases storedAt_cases (k+1) d2 with ⟨cs2, rfl⟩ | hd2
    · have hlen1 := (Red_node_local h1).1
      have hl : cs1.length = cs2.length := by rw [hlen1, (Red_node_local h2).1]
      congr 1
      apply DD.list_ext_getD cs1 cs2 dflt hl
      exact fun j hj => canonE_of_canon S hS k hC (some j) _ _ (DD.lt_of_some_eq (hlen1 ▸ hj))
        (RedEdge_child h1 hj) (RedEdge_child h2 (hl ▸ hj)) (agree_children hfi j hA)
    · exact (canon_mixed hfi hS hC h1 hd2 h2 hA).elim
    · exact (canon_mixed hfi hS hC h2 hd1 h1 hA.symm).elim
    · exact hC none d1 d2 (fun i h => nomatch h)
        (Red_succ_skip S k fi hd1 h1).2 (Red_succ_skip S k fi hd2 h2).2
        (agree_skip hfi hS hd1 hd2 hA)

/-- Canonicity of targets, general form. -/
theorem canon_tree_gen (S : Shape) (hS : S.WF) (k : Nat) (fi : Option Nat) (d1 d2 : EDD)
    (hfi : ∀ i, fi = some i → i < S.size (k+1))
    (h1 : Red S k fi d1 = true) (h2 : Red S k fi d2 = true)
    (hA : ∀ a, Assign.Valid S a → (∀ i, fi = some i → a (k+1) = i) →
      eval S k d1 a = eval S k d2 a) : d1 = d2 :=
  canonAt S hS k fi d1 d2 hfi h1 h2 hA

/-- Canonicity of edges, general form: two edges reduced for position `k` (arriving
    through index `fi`) with the same denotation are equal. -/
theorem canon_gen (S : Shape) (hS : S.WF) (k : Nat) (fi : Option Nat) (e1 e2 : Int × EDD)
    (hfi : ∀ i, fi = some i → i < S.size (k+1))
    (h1 : RedEdge S k fi e1 = true) (h2 : RedEdge S k fi e2 = true)
    (hA : ∀ a, Assign.Valid S a → (∀ i, fi = some i → a (k+1) = i) →
      evalEdge S k e1 a = evalEdge S k e2 a) : e1 = e2 :=
  canonE_of_canon S hS k (canonAt S hS k) fi e1 e2 hfi h1 h2 hA

/-- Canonicity of EV+ : reduced edges are equal iff they denote the same function. -/
theorem canon (S : Shape) (hS : S.WF) (e1 e2 : Int × EDD)
    (h1 : RedEdge S S.top none e1 = true) (h2 : RedEdge S S.top none e2 = true) :
    (∀ a, Assign.Valid S a → evalEdge S S.top e1 a = evalEdge S S.top e2 a) ↔ e1 = e2 := by
  constructor
  · exact fun h => canon_gen S hS S.top none e1 e2 (fun _ => nofun) h1 h2 fun a ha _ => h a ha
  · intro h a _; rw [h]

/-- The value of a reduced edge is the minimum of the function it denotes
    (so it is determined by the denotation). -/
theorem edge_value_is_min (S : Shape) (hS : S.WF) (e : Int × EDD)
    (h : RedEdge S S.top none e = true) (hne : e.2 ≠ .inf) :
    (∃ a, Assign.Valid S a ∧ evalEdge S S.top e a = some e.1) ∧
    (∀ a n, evalEdge S S.top e a = some n → e.1 ≤ n) := by
  obtain ⟨⟨a, ha, _, he⟩, hmin⟩ := edge_min (fi := none) hS (fun i h => nomatch h)
    ((RedEdge_iff S S.top none e).mp h).1 hne
  exact ⟨⟨a, ha, he⟩, hmin⟩

/-- The only reduced edge denoting ∞ everywhere is `(0, inf)`. -/
theorem inf_unique (S : Shape) (hS : S.WF) (e : Int × EDD)
    (h : RedEdge S S.top none e = true)
    (hz : ∀ a, Assign.Valid S a → evalEdge S S.top e a = none) : e = (0, .inf) :=
  edge_inf_of_agree (fi := none) hS (fun _ h => nomatch h) h (fun a ha _ => hz a ha)

end EDD
end Meddly
