/-
  C10, Layer 0: the scalar conversion performed by `COPY` between two forest
  kinds, and the factory's support table (`COPY_factory::build_new`,
  src/operations/copy.cc).

  How the code converts (read off copy.cc / terminal.h / edge_value.h):
    * the source value is first read into a C variable whose type is chosen by
      the TARGET: `bool` for MT-boolean targets, `int` for MT-integer and EV+
      (`long` for EV+ when the source is edge valued), `float` for MT-real and
      EV* targets (`terminal::getValue<T>` = `T(t_boolean|t_integer|t_real)`,
      `edge_value::copyInto<T>` = `T(ev_long|ev_float)`); these are plain C
      conversions:  bool→0/1, int→real exactly (|n| < 2^24), real→int by
      TRUNCATION TOWARDS ZERO, non-zero→true;
    * it is then stored with `handleForValue` / `getEdgeForValue`, which for an
      EV+ target always yields a FINITE value (a multi-terminal 0 becomes the
      EV+ value 0, not +infinity) and for an EV* target maps 0.0 to the
      transparent terminal (value 0).
    * +infinity of an EV+ / index-set source survives only through
      `copy_inforest` and `copy_EV_fast` (target EV+); the push-down copy
      `copy_EV<EdgeOp>` has no case for the terminal OMEGA_INFINITY (the source
      says `// if (OMEGA_INFINITY == ap) then what???`) — see `CopyImpl.keepsInf` and the
      FINDINGS in docs/NOTES_copy.md.  `conv` maps +infinity to +infinity for every target;
      for a target that cannot hold it the pair is outside `convExact`.
-/
import MeddlyModel.Basic.Val

namespace Meddly
namespace Spec

inductive Range where
  | bool | int | real
  deriving DecidableEq, Repr, Inhabited

inductive Lab where
  | mt | evp | evt | idx
  deriving DecidableEq, Repr, Inhabited

inductive Rule where
  | fully | quasi | ident
  deriving DecidableEq, Repr, Inhabited

/-- A forest kind: set/relation, range type, edge labeling, reduction rule. -/
structure Kind where
  rel : Bool
  range : Range
  lab : Lab
  rule : Rule
  deriving DecidableEq, Repr, Inhabited

namespace Kind

/-- the kinds `forest::create` accepts (forest.cc): EV+ integer only, index sets
    integer sets only, EV* real relations only; identity reduction for relations only -/
def legal (k : Kind) : Bool :=
  (k.rule != .ident || k.rel) &&
  match k.lab with
  | .mt => true
  | .evp => k.range == .int
  | .idx => k.range == .int && !k.rel
  | .evt => k.range == .real && k.rel

/-- transparent value of the kind -/
def zero (k : Kind) : Val :=
  match k.lab with
  | .evp | .idx => .inf
  | _ => match k.range with
    | .bool => .b false
    | .int => .i 0
    | .real => .r 0 0

def ofStrings (k : Bool × String × String × String) : Option Kind := do
  let range ← match k.2.1 with
    | "bool" => some Range.bool | "int" => some Range.int | "real" => some Range.real | _ => none
  let lab ← match k.2.2.1 with
    | "mt" => some Lab.mt | "evp" => some Lab.evp | "evt" => some Lab.evt | "idx" => some Lab.idx | _ => none
  let rule ← match k.2.2.2 with
    | "fully" => some Rule.fully | "quasi" => some Rule.quasi | "ident" => some Rule.ident | _ => none
  pure { rel := k.1, range, lab, rule }

/-- every legal kind (25 of them: 10 for sets, 15 for relations) -/
def all : List Kind := Id.run do
  let mut out := []
  for rel in [false, true] do
    for range in [Range.bool, .int, .real] do
      for lab in [Lab.mt, .evp, .evt, .idx] do
        for rule in [Rule.fully, .quasi, .ident] do
          let k : Kind := { rel, range, lab, rule }
          if k.legal then out := out ++ [k]
  return out

end Kind

/-- which implementation `COPY_factory::build_new` selects -/
inductive CopyImpl where
  | inforest          -- same forest: link the node
  | mt                -- `copy_MT`: multi-terminal source, any target
  | evFast            -- `copy_EV_fast`: EV+/index set → EV+, EV* → EV*
  | evPushPlus        -- `copy_EV<EdgeOp_plus>`: EV+/index set → MT, EV*, index set
  | evPushTimes       -- `copy_EV<EdgeOp_times>`: EV* → MT, EV+
  deriving DecidableEq, Repr, Inhabited

/-- `COPY_factory::build_new(arg, res)`, branch by branch; `same` = the two
    forests are the same object.  The error is the code the call raises. -/
def copyImpl (ka kb : Kind) (same : Bool) : Except String CopyImpl :=
  if ka.rel != kb.rel then .error "TYPE_MISMATCH"
  else if same then .ok .inforest
  else if ka.lab == .mt then .ok .mt
  else if ((ka.lab == .evp || ka.lab == .idx) && kb.lab == .evp) || (ka.lab == .evt && kb.lab == .evt) then
    match ka.range with
    | .int => .ok .evFast
    | .real => if kb.range == .real then .ok .evFast else .error "TYPE_MISMATCH"
    | .bool => .error "TYPE_MISMATCH"
  else if ka.lab == .evp || ka.lab == .idx then
    match ka.range with
    | .bool => .error "TYPE_MISMATCH"
    | _ => .ok .evPushPlus
  else
    match ka.range with
    | .bool => .error "TYPE_MISMATCH"
    | _ => .ok .evPushTimes

/-- THE SUPPORT TABLE: is `apply(COPY, a, b)` accepted for `a` in a forest of
    kind `ka` and `b` in a distinct forest of kind `kb` (same domain)? -/
def copySupported (ka kb : Kind) : Bool :=
  match copyImpl ka kb false with
  | .ok _ => true
  | .error _ => false

/-- does +infinity of the source survive this implementation? -/
def CopyImpl.keepsInf : CopyImpl → Bool
  | .inforest | .evFast => true
  | _ => false

/-- `n / 2^e` truncated towards zero (C conversion real → integer) -/
def truncReal (n e : Int) : Int :=
  if e ≤ 0 then n * 2 ^ (-e).toNat
  else if 0 ≤ n then n / 2 ^ e.toNat else -((-n) / 2 ^ e.toNat)

/-- C conversion to `bool` -/
def toBoolC : Val → Val
  | .b v => .b v
  | .i v => .b (v != 0)
  | .r n _ => .b (n != 0)
  | .inf => .inf

/-- C conversion to `int` / `long` -/
def toIntC : Val → Val
  | .b v => .i (if v then 1 else 0)
  | .i v => .i v
  | .r n e => .i (truncReal n e)
  | .inf => .inf

/-- C conversion to `float` (exact on the model's dyadic reals; the harness keeps |n| < 2^24) -/
def toRealC : Val → Val
  | .b v => .r (if v then 1 else 0) 0
  | .i v => .r v 0
  | .r n e => .r n e
  | .inf => .inf

/-- conversion into a target of the given range type -/
def convTo : Range → Val → Val
  | .bool => toBoolC
  | .int => toIntC
  | .real => toRealC

/-- The scalar conversion of `COPY` from kind `ka` to kind `kb`: it depends on
    the target's range type only (the source's type is carried by the value);
    +infinity is kept (an EV+ target holds it; for other targets see `convExact`). -/
def conv (_ka kb : Kind) (v : Val) : Val := convTo kb.range v

/-- is `v` a value a function of kind `k` can take? -/
def hasKind (k : Kind) : Val → Bool
  | .b _ => k.range == .bool
  | .i _ => k.range == .int
  | .r _ _ => k.range == .real
  | .inf => k.lab == .evp || k.lab == .idx

/-- Where the library's copy IS the scalar conversion `conv`: the value is not
    +infinity, or the selected implementation keeps +infinity. (Outside: F-C10-1.) -/
def convExact (ka kb : Kind) (same : Bool) (v : Val) : Bool :=
  v != .inf ||
  match copyImpl ka kb same with
  | .ok impl => impl.keepsInf
  | .error _ => false

/-- pairs for which copying there and back loses nothing, for every value of the source kind -/
def lossless (ka kb : Kind) : Bool :=
  match ka.range, kb.range with
  | .bool, _ => true
  | .int, .int => true
  | .int, .real => true
  | .real, .real => true
  | _, _ => false

/-- `forest::create` ties the range type to the labeling: EV+ and index sets are integer, EV* is real. -/
theorem Kind.legal_range {r : Bool} {g : Range} {l : Lab} {u : Rule} (h : Kind.legal ⟨r, g, l, u⟩ = true) :
    ((l = .evp ∨ l = .idx) → g = .int) ∧ (l = .evt → g = .real) := by
  cases l <;> simp_all [Kind.legal]

/-- The factory accepts exactly the pairs of the same set/relation shape: for legal kinds in
    two distinct forests over one domain, `COPY` is supported iff both are sets or both are relations. -/
theorem copySupported_iff (ka kb : Kind) (ha : ka.legal = true) (hb : kb.legal = true) :
    copySupported ka kb = (ka.rel == kb.rel) := by
  obtain ⟨ra, ga, la, ua⟩ := ka
  obtain ⟨rb, gb, lb, ub⟩ := kb
  have ⟨ai, ar⟩ := Kind.legal_range ha
  have br := (Kind.legal_range hb).2
  unfold copySupported copyImpl
  by_cases hr : ra = rb
  · subst hr
    -- by source labeling; the only refusal left, `copy_EV_fast` from a real source into a non-real
    -- target, would need an EV* target that is not real
    cases la
    · simp
    · by_cases h : lb = .evp <;> simp [ai, h]
    · by_cases h : lb = .evt <;> simp [ar, h, br]
    · by_cases h : lb = .evp <;> simp [ai, h]
  · simp [hr]

example : copySupported ⟨false, .int, .evp, .fully⟩ ⟨false, .real, .mt, .quasi⟩ = true := by decide
example : copySupported ⟨false, .bool, .mt, .fully⟩ ⟨true, .bool, .mt, .fully⟩ = false := by decide
example : copyImpl ⟨false, .int, .idx, .fully⟩ ⟨false, .int, .idx, .fully⟩ false = .ok .evPushPlus := by rfl

/-- A set/relation mismatch is refused with TYPE_MISMATCH, whatever else holds. -/
theorem copy_shape_mismatch (ka kb : Kind) (same : Bool) (h : ka.rel ≠ kb.rel) :
    copyImpl ka kb same = .error "TYPE_MISMATCH" := by
  unfold copyImpl
  have : (ka.rel != kb.rel) = true := by simp [bne_iff_ne, h]
  simp [this]

example : copyImpl ⟨true, .real, .evt, .ident⟩ ⟨false, .real, .mt, .fully⟩ false = .error "TYPE_MISMATCH" := by rfl

/-- The conversion produces values of the target kind (finite values stay finite). -/
theorem conv_hasKind (ka kb : Kind) (v : Val) (hv : v ≠ .inf) :
    hasKind kb (conv ka kb v) = true ∧ conv ka kb v ≠ .inf := by
  obtain ⟨rb, gb, lb, ub⟩ := kb
  cases v with
  | inf => exact absurd rfl hv
  | _ => cases gb <;> exact ⟨rfl, nofun⟩

example : conv ⟨false, .real, .mt, .fully⟩ ⟨false, .int, .evp, .fully⟩ (.r (-3) 1) = .i (-1) := by decide
example : conv ⟨false, .real, .mt, .fully⟩ ⟨false, .int, .mt, .fully⟩ (.r 7 2) = .i 1 := by decide
example : conv ⟨false, .int, .mt, .fully⟩ ⟨false, .bool, .mt, .fully⟩ (.i (-2)) = .b true := by decide
example : conv ⟨false, .bool, .mt, .fully⟩ ⟨false, .int, .evp, .fully⟩ (.b false) = .i 0 := by decide

/-- Lossless pairs: converting a value of the source kind there and back gives the value itself
    (bool ↔ 0/1, int ↔ integral real, same range type), including +infinity. -/
theorem conv_roundtrip (ka kb : Kind) (hl : lossless ka kb = true) (v : Val)
    (hv : hasKind ka v = true) : conv kb ka (conv ka kb v) = v := by
  obtain ⟨ra, ga, la, ua⟩ := ka
  obtain ⟨rb, gb, lb, ub⟩ := kb
  -- the value fixes the source range, losslessness then the admissible target ranges
  cases v with
  | inf => cases ga <;> cases gb <;> rfl
  | b x => cases ga <;> cases hv; cases gb <;> cases x <;> rfl
  | i n =>
    cases ga <;> cases hv
    cases gb
    · cases hl
    · rfl
    · simp [conv, convTo, toIntC, toRealC, truncReal]
  | r n e =>
    cases ga <;> cases hv
    cases gb
    · cases hl
    · cases hl
    · rfl

example : conv ⟨false, .int, .mt, .fully⟩ ⟨false, .real, .mt, .quasi⟩ (.i (-5)) = .r (-5) 0 ∧
    conv ⟨false, .real, .mt, .quasi⟩ ⟨false, .int, .mt, .fully⟩ (.r (-5) 0) = .i (-5) := by decide
/-- real → int → real is lossy: 3/2 comes back as 1 -/
example : conv ⟨false, .int, .mt, .fully⟩ ⟨false, .real, .mt, .fully⟩
    (conv ⟨false, .real, .mt, .fully⟩ ⟨false, .int, .mt, .fully⟩ (.r 3 1)) = .r 1 0 := by decide

end Spec

#print axioms Spec.copySupported_iff
#print axioms Spec.copy_shape_mismatch
#print axioms Spec.conv_hasKind
#print axioms Spec.conv_roundtrip
/- Output (Lean 4.33.0): no axioms beyond `propext` and `Quot.sound`. -/

end Meddly
