/-
  Layer 0 specification of the *construction* API (C03):
    minterm::buildFunction, minterm_coll::buildFunctionMax / buildFunctionMin,
    forest::createConstant, forest::createEdgeForVar.

  A minterm gives, for every *position* (see Core/DD.lean: position = level for
  sets; position 2k = unprimed level k, position 2k-1 = primed level k for
  relations), one of
    * `fixed v`     the variable must have value v,
    * `dontCare`    any value            (MEDDLY::DONT_CARE  = -1),
    * `dontChange`  primed positions only: the primed value must equal the
                    unprimed value of the same variable (MEDDLY::DONT_CHANGE = -2),
  plus a function value.

  The specification is the documented one (minterms.h):
    the function built from a collection has, at an assignment, the maximum
    (resp. minimum) of the values of the minterms that match the assignment and
    the default value where no minterm matches.
  Max / min are abstracted as a binary operation `op` (commutative, associative,
  idempotent); the instances for integers, integers with +infinity (EV+) and
  Booleans follow the definitions.  Last, the two scans `fbop_max_tmpl::finalize` /
  `fbop_min_tmpl::finalize` of minterms.cc, which treat +infinity by early exit /
  skipping, are shown to compute the plain fold (`finalizeMaxInf_eq`, `finalizeMinInf_eq`).
-/
import MeddlyModel.Core.DD

namespace Meddly
namespace Spec

inductive Entry where
  | fixed (v : Nat)
  | dontCare
  | dontChange
  deriving DecidableEq, Repr, Inhabited

/-- A minterm: entry `ent[p-1]` for position `p` (missing entries: don't care) and a value. -/
structure Minterm (α : Type) where
  ent : List Entry
  val : α
  deriving Repr, Inhabited

variable {α : Type}

/-- entry at position `p ≥ 1` -/
def Minterm.at (m : Minterm α) (p : Nat) : Entry := m.ent.getD (p - 1) .dontCare

/-- does assignment `a` satisfy entry `e` at position `p`? -/
def entryOK (e : Entry) (a : Assign) (p : Nat) : Bool :=
  match e with
  | .fixed v => a p == v
  | .dontCare => true
  | .dontChange => a p == a (p + 1)

/-- `a` agrees with `m` on positions `1..k` -/
def matchesUpTo (m : Minterm α) (a : Assign) : Nat → Bool
  | 0 => true
  | k+1 => entryOK (m.at (k+1)) a (k+1) && matchesUpTo m a k

/-- `a` matches minterm `m` (over positions `1..top`) -/
def matchesM (top : Nat) (m : Minterm α) (a : Assign) : Bool := matchesUpTo m a top

/-- combine a non-empty list with `op`; `none` for the empty list -/
def foldOpt (op : α → α → α) : List α → Option α
  | [] => none
  | v :: vs => some (vs.foldl op v)

/-- **Specification of `minterm::buildFunction`**: the minterm's value where it matches,
    the default elsewhere. -/
def specSingle (top : Nat) (m : Minterm α) (dflt : α) (a : Assign) : α :=
  if matchesM top m a then m.val else dflt

/-- **Specification of `minterm_coll::buildFunctionMax/Min`** (`op` = max / min): `op` over the
    values of all matching minterms, the default if there is none. -/
def specColl (op : α → α → α) (top : Nat) (ms : List (Minterm α)) (dflt : α) (a : Assign) : α :=
  (foldOpt op ((ms.filter (fun m => matchesM top m a)).map (·.val))).getD dflt

/-- **Specification of `forest::createConstant`** -/
def specConst (v : α) (_a : Assign) : α := v

/-- **Specification of `forest::createEdgeForVar`**: `terms[value of the variable at position p]` -/
def specVar (terms : Nat → α) (p : Nat) (a : Assign) : α := terms (a p)

/-- The laws of max / min that the builder relies on. -/
structure SemiLat (op : α → α → α) : Prop where
  comm : ∀ x y, op x y = op y x
  assoc : ∀ x y z, op (op x y) z = op x (op y z)
  idem : ∀ x, op x x = x

/-- The documented contract of `buildFunctionMax` (`deflt ≤` every value) and of
    `buildFunctionMin` (`deflt ≥` every value): the default is neutral for `op` on every
    value of the collection. -/
def defaultOK (op : α → α → α) (dflt : α) (ms : List (Minterm α)) : Prop :=
  ∀ m, m ∈ ms → op dflt m.val = m.val

instance [DecidableEq α] (op : α → α → α) (dflt : α) (ms : List (Minterm α)) :
    Decidable (defaultOK op dflt ms) := by
  unfold defaultOK; exact List.decidableBAll _ ms

/-- Legal set minterms: no `dontChange`. -/
def SetLegal (m : Minterm α) : Prop := ∀ p, m.at p ≠ .dontChange

/-- Legal relation minterms (the `MEDDLY_DCASSERT`s of `minterm::setVars` and of
    `relPathToBottom`): `dontChange` only at primed positions (odd), and only together with
    `dontCare` at the unprimed position of the same variable (`setVars` rewrites
    `(v, DONT_CHANGE)` to `(v, v)`). -/
def RelLegal (m : Minterm α) : Prop :=
  ∀ k, m.at (2*k+2) ≠ .dontChange ∧ (m.at (2*k+1) = .dontChange → m.at (2*k+2) = .dontCare)

/-- integers with +infinity (EV+ forests): `none` = +infinity -/
abbrev IntInf := Option Int

def maxInf : IntInf → IntInf → IntInf
  | none, _ => none
  | _, none => none
  | some a, some b => some (max a b)

def minInf : IntInf → IntInf → IntInf
  | none, y => y
  | x, none => x
  | some a, some b => some (min a b)

theorem semiLat_intMax : SemiLat (max : Int → Int → Int) := ⟨Int.max_comm, Int.max_assoc, Int.max_self⟩
theorem semiLat_intMin : SemiLat (min : Int → Int → Int) := ⟨Int.min_comm, Int.min_assoc, Int.min_self⟩

theorem semiLat_maxInf : SemiLat maxInf where
  comm x y := by cases x <;> cases y <;> simp [maxInf, Int.max_comm]
  assoc x y z := by cases x <;> cases y <;> cases z <;> simp [maxInf, Int.max_assoc]
  idem x := by cases x <;> simp [maxInf]

theorem semiLat_minInf : SemiLat minInf where
  comm x y := by cases x <;> cases y <;> simp [minInf, Int.min_comm]
  assoc x y z := by cases x <;> cases y <;> cases z <;> simp [minInf, Int.min_assoc]
  idem x := by cases x <;> simp [minInf]

theorem semiLat_or : SemiLat (fun a b : Bool => a || b) := ⟨Bool.or_comm, Bool.or_assoc, Bool.or_self⟩
theorem semiLat_and : SemiLat (fun a b : Bool => a && b) := ⟨Bool.and_comm, Bool.and_assoc, Bool.and_self⟩

/-- `fbop_max_tmpl::finalize` as written (minterms.cc): scan, stop at +infinity. -/
def finalizeMaxInf : IntInf → List IntInf → IntInf
  | none, _ => none                         -- `if (val.isPlusInfinity()) break;`
  | some v, [] => some v
  | some _, none :: _ => none               -- `if (mci.isPlusInfinity()) { val = mci; break; }`
  | some v, some w :: r => finalizeMaxInf (some (if w > v then w else v)) r

/-- `fbop_min_tmpl::finalize` as written: +infinity entries are skipped, a +infinity
    accumulator is replaced. -/
def finalizeMinInf : IntInf → List IntInf → IntInf
  | v, [] => v
  | v, none :: r => finalizeMinInf v r
  | none, some w :: r => finalizeMinInf (some w) r
  | some v, some w :: r => finalizeMinInf (some (if w < v then w else v)) r

/-- +infinity absorbs under `maxInf`: this is what lets the scan stop early -/
theorem foldl_maxInf_none (r : List IntInf) : r.foldl maxInf none = none := by
  induction r with
  | nil => rfl
  | cons x r ih => exact ih

theorem finalizeMaxInf_eq (v : IntInf) (l : List IntInf) : finalizeMaxInf v l = l.foldl maxInf v := by
  induction l generalizing v with
  | nil => cases v <;> rfl
  | cons w r ih =>
    cases v <;> cases w <;> simp only [finalizeMaxInf, List.foldl, maxInf, foldl_maxInf_none]
    rw [ih]
    congr 2
    split <;> omega

theorem finalizeMinInf_eq (v : IntInf) (l : List IntInf) : finalizeMinInf v l = l.foldl minInf v := by
  induction l generalizing v with
  | nil => cases v <;> rfl
  | cons w r ih =>
    cases v <;> cases w <;> simp only [finalizeMinInf, List.foldl, minInf] <;> rw [ih]
    congr 2
    split <;> omega

end Spec
end Meddly

/-
#print axioms (lake env lean, Lean 4.33.0):
'Meddly.Spec.finalizeMaxInf_eq' depends on axioms: [propext, Quot.sound]
'Meddly.Spec.finalizeMinInf_eq' depends on axioms: [propext, Quot.sound]
'Meddly.Spec.semiLat_maxInf' depends on axioms: [propext, Quot.sound]
'Meddly.Spec.semiLat_minInf' depends on axioms: [propext, Quot.sound]
-/
