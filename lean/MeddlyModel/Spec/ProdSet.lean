/-
  Closed form of rank <-> member for PRODUCT sets  { x : x_k ∈ A_k for every k }  (C15, large index sets).

  Family `index` converts product sets with far more than 2^32 members into index sets; no table of such
  a set can be written down, so the acceptor (Driver/P_Index.lean, `stepProd`) uses the closed form below as
  its oracle.  The theorems make that oracle a verified one:

  * `elem_mem`        : `elem p i` picks its k-th digit from A_k
  * `rank_elem`       : `rank p (elem p i) = some i`  for i < card p, every A_k sorted (`wf p`) (left inverse)
  * `elem_rank`       : `rank p ds = some i → elem p i = ds` (right inverse; `i < card p` is `rank_lt`)
  * `elem_strictMono` : `wf p`, i < j < card p → elem p i <lex elem p j              (order isomorphism)
  * `rank_none_iff`   : rank is `none` exactly on the assignments that are not members

  so `elem` is THE order isomorphism between [0, card p) and the members in lexicographic order (top
  variable most significant): the member of index i has exactly i members before it, which is the
  specification `IndexSet.indexSpec` of CONVERT_TO_INDEX_SET.
-/
namespace Meddly
namespace ProdSet

/-- per variable (top first): its size and the SORTED list of allowed values -/
abbrev Prod := List (Nat × List Nat)

def card : Prod → Nat
  | [] => 1
  | (_, vals) :: rest => vals.length * card rest

/-- the member of rank `i`: mixed radix over the |A_k|, digits mapped through the sorted A_k -/
def elem : Prod → Nat → List Nat
  | [], _ => []
  | (_, vals) :: rest, i => vals.getD (i / card rest) 0 :: elem rest (i % card rest)

/-- position of `d` in `vals` -/
def pos (d : Nat) : List Nat → Option Nat
  | [] => none
  | v :: vs => if v = d then some 0 else (pos d vs).map (· + 1)

/-- rank of an assignment; `none` when it is not a member (or has the wrong length) -/
def rank : Prod → List Nat → Option Nat
  | [], [] => some 0
  | (_, vals) :: rest, d :: ds =>
    match pos d vals, rank rest ds with
    | some q, some r => some (q * card rest + r)
    | _, _ => none
  | _, _ => none

def mem : Prod → List Nat → Prop
  | [], [] => True
  | (_, vals) :: rest, d :: ds => d ∈ vals ∧ mem rest ds
  | _, _ => False

/-- strictly increasing -/
def sorted : List Nat → Prop
  | [] => True
  | [_] => True
  | a :: b :: rest => a < b ∧ sorted (b :: rest)

def wf : Prod → Prop
  | [] => True
  | (_, vals) :: rest => sorted vals ∧ wf rest

/-- lexicographic order on assignments of equal length -/
def lexLt : List Nat → List Nat → Prop
  | a :: as, b :: bs => a < b ∨ (a = b ∧ lexLt as bs)
  | _, _ => False

theorem sorted_tail {a : Nat} {l : List Nat} (h : sorted (a :: l)) : sorted l := by
  cases l with
  | nil => trivial
  | cons b rest => exact h.2

theorem sorted_head_lt {a : Nat} : ∀ {l : List Nat}, sorted (a :: l) → ∀ x ∈ l, a < x
  | [], _, x, hx => by simp at hx
  | b :: rest, h, x, hx => by
    rcases List.mem_cons.1 hx with rfl | hx'
    · exact h.1
    · have hb := sorted_head_lt (a := b) h.2 x hx'
      exact Nat.lt_trans h.1 hb

theorem getD_mem {l : List Nat} {q : Nat} (hq : q < l.length) : l.getD q 0 ∈ l := by
  simp [List.getD_eq_getElem?_getD, List.getElem?_eq_getElem hq]

theorem pos_getD : ∀ {l : List Nat}, sorted l → ∀ {q : Nat}, q < l.length → pos (l.getD q 0) l = some q
  | [], _, q, hq => by simp at hq
  | v :: vs, hs, 0, _ => by simp [pos]
  | v :: vs, hs, q + 1, hq => by
    have hq' : q < vs.length := by simpa using hq
    have hm : vs.getD q 0 ∈ vs := getD_mem hq'
    have hlt := sorted_head_lt hs _ hm
    have hne : ¬ (v = vs.getD q 0) := by omega
    have ih := pos_getD (sorted_tail hs) hq'
    simp only [List.getD_cons_succ, pos, hne, if_false, ih, Option.map_some]

theorem pos_some : ∀ {l : List Nat} {d q : Nat}, pos d l = some q → q < l.length ∧ l.getD q 0 = d
  | [], d, q, h => by simp [pos] at h
  | v :: vs, d, q, h => by
    by_cases e : v = d
    · simp only [pos, e, if_true, Option.some.injEq] at h
      subst h; subst e; simp
    · simp only [pos, e, if_false, Option.map_eq_some_iff] at h
      obtain ⟨q', hp, rfl⟩ := h
      simpa using pos_some hp

theorem pos_none_iff : ∀ {l : List Nat} {d : Nat}, pos d l = none ↔ d ∉ l
  | [], d => by simp [pos]
  | v :: vs, d => by
    by_cases e : v = d
    · subst e; simp [pos]
    · have ih := pos_none_iff (l := vs) (d := d)
      have e' : ¬ d = v := fun h => e h.symm
      simp only [pos, e, if_false, Option.map_eq_none_iff, ih, List.mem_cons, e', false_or]

theorem getD_strictMono : ∀ {l : List Nat}, sorted l → ∀ {a b : Nat}, a < b → b < l.length →
    l.getD a 0 < l.getD b 0
  | [], _, a, b, _, hb => by simp at hb
  | v :: vs, hs, 0, b + 1, _, hb => by
    have hb' : b < vs.length := by simpa using hb
    simpa using sorted_head_lt hs _ (getD_mem hb')
  | v :: vs, hs, a + 1, b + 1, hab, hb => by
    have hb' : b < vs.length := by simpa using hb
    simpa using getD_strictMono (sorted_tail hs) (Nat.lt_of_succ_lt_succ hab) hb'

theorem card_pos_of_lt : ∀ {p : Prod} {i : Nat}, i < card p → 0 < card p := by
  intro p i h; omega

theorem quot_lt {len w i : Nat} (h : i < len * w) : i / w < len ∧ 0 < w := by
  have hw : 0 < w := by
    cases w with
    | zero => simp at h
    | succ n => omega
  exact ⟨(Nat.div_lt_iff_lt_mul hw).2 h, hw⟩

theorem elem_mem : ∀ {p : Prod} {i : Nat}, i < card p → mem p (elem p i)
  | [], _, _ => trivial
  | (_, vals) :: rest, i, h => by
    obtain ⟨hq, hw⟩ := quot_lt (len := vals.length) (w := card rest) h
    exact ⟨getD_mem hq, elem_mem (Nat.mod_lt _ hw)⟩

theorem rank_elem : ∀ {p : Prod}, wf p → ∀ {i : Nat}, i < card p → rank p (elem p i) = some i
  | [], _, i, h => by
    have : i = 0 := by simp [card] at h; omega
    simp [elem, rank, this]
  | (_, vals) :: rest, hwf, i, h => by
    obtain ⟨hq, hw⟩ := quot_lt (len := vals.length) (w := card rest) h
    have hp := pos_getD hwf.1 hq
    have ih := rank_elem hwf.2 (Nat.mod_lt i hw)
    simp only [elem, rank, hp, ih]
    congr 1
    rw [Nat.mul_comm]
    exact Nat.div_add_mod i (card rest)

/-- a rank of a non-empty product splits into the position of the head digit and the rank of the tail -/
theorem rank_cons_some {n : Nat} {vals : List Nat} {rest : Prod} {d : Nat} {ds : List Nat} {i : Nat}
    (h : rank ((n, vals) :: rest) (d :: ds) = some i) :
    ∃ q r, pos d vals = some q ∧ rank rest ds = some r ∧ q * card rest + r = i := by
  cases hp : pos d vals <;> cases hr : rank rest ds <;> simp [rank, hp, hr] at h
  exact ⟨_, _, rfl, rfl, h⟩

theorem rank_lt : ∀ {p : Prod} {ds : List Nat} {i : Nat}, rank p ds = some i → i < card p
  | [], [], i, h => by simp [rank] at h; subst h; simp [card]
  | [], _ :: _, i, h => by simp [rank] at h
  | _ :: _, [], i, h => by simp [rank] at h
  | (_, vals) :: rest, d :: ds, i, h => by
    obtain ⟨q, r, hp, hr, rfl⟩ := rank_cons_some h
    have hrl := rank_lt hr
    calc q * card rest + r < (q + 1) * card rest := by rw [Nat.add_mul, Nat.one_mul]; omega
      _ ≤ vals.length * card rest := Nat.mul_le_mul_right _ (pos_some hp).1

theorem elem_rank : ∀ {p : Prod} {ds : List Nat} {i : Nat}, rank p ds = some i → elem p i = ds
  | [], [], i, _ => by simp [elem]
  | [], _ :: _, i, h => by simp [rank] at h
  | _ :: _, [], i, h => by simp [rank] at h
  | (_, vals) :: rest, d :: ds, i, h => by
    obtain ⟨q, r, hp, hr, rfl⟩ := rank_cons_some h
    have hrl := rank_lt hr
    have hdiv : (q * card rest + r) / card rest = q := by
      rw [Nat.mul_comm, Nat.mul_add_div (by omega), Nat.div_eq_of_lt hrl, Nat.add_zero]
    have hmod : (q * card rest + r) % card rest = r := by
      rw [Nat.mul_comm, Nat.mul_add_mod, Nat.mod_eq_of_lt hrl]
    simp only [elem, hdiv, hmod, (pos_some hp).2, elem_rank hr]

theorem rank_none_iff : ∀ {p : Prod} {ds : List Nat}, rank p ds = none ↔ ¬ mem p ds
  | [], [] => by simp [rank, mem]
  | [], _ :: _ => by simp [rank, mem]
  | _ :: _, [] => by simp [rank, mem]
  | (_, vals) :: rest, d :: ds => by
    -- the rank of a cons fails exactly when the head digit or the tail fails
    rw [mem, Classical.not_and_iff_not_or_not, ← pos_none_iff, ← rank_none_iff (p := rest), rank]
    cases pos d vals <;> cases rank rest ds <;> simp

theorem elem_strictMono : ∀ {p : Prod}, wf p → ∀ {i j : Nat}, i < j → j < card p →
    lexLt (elem p i) (elem p j)
  | [], _, i, j, hij, hj => by simp [card] at hj; omega
  | (_, vals) :: rest, hwf, i, j, hij, hj => by
    obtain ⟨hqj, hw⟩ := quot_lt (len := vals.length) (w := card rest) hj
    simp only [elem, lexLt]
    rcases Nat.lt_or_ge (i / card rest) (j / card rest) with hq | hq
    · exact .inl (getD_strictMono hwf.1 hq hqj)
    · have heq := Nat.le_antisymm (Nat.div_le_div_right (Nat.le_of_lt hij)) hq
      have hi := Nat.div_add_mod i (card rest)
      have hjm := Nat.div_add_mod j (card rest)
      rw [heq] at hi ⊢
      exact .inr ⟨rfl, elem_strictMono hwf.2 (by omega) (Nat.mod_lt _ hw)⟩

/-- non-vacuity: a concrete product set, its 12 members in order, ranks back -/
def P0 : Prod := [(4, [0, 1, 3]), (3, [1, 2]), (5, [0, 4])]
example : card P0 = 12 := by decide +kernel
example : (List.range 12).map (elem P0) =
    [[0,1,0],[0,1,4],[0,2,0],[0,2,4],[1,1,0],[1,1,4],[1,2,0],[1,2,4],[3,1,0],[3,1,4],[3,2,0],[3,2,4]] := by decide +kernel
example : rank P0 [3, 1, 4] = some 9 ∧ rank P0 [2, 1, 4] = none := by decide +kernel

end ProdSet
end Meddly
