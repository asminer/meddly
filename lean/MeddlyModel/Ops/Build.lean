/-
  Layer 2: the function *builders* of MEDDLY on decision-diagram trees (C03).

    minterm::buildFunction            (minterms.cc: setPathToBottom / relPathToBottom)
    minterm_coll::buildFunctionMax    (minterms.cc: fbuilder<OP>::createEdgeSet / createEdgeRel,
    minterm_coll::buildFunctionMin     the recursive partition of the collection)
    forest::createConstant            (forest.h)
    forest::createEdgeForVar          (forest.cc)

  Trees are built exactly the way the code builds nodes: a node is assembled from
  children and handed to `mkNode` (= `forest::createReducedNode`, Ops/Apply.lean); the
  "union the don't-care branch in" step is the element-wise `apply2 op` (= the
  MAXIMUM / MINIMUM / UNION / INTERSECTION operation the builder calls).

  A tree below a primed position of an identity-reduced forest depends on the index
  through which it is entered (`createReducedNode(…, in)`, `redirectSingleton`, the
  `check_singleton` branch of `_makeRedundantsTo`); so every builder yields a *family*
  `Fam α = Option Nat → DD α` (incoming index ↦ tree), as `apply2` does.

  Main results (end of file): the built trees are reduced, evaluate to the builder's
  *semantic recursion* (`semSet`, `semRel`: unconditional, this is what the code computes
  also outside the documented contract), and under the documented contract
  (`Spec.defaultOK`) to the specification `Spec.specColl`.
-/
import MeddlyModel.Core.DD
import MeddlyModel.Core.Canon
import MeddlyModel.Ops.Apply
import MeddlyModel.Ops.ApplyProofs
import MeddlyModel.Spec.Minterms

namespace Meddly
namespace Build
open DD Spec

set_option linter.unusedSectionVars false

variable {α : Type} [DecidableEq α]

/-- a tree as a function of the index through which it is entered -/
abbrev Fam (α : Type) := Option Nat → DD α

section Combinators
variable (S : Shape) (zero : α)

/-- a node at position `k+1` whose child `i` is `ch i` (entered through index `i`),
    passed through `createReducedNode` -/
def nodeF (k : Nat) (ch : Nat → Fam α) : Fam α := fun fi =>
  mkNode S zero (k+1) fi ((List.range (S.size (k+1))).map fun i => ch i (some i))

/-- `makeRedundantsTo(t, k, k+1)`: a redundant node at position `k+1` above `t` -/
def redF (k : Nat) (t : Fam α) : Fam α := nodeF S zero k (fun _ => t)

/-- the element-wise operation the builder uses to accumulate (`union_op->compute`) -/
def opF (op : α → α → α) (k : Nat) (t1 t2 : Fam α) : Fam α := fun fi =>
  apply2 S S S zero zero zero op k fi (t1 fi) (t2 fi)

/-- the constant function `v` from position `k` down (`dp_unp[k]` / `dp_pri[k]` of
    `fbuilder_forest`, `createConstant`) -/
def constF (v : α) : Nat → Fam α
  | 0 => fun _ => .leaf v
  | k+1 => redF S zero k (constF v k)

/-- `t` (read from position `k`) is below `k`, reduced, and denotes `g`. -/
structure Good (k : Nat) (t : Fam α) (g : Assign → α) : Prop where
  below : ∀ fi, Below k (t fi)
  red : ∀ fi, (fi = none → S.mode k ≠ .ident) → Red S zero k fi (t fi) = true
  eval : ∀ fi x, Assign.Valid S x → (S.mode k = .ident → fi = some (x (k+1))) →
    eval S zero k (t fi) x = g x

variable {S zero}

theorem Good.leaf (v : α) : Good S zero 0 (fun _ => .leaf v) (fun _ => v) :=
  ⟨fun _ => Below_leaf _ _, fun _ _ => rfl, fun _ _ _ _ => rfl⟩

theorem Good.congr {k : Nat} {t : Fam α} {g g' : Assign → α} (h : Good S zero k t g)
    (hg : ∀ x, Assign.Valid S x → g x = g' x) : Good S zero k t g' :=
  ⟨h.below, h.red, fun fi x hx hf => (h.eval fi x hx hf).trans (hg x hx)⟩

theorem Good.node (hS : S.WF) {k : Nat} (hk : k+1 ≤ S.top) {ch : Nat → Fam α}
    {g : Nat → Assign → α} (h : ∀ i, i < S.size (k+1) → Good S zero k (ch i) (g i)) :
    Good S zero (k+1) (nodeF S zero k ch) (fun x => g (x (k+1)) x) := by
  have hb : ∀ c, c ∈ ((List.range (S.size (k+1))).map fun i => ch i (some i)) → Below k c :=
    List.forall_mem_map.mpr fun i hi => (h i (List.mem_range.mp hi)).below _
  refine ⟨fun fi => mkNode_Below S zero k fi _ hb, ?_, ?_⟩
  · intro fi hfi
    refine mkNode_red S zero hS k fi _ (length_map_range _ _) ?_ hfi
    intro i hi
    rw [length_map_range] at hi
    rw [getD_map_range _ _ _ hi]
    exact (h i hi).red (some i) nofun
  · intro fi x hx hfi
    have hxk : x (k+1) < S.size (k+1) := hx (k+1) (by omega) hk
    unfold nodeF
    rw [mkNode_eval S zero k fi _ x hk (length_map_range _ _) hx hb hfi, getD_map_range _ _ _ hxk]
    exact (h _ hxk).eval (some (x (k+1))) x hx (fun _ => rfl)

theorem Good.red1 (hS : S.WF) {k : Nat} (hk : k+1 ≤ S.top) {t : Fam α} {g : Assign → α}
    (h : Good S zero k t g) : Good S zero (k+1) (redF S zero k t) g :=
  Good.node (g := fun _ => g) hS hk (fun _ _ => h)

theorem Good.op (hS : S.WF) (op : α → α → α) {k : Nat} (hk : k ≤ S.top) {t1 t2 : Fam α}
    {g1 g2 : Assign → α} (h1 : Good S zero k t1 g1) (h2 : Good S zero k t2 g2) :
    Good S zero k (opF S zero op k t1 t2) (fun x => op (g1 x) (g2 x)) := by
  refine ⟨fun fi => (apply2_Below_WFTree S S S zero zero zero op k fi _ _).1,
    fun fi hfi => apply2_red S S S zero zero zero op hS k fi _ _ hfi, ?_⟩
  intro fi x hx hfi
  unfold opF
  rw [apply2_eval S S S zero zero zero op k fi _ _ x hk hx hfi hfi hfi,
    h1.eval fi x hx hfi, h2.eval fi x hx hfi]

theorem Good.const (hS : S.WF) (v : α) : ∀ k, k ≤ S.top → Good S zero k (constF S zero v k) (fun _ => v)
  | 0, _ => Good.leaf v
  | k+1, hk => Good.red1 hS hk (Good.const hS v k (by omega))

theorem Good.ite {k : Nat} (c : Prop) [Decidable c] {t u : Fam α} {g h : Assign → α}
    (ht : Good S zero k t g) (hu : Good S zero k u h) :
    Good S zero k (if c then t else u) (fun x => if c then g x else h x) := by
  split
  · exact ht
  · exact hu

/-- a node with one distinguished child (`newSetNode` + `addToNode`) -/
theorem Good.ite_node (hS : S.WF) {k : Nat} (hk : k+1 ≤ S.top) (i0 : Nat) {t u : Fam α}
    {g h : Assign → α} (ht : Good S zero k t g) (hu : Good S zero k u h) :
    Good S zero (k+1) (nodeF S zero k (fun i => if i = i0 then t else u))
      (fun x => if x (k+1) = i0 then g x else h x) :=
  Good.node hS hk fun i _ => Good.ite (i = i0) ht hu

end Combinators

/-! ## The algebra of accumulation

`big op dflt ms c` = `dflt op c(m₁) op c(m₂) op …` — the value the builder accumulates when
every minterm `m` contributes `c m`. -/
section Big
variable (op : α → α → α) (dflt : α)

def bigFrom (acc : α) (ms : List (Minterm α)) (c : Minterm α → α) : α :=
  ms.foldl (fun acc m => op acc (c m)) acc

def big (ms : List (Minterm α)) (c : Minterm α → α) : α := bigFrom op dflt ms c

variable {op dflt}

theorem bigFrom_op (hL : SemiLat op) (x acc : α) (ms : List (Minterm α)) (c : Minterm α → α) :
    bigFrom op (op x acc) ms c = op x (bigFrom op acc ms c) := by
  induction ms generalizing acc with
  | nil => rfl
  | cons m r ih =>
    show bigFrom op (op (op x acc) (c m)) r c = op x (bigFrom op (op acc (c m)) r c)
    rw [hL.assoc, ih]

theorem big_absorb (hL : SemiLat op) (ms : List (Minterm α)) (c : Minterm α → α) :
    op dflt (big op dflt ms c) = big op dflt ms c := by
  unfold big
  rw [← bigFrom_op hL, hL.idem]

theorem big_absorb' (hL : SemiLat op) (ms : List (Minterm α)) (c : Minterm α → α) :
    op (big op dflt ms c) dflt = big op dflt ms c := by
  rw [hL.comm, big_absorb hL]

theorem big_nil (c : Minterm α → α) : big op dflt [] c = dflt := rfl

theorem big_congr {ms : List (Minterm α)} {c c' : Minterm α → α} (h : ∀ m, m ∈ ms → c m = c' m) :
    big op dflt ms c = big op dflt ms c' := by
  unfold big bigFrom
  rw [← List.foldl_map (f := c), ← List.foldl_map (f := c'), List.map_congr_left h]

theorem big_cons (hL : SemiLat op) (m : Minterm α) (r : List (Minterm α)) (c : Minterm α → α) :
    big op dflt (m :: r) c = op (c m) (big op dflt r c) := by
  show bigFrom op (op dflt (c m)) r c = _
  rw [hL.comm, bigFrom_op hL]
  rfl

theorem big_const (hL : SemiLat op) (ms : List (Minterm α)) : big op dflt ms (fun _ => dflt) = dflt := by
  induction ms with
  | nil => rfl
  | cons m r ih => rw [big_cons hL, ih, hL.idem]

theorem big_filter (hL : SemiLat op) (ms : List (Minterm α)) (q : Minterm α → Bool) (c : Minterm α → α) :
    big op dflt (ms.filter q) c = big op dflt ms (fun m => if q m then c m else dflt) := by
  induction ms with
  | nil => rfl
  | cons m r ih =>
    by_cases hq : q m = true
    · rw [List.filter_cons_of_pos hq, big_cons hL, big_cons hL, ih, if_pos hq]
    · rw [List.filter_cons_of_neg hq, big_cons hL, ih, if_neg hq, big_absorb hL]

theorem big_op (hL : SemiLat op) (ms : List (Minterm α)) (f g : Minterm α → α) :
    op (big op dflt ms f) (big op dflt ms g) = big op dflt ms (fun m => op (f m) (g m)) := by
  induction ms with
  | nil => exact hL.idem dflt
  | cons m r ih =>
    rw [big_cons hL, big_cons hL, big_cons hL, ← ih, hL.assoc, hL.assoc, ← hL.assoc (big op dflt r f),
      hL.comm (big op dflt r f), hL.assoc]

/-- the builder's "default unless the group `l` is non-empty", for the recursion on a part `l'` of `l` -/
theorem big_isEmpty {l' l : List (Minterm α)} (hl : l'.length ≤ l.length) (c : Minterm α → α) :
    (if l.isEmpty then dflt else big op dflt l' c) = big op dflt l' c := by
  cases l with
  | nil => cases List.eq_nil_of_length_eq_zero (Nat.le_zero.mp hl); rfl
  | cons _ _ => rfl

/-- the builder's "accumulate the recursion on the part `l'` into what is there unless the group `l`
    is empty": what is there absorbs the default -/
theorem big_opt (hL : SemiLat op) {l' l ms : List (Minterm α)} (hl : l'.length ≤ l.length)
    {c c' : Minterm α → α} :
    (if l.isEmpty then big op dflt ms c' else op (big op dflt l' c) (big op dflt ms c'))
      = op (big op dflt l' c) (big op dflt ms c') := by
  cases l with
  | nil => cases List.eq_nil_of_length_eq_zero (Nat.le_zero.mp hl); exact (big_absorb hL _ _).symm
  | cons _ _ => rfl

theorem big_filter_const (e : Prop) [Decidable e] (ms : List (Minterm α)) (c : Minterm α → α) :
    big op dflt (ms.filter fun _ => decide e) c = if e then big op dflt ms c else dflt := by
  by_cases h : e
  · rw [if_pos h, List.filter_eq_self.mpr fun _ _ => decide_eq_true h]
  · rw [if_neg h, List.filter_eq_nil_iff.mpr fun _ _ => by rw [decide_eq_false h]; exact Bool.false_ne_true]
    rfl

theorem big_filter_eq (hL : SemiLat op) {ms : List (Minterm α)} {c c' : Minterm α → α}
    (q : Minterm α → Bool) (h : ∀ m, m ∈ ms → (if q m then c m else dflt) = c' m) :
    big op dflt (ms.filter q) c = big op dflt ms c' := by
  rw [big_filter hL]; exact big_congr h

theorem big_filter_or (hL : SemiLat op) {ms : List (Minterm α)} {c : Minterm α → α}
    (hn : ∀ m, m ∈ ms → op dflt (c m) = c m) (p q : Minterm α → Bool) :
    op (big op dflt (ms.filter p) c) (big op dflt (ms.filter q) c)
      = big op dflt (ms.filter fun m => p m || q m) c := by
  rw [big_filter hL, big_filter hL, big_filter hL, big_op hL]
  refine big_congr fun m hm => ?_
  cases p m <;> cases q m
  · exact hL.idem _
  · exact hn m hm
  · exact (hL.comm _ _).trans (hn m hm)
  · exact hL.idem _

/-- under the contract, "`op` over a non-empty list, default for the empty one" is `big` -/
theorem foldOpt_eq_big (l : List (Minterm α)) (h : defaultOK op dflt l) :
    (foldOpt op (l.map (·.val))).getD dflt = big op dflt l (·.val) := by
  cases l with
  | nil => rfl
  | cons m r =>
    show (r.map (·.val)).foldl op m.val = bigFrom op (op dflt m.val) r _
    rw [h m (List.mem_cons_self ..), List.foldl_map]
    rfl

end Big

/-- contribution of minterm `m` at assignment `a`, looking at positions `1..k` only -/
def cK (dflt : α) (a : Assign) (k : Nat) (m : Minterm α) : α :=
  if matchesUpTo m a k then m.val else dflt

section
variable {op : α → α → α} {dflt : α}

theorem cK_neutral (hL : SemiLat op) (a : Assign) (k : Nat) (m : Minterm α)
    (h : op dflt m.val = m.val) : op dflt (cK dflt a k m) = cK dflt a k m := by
  unfold cK; split
  · exact h
  · exact hL.idem _

theorem cK_succ (dflt : α) (a : Assign) (k : Nat) (m : Minterm α) :
    cK dflt a (k+1) m = if entryOK (m.at (k+1)) a (k+1) then cK dflt a k m else dflt := by
  unfold cK; rw [matchesUpTo]
  cases entryOK (m.at (k+1)) a (k+1) <;> rfl

theorem defaultOK_filter {ms : List (Minterm α)} (h : defaultOK op dflt ms) (q : Minterm α → Bool) :
    defaultOK op dflt (ms.filter q) :=
  fun m hm => h m (List.mem_filter.mp hm).1

/-- the specification in accumulated form (under the contract) -/
theorem specColl_eq_big (hL : SemiLat op) (top : Nat) (ms : List (Minterm α))
    (h : defaultOK op dflt ms) (a : Assign) :
    specColl op top ms dflt a = big op dflt ms (cK dflt a top) := by
  unfold specColl
  rw [foldOpt_eq_big _ (defaultOK_filter h _), big_filter hL]
  rfl

end

/-! ## Sets: `setPathToBottom`, `createEdgeSet` -/

/-- entry is not a fixed value (sets: `DONT_CARE`) -/
def notFixE : Entry → Bool
  | .fixed _ => false
  | _ => true

theorem beq_fixed (x v : Nat) : (x == v) = (Entry.fixed v == .fixed x) := by
  rw [Bool.eq_iff_iff, beq_iff_eq, beq_iff_eq, Entry.fixed.injEq, eq_comm]

theorem entryOK_of_ne {e : Entry} (h : e ≠ .dontChange) (a : Assign) (p : Nat) :
    entryOK e a p = (notFixE e || e == .fixed (a p)) := by
  cases e with
  | fixed v => exact beq_fixed _ v
  | dontCare => rfl
  | dontChange => exact absurd rfl h

def isDCs (p : Nat) (m : Minterm α) : Bool := notFixE (m.at p)
def isFix (p i : Nat) (m : Minterm α) : Bool := m.at p == .fixed i

/-- `OP::finalize`: the terminal value for the minterms that reached the bottom -/
def finalize (op : α → α → α) (dflt : α) (ms : List (Minterm α)) : α :=
  (foldOpt op (ms.map (·.val))).getD dflt

section SetBuilder
variable (S : Shape) (zero : α) (op : α → α → α) (dflt : α)

/-- `fbuilder_forest::setPathToBottom` (also `minterm::buildFunction` for sets): bottom-up, a
    redundant node for `DONT_CARE`, otherwise a node whose other children are the default. -/
def pathSet (m : Minterm α) : Nat → Fam α
  | 0 => fun _ => .leaf m.val
  | k+1 =>
    match m.at (k+1) with
    | .fixed v => nodeF S zero k (fun i => if i = v then pathSet m k else constF S zero dflt k)
    | _ => redF S zero k (pathSet m k)

/-- `fbuilder<OP>::createEdgeSet(L, low, high)` on the sub-collection `ms`:
      L = 0: finalize;
      all entries at L are DONT_CARE: recurse, add a redundant node;
      otherwise: node whose child `v` is the recursion on the minterms with entry `v` (default
      where there is none), accumulated (`union_op`) with the redundant node above the recursion
      on the DONT_CARE minterms.
    (The code's shortcut for a single remaining minterm, `setPathToBottom`, builds the same tree:
    `buildSet_single`.) -/
def buildSet : Nat → List (Minterm α) → Fam α
  | 0, ms => fun _ => .leaf (finalize op dflt ms)
  | k+1, ms =>
    if ms.all (isDCs (k+1)) then redF S zero k (buildSet k ms)
    else
      let expl : Fam α := nodeF S zero k (fun i =>
        if (ms.filter (isFix (k+1) i)).isEmpty then constF S zero dflt k
        else buildSet k (ms.filter (isFix (k+1) i)))
      if (ms.filter (isDCs (k+1))).isEmpty then expl
      else opF S zero op (k+1) (redF S zero k (buildSet k (ms.filter (isDCs (k+1))))) expl

/-- the function `buildSet` computes, written as a recursion on assignments -/
def semSet : Nat → List (Minterm α) → Assign → α
  | 0, ms, _ => finalize op dflt ms
  | k+1, ms, a =>
    if ms.all (isDCs (k+1)) then semSet k ms a
    else
      let e := if (ms.filter (isFix (k+1) (a (k+1)))).isEmpty then dflt
               else semSet k (ms.filter (isFix (k+1) (a (k+1)))) a
      if (ms.filter (isDCs (k+1))).isEmpty then e
      else op (semSet k (ms.filter (isDCs (k+1))) a) e

variable {S zero op dflt}

theorem pathSet_good (hS : S.WF) (m : Minterm α) (hm : SetLegal m) :
    ∀ k, k ≤ S.top → Good S zero k (pathSet S zero dflt m k) (fun x => cK dflt x k m)
  | 0, _ => (Good.leaf m.val).congr (fun _ _ => rfl)
  | k+1, hk => by
    have ih := pathSet_good hS m hm k (by omega)
    unfold pathSet
    cases he : m.at (k+1) with
    | fixed v =>
      refine (Good.ite_node hS hk v ih (Good.const hS dflt k (by omega))).congr (fun x _ => ?_)
      rw [cK_succ, he]; simp only [entryOK, beq_iff_eq]
    | dontCare =>
      refine (Good.red1 hS hk ih).congr (fun x _ => ?_)
      rw [cK_succ, he]; rfl
    | dontChange => exact absurd he (hm _)

theorem buildSet_good (hS : S.WF) :
    ∀ k, k ≤ S.top → ∀ ms : List (Minterm α),
      Good S zero k (buildSet S zero op dflt k ms) (semSet op dflt k ms)
  | 0, _, ms => (Good.leaf _).congr (fun _ _ => rfl)
  | k+1, hk, ms => by
    have ih := buildSet_good hS k (by omega)
    have hexpl := Good.node (zero := zero) hS hk fun i _ =>
      Good.ite ((ms.filter (isFix (k+1) i)).isEmpty = true) (Good.const hS dflt k (by omega))
        (ih (ms.filter (isFix (k+1) i)))
    exact Good.ite _ (Good.red1 hS hk (ih ms))
      (Good.ite _ hexpl (Good.op hS op hk (Good.red1 hS hk (ih _)) hexpl))

/-- under the contract the semantic recursion is the specification (accumulated form) -/
theorem semSet_eq_big (hL : SemiLat op) (a : Assign) :
    ∀ (k : Nat) (ms : List (Minterm α)), defaultOK op dflt ms → (∀ m, m ∈ ms → SetLegal m) →
      semSet op dflt k ms a = big op dflt ms (cK dflt a k)
  | 0, ms, hd, _ => (foldOpt_eq_big _ hd).trans (big_congr fun _ _ => rfl)
  | k+1, ms, hd, hl => by
    have ih : ∀ q, semSet op dflt k (ms.filter q) a = big op dflt (ms.filter q) (cK dflt a k) :=
      fun q => semSet_eq_big hL a k _ (defaultOK_filter hd q) (fun m hm => hl m (List.mem_filter.mp hm).1)
    have hpt : ∀ m, m ∈ ms → cK dflt a (k+1) m =
        if isDCs (k+1) m || isFix (k+1) (a (k+1)) m then cK dflt a k m else dflt :=
      fun m hm => by rw [cK_succ, entryOK_of_ne (hl m hm (k+1))]; rfl
    rw [semSet]
    by_cases hall : ms.all (isDCs (k+1)) = true
    · rw [if_pos hall, semSet_eq_big hL a k ms hd hl]
      refine big_congr fun m hm => ?_
      rw [hpt m hm, List.all_eq_true.mp hall m hm]; rfl
    · rw [if_neg hall]
      dsimp only
      rw [ih, ih, big_isEmpty (Nat.le_refl _), big_opt hL (Nat.le_refl _),
        big_filter_or hL (fun m hm => cK_neutral hL a k m (hd m hm))]
      exact big_filter_eq hL _ (fun m hm => (hpt m hm).symm)

/-- The code's shortcut "only one minterm left → `setPathToBottom`" builds exactly the tree the
    general recursion builds for a one-element collection (so `buildSet` needs no such case). -/
theorem buildSet_single (m : Minterm α) :
    ∀ k, buildSet S zero op dflt k [m] = pathSet S zero dflt m k
  | 0 => rfl
  | k+1 => by
    have ih := buildSet_single m k
    unfold buildSet pathSet
    cases he : m.at (k+1) with
    | fixed v =>
      have hd : isDCs (k+1) m = false := by simp [isDCs, he, notFixE]
      have hf : ∀ i, isFix (k+1) i m = decide (v = i) := fun i => by
        rw [isFix, he, Bool.eq_iff_iff, beq_iff_eq, Entry.fixed.injEq, decide_eq_true_eq]
      simp only [List.all_cons, List.all_nil, List.filter_cons, List.filter_nil, hd, hf, Bool.false_and,
        Bool.false_eq_true, if_false, List.isEmpty_nil, if_true]
      congr 1
      funext i
      by_cases e : v = i
      · simp [e, ih]
      · simp [e, if_neg fun h : i = v => e h.symm]
    | dontCare | dontChange =>
      have hall : [m].all (isDCs (k+1)) = true := by simp [isDCs, he, notFixE]
      simp only [hall, if_true]
      rw [ih]

end SetBuilder

/-! ## Relations: `relPathToBottom`, `identityPattern`, `createEdgeRel`

Variable `k+1` (k = 0, 1, …) has its unprimed position at `2k+2` and its primed position at
`2k+1`; the recursion below is on the variable. -/

def uDC (k : Nat) (m : Minterm α) : Bool := notFixE (m.at (2*k+2))
def uFix (k i : Nat) (m : Minterm α) : Bool := m.at (2*k+2) == .fixed i
def pChg (k : Nat) (m : Minterm α) : Bool := m.at (2*k+1) == .dontChange
def pDC (k : Nat) (m : Minterm α) : Bool := m.at (2*k+1) == .dontCare
def pFix (k j : Nat) (m : Minterm α) : Bool := m.at (2*k+1) == .fixed j

section RelBuilder
variable (S : Shape) (zero : α) (op : α → α → α) (dflt : α)

/-- `fbuilder_forest::identityPattern(k+1, …)` above `low`: the diagonal continues to `low`, every
    off-diagonal entry is the default.  (With a transparent default this is
    `makeIdentitiesTo`; in an identity-reduced forest `mkNode` then stores nothing.) -/
def identF (k : Nat) (low : Fam α) : Fam α :=
  nodeF S zero (2*k+1) (fun i =>
    nodeF S zero (2*k) (fun j => if j = i then low else constF S zero dflt (2*k)))

/-- `fbuilder_forest::relPathToBottom` (general case; the identity-reduced/zero-default special
    case builds the same reduced tree): per variable, `DONT_CHANGE` → identity pattern; else the
    primed node (redundant for `DONT_CARE`), then the unprimed node. -/
def pathRel (m : Minterm α) : Nat → Fam α
  | 0 => fun _ => .leaf m.val
  | k+1 =>
    match m.at (2*k+1) with
    | .dontChange => identF S zero dflt k (pathRel m k)
    | p =>
      let prT : Fam α :=
        match p with
        | .fixed j0 => nodeF S zero (2*k) (fun j => if j = j0 then pathRel m k else constF S zero dflt (2*k))
        | _ => redF S zero (2*k) (pathRel m k)
      match m.at (2*k+2) with
      | .fixed i0 => nodeF S zero (2*k+1) (fun i => if i = i0 then prT else constF S zero dflt (2*k+1))
      | _ => redF S zero (2*k+1) prT

/-- the primed node `Cp` of `createEdgeRel`: child `j` = recursion on `grp j`, default if empty -/
def cpF (k : Nat) (rec : List (Minterm α) → Fam α) (grp : Nat → List (Minterm α)) : Fam α :=
  nodeF S zero (2*k) (fun j => if (grp j).isEmpty then constF S zero dflt (2*k) else rec (grp j))

/-- One level of `fbuilder<OP>::createEdgeRel` (variable `k+1`) given the recursion `rec` for
    the variables below:
      * all pairs (DONT_CARE, DONT_CARE): recurse, two redundant nodes;
      * all pairs (DONT_CARE, DONT_CHANGE): recurse, identity pattern;
      * otherwise, with the pairs in the order (x,c) < (x,x) < (x,j) < (i,x) < (i,j):
        for every unprimed value `i` that occurs, the primed node `Cp` (children `j` from the
        (i,j) groups) accumulated with the redundant node above the (i,x) group — child `i` of
        `Cu`; if unprimed DONT_CARE occurs, the "unprimed extra" function accumulates the
        identity pattern above the (x,c) group, the redundant nodes above the (x,x) group and
        the redundant node above the `Cp` of the (x,j) groups (that `Cp` is closed and
        accumulated even when it is empty, i.e. all default); finally `Cu` and the extra
        function are accumulated. -/
def relStep (k : Nat) (rec : List (Minterm α) → Fam α) (ms : List (Minterm α)) : Fam α :=
  if ms.all (fun m => uDC k m && pDC k m) then redF S zero (2*k+1) (redF S zero (2*k) (rec ms))
  else if ms.all (fun m => uDC k m && pChg k m) then identF S zero dflt k (rec ms)
  else
    let cu : Fam α := nodeF S zero (2*k+1) (fun i =>
      let gi := ms.filter (uFix k i)
      if gi.isEmpty then constF S zero dflt (2*k+1)
      else
        let cp := cpF S zero dflt k rec (fun j => gi.filter (pFix k j))
        if (gi.filter (pDC k)).isEmpty then cp
        else opF S zero op (2*k+1) (redF S zero (2*k) (rec (gi.filter (pDC k)))) cp)
    let gx := ms.filter (uDC k)
    if gx.isEmpty then cu
    else
      let x0 : Fam α := redF S zero (2*k+1) (cpF S zero dflt k rec (fun j => gx.filter (pFix k j)))
      let x1 : Fam α := if (gx.filter (pDC k)).isEmpty then x0
        else opF S zero op (2*k+2) (redF S zero (2*k+1) (redF S zero (2*k) (rec (gx.filter (pDC k))))) x0
      let x2 : Fam α := if (gx.filter (pChg k)).isEmpty then x1
        else opF S zero op (2*k+2) (identF S zero dflt k (rec (gx.filter (pChg k)))) x1
      opF S zero op (2*k+2) x2 cu

/-- `fbuilder<OP>::createEdgeRel(L, low, high)` on the sub-collection `ms` -/
def buildRel : Nat → List (Minterm α) → Fam α
  | 0, ms => fun _ => .leaf (finalize op dflt ms)
  | k+1, ms =>
    match ms with
    | [m] => pathRel S zero dflt m (k+1)        -- "only one minterm left"
    | _ => relStep S zero op dflt k (buildRel k) ms

/-- semantics of a single minterm path (code view): per variable -/
def pathRelSem (m : Minterm α) : Nat → Assign → α
  | 0, _ => m.val
  | k+1, a =>
    match m.at (2*k+1) with
    | .dontChange => if a (2*k+1) = a (2*k+2) then pathRelSem m k a else dflt
    | p =>
      let prV : α :=
        match p with
        | .fixed j0 => if a (2*k+1) = j0 then pathRelSem m k a else dflt
        | _ => pathRelSem m k a
      match m.at (2*k+2) with
      | .fixed i0 => if a (2*k+2) = i0 then prV else dflt
      | _ => prV

def cpS (k : Nat) (recS : List (Minterm α) → Assign → α) (grp : Nat → List (Minterm α)) (a : Assign) : α :=
  if (grp (a (2*k+1))).isEmpty then dflt else recS (grp (a (2*k+1))) a

/-- the function `relStep` computes -/
def relStepSem (k : Nat) (recS : List (Minterm α) → Assign → α) (ms : List (Minterm α)) (a : Assign) : α :=
  if ms.all (fun m => uDC k m && pDC k m) then recS ms a
  else if ms.all (fun m => uDC k m && pChg k m) then
    (if a (2*k+1) = a (2*k+2) then recS ms a else dflt)
  else
    let gi := ms.filter (uFix k (a (2*k+2)))
    let e : α :=
      if gi.isEmpty then dflt
      else
        let cp := cpS dflt k recS (fun j => gi.filter (pFix k j)) a
        if (gi.filter (pDC k)).isEmpty then cp else op (recS (gi.filter (pDC k)) a) cp
    let gx := ms.filter (uDC k)
    if gx.isEmpty then e
    else
      let x0 := cpS dflt k recS (fun j => gx.filter (pFix k j)) a
      let x1 := if (gx.filter (pDC k)).isEmpty then x0 else op (recS (gx.filter (pDC k)) a) x0
      let x2 := if (gx.filter (pChg k)).isEmpty then x1
        else op (if a (2*k+1) = a (2*k+2) then recS (gx.filter (pChg k)) a else dflt) x1
      op x2 e

/-- the function `buildRel` computes, written as a recursion on assignments -/
def semRel : Nat → List (Minterm α) → Assign → α
  | 0, ms, _ => finalize op dflt ms
  | k+1, ms, a =>
    match ms with
    | [m] => pathRelSem dflt m (k+1) a
    | _ => relStepSem op dflt k (semRel k) ms a

variable {S zero op dflt}

theorem identF_good (hS : S.WF) {k : Nat} (hk : 2*k+2 ≤ S.top) {low : Fam α} {g : Assign → α}
    (h : Good S zero (2*k) low g) :
    Good S zero (2*k+2) (identF S zero dflt k low)
      (fun x => if x (2*k+1) = x (2*k+2) then g x else dflt) :=
  Good.node hS hk fun i _ => Good.ite_node hS (by omega) i h (Good.const hS dflt (2*k) (by omega))

theorem pathRel_good (hS : S.WF) (m : Minterm α) :
    ∀ k, 2*k ≤ S.top → Good S zero (2*k) (pathRel S zero dflt m k) (pathRelSem dflt m k)
  | 0, _ => (Good.leaf m.val).congr (fun _ _ => rfl)
  | k+1, hk => by
    have ih := pathRel_good hS m k (by omega)
    have hk0 : 2*k+1 ≤ S.top := by omega
    have hc0 := Good.const (zero := zero) hS dflt (2*k) (by omega)
    have hc1 := Good.const (zero := zero) hS dflt (2*k+1) hk0
    show Good S zero (2*k+2) _ (fun a => pathRelSem dflt m (k+1) a)
    unfold pathRel pathRelSem
    cases m.at (2*k+1) with
    | dontChange => exact identF_good hS hk ih
    | fixed j0 =>
      have hp := Good.ite_node hS hk0 j0 ih hc0
      cases m.at (2*k+2) with
      | fixed i0 => exact Good.ite_node hS hk i0 hp hc1
      | dontCare | dontChange => exact Good.red1 hS hk hp
    | dontCare =>
      have hp := Good.red1 hS hk0 ih
      cases m.at (2*k+2) with
      | fixed i0 => exact Good.ite_node hS hk i0 hp hc1
      | dontCare | dontChange => exact Good.red1 hS hk hp

theorem cpF_good (hS : S.WF) {k : Nat} (hk : 2*k+1 ≤ S.top) {rec : List (Minterm α) → Fam α}
    {recS : List (Minterm α) → Assign → α} (hr : ∀ ms, Good S zero (2*k) (rec ms) (recS ms))
    (grp : Nat → List (Minterm α)) :
    Good S zero (2*k+1) (cpF S zero dflt k rec grp) (cpS dflt k recS grp) :=
  Good.node hS hk fun j _ =>
    Good.ite ((grp j).isEmpty = true) (Good.const hS dflt (2*k) (by omega)) (hr (grp j))

theorem relStep_good (hS : S.WF) {k : Nat} (hk : 2*k+2 ≤ S.top) {rec : List (Minterm α) → Fam α}
    {recS : List (Minterm α) → Assign → α} (hr : ∀ ms, Good S zero (2*k) (rec ms) (recS ms))
    (ms : List (Minterm α)) :
    Good S zero (2*k+2) (relStep S zero op dflt k rec ms) (relStepSem op dflt k recS ms) := by
  have hk0 : 2*k+1 ≤ S.top := by omega
  have hcp := fun grp => cpF_good (dflt := dflt) hS hk0 hr grp
  have hrr := fun l => Good.red1 hS hk (Good.red1 hS hk0 (hr l))
  have hcu := Good.node (zero := zero) hS hk fun i _ =>
    Good.ite ((ms.filter (uFix k i)).isEmpty = true) (Good.const hS dflt (2*k+1) hk0)
      (Good.ite (((ms.filter (uFix k i)).filter (pDC k)).isEmpty = true)
        (hcp fun j => (ms.filter (uFix k i)).filter (pFix k j))
        (Good.op hS op hk0 (Good.red1 hS hk0 (hr ((ms.filter (uFix k i)).filter (pDC k))))
          (hcp fun j => (ms.filter (uFix k i)).filter (pFix k j))))
  have hx0 := Good.red1 hS hk (hcp fun j => (ms.filter (uDC k)).filter (pFix k j))
  have hx1 := Good.ite (((ms.filter (uDC k)).filter (pDC k)).isEmpty = true) hx0
    (Good.op hS op hk (hrr ((ms.filter (uDC k)).filter (pDC k))) hx0)
  exact Good.ite _ (hrr ms) (Good.ite _ (identF_good hS hk (hr ms)) (Good.ite _ hcu
    (Good.op hS op hk (Good.ite _ hx1 (Good.op hS op hk (identF_good hS hk (hr _)) hx1)) hcu)))

theorem buildRel_good (hS : S.WF) :
    ∀ k, 2*k ≤ S.top → ∀ ms : List (Minterm α),
      Good S zero (2*k) (buildRel S zero op dflt k ms) (semRel op dflt k ms)
  | 0, _, ms => (Good.leaf _).congr (fun _ _ => rfl)
  | k+1, hk, ms => by
    have ih := buildRel_good hS k (by omega)
    show Good S zero (2*k+2) _ (fun a => semRel op dflt (k+1) ms a)
    unfold buildRel semRel
    split
    · exact pathRel_good hS _ (k+1) hk
    · exact relStep_good hS (by omega) ih ms

/-! ### Under the contract the relation recursion is the specification -/

theorem entryOK_primed (e : Entry) (a : Assign) (p : Nat) :
    entryOK e a p = (e == .dontCare || e == .fixed (a p) || (e == .dontChange && decide (a p = a (p+1)))) := by
  cases e with
  | fixed v =>
    show (a p == v) = (false || Entry.fixed v == .fixed (a p) || false)
    rw [Bool.false_or, Bool.or_false, beq_fixed]
  | dontCare => rfl
  | dontChange => exact (Bool.true_and _).symm

/-- unprimed entry `DONT_CARE` or fixed, primed entry `DONT_CARE`, fixed or `DONT_CHANGE` (on the
    diagonal `e`), no `DONT_CHANGE` under a fixed unprimed entry: the five groups of `relStep` -/
theorem groups_bool : ∀ {uD uF pD pF pC e : Bool}, (pC = true → uF = false) →
    ((uD || uF) && (pD || pF || (pC && e)))
      = (((e && pC || (pD || pF)) && uD) || ((pD || pF) && uF)) := by decide

/-- the contribution of a legal minterm over variable `k+1`, by the group `relStep` sorts it into -/
theorem cK_two (m : Minterm α) (hm : RelLegal m) (a : Assign) (k : Nat) :
    cK dflt a (2*k+2) m =
      if ((decide (a (2*k+1) = a (2*k+2)) && pChg k m || (pDC k m || pFix k (a (2*k+1)) m)) && uDC k m)
          || ((pDC k m || pFix k (a (2*k+1)) m) && uFix k (a (2*k+2)) m)
      then cK dflt a (2*k) m else dflt := by
  have hc : pChg k m = true → uFix k (a (2*k+2)) m = false := fun h => by
    unfold uFix; rw [(hm k).2 (eq_of_beq h)]; rfl
  rw [← groups_bool hc]
  show cK dflt a (2*k+1+1) m = _
  rw [cK_succ, cK_succ, entryOK_of_ne (hm k).1, entryOK_primed]
  unfold uDC uFix pDC pFix pChg
  cases (notFixE (m.at (2*k+2)) || m.at (2*k+2) == .fixed (a (2*k+2))) <;> rfl

theorem pathRelSem_eq (m : Minterm α) (hm : RelLegal m) (a : Assign) :
    ∀ k, pathRelSem dflt m k a = cK dflt a (2*k) m
  | 0 => rfl
  | k+1 => by
    show pathRelSem dflt m (k+1) a = cK dflt a (2*k+1+1) m
    rw [cK_succ, cK_succ, pathRelSem, pathRelSem_eq m hm a k]
    obtain ⟨hu1, hu2⟩ := hm k
    cases hp : m.at (2*k+1) with
    | dontChange => simp only [hu2 hp, entryOK, beq_iff_eq, if_true]
    | fixed j0 =>
      cases hu : m.at (2*k+2) with
      | dontChange => exact absurd hu hu1
      | fixed i0 => simp only [entryOK, beq_iff_eq]
      | dontCare => simp only [entryOK, beq_iff_eq, if_true]
    | dontCare =>
      cases hu : m.at (2*k+2) with
      | dontChange => exact absurd hu hu1
      | fixed i0 => simp only [entryOK, beq_iff_eq, if_true]
      | dontCare => simp only [entryOK, if_true]

theorem relStepSem_eq_big (hL : SemiLat op) (a : Assign) (k : Nat)
    (recS : List (Minterm α) → Assign → α) (ms : List (Minterm α))
    (hd : defaultOK op dflt ms) (hl : ∀ m, m ∈ ms → RelLegal m)
    (hrec : ∀ ms' : List (Minterm α), (∀ m, m ∈ ms' → m ∈ ms) →
      recS ms' a = big op dflt ms' (cK dflt a (2*k))) :
    relStepSem op dflt k recS ms a = big op dflt ms (cK dflt a (2*k+2)) := by
  have hn : ∀ m, m ∈ ms → op dflt (cK dflt a (2*k) m) = cK dflt a (2*k) m :=
    fun m hm => cK_neutral hL a _ m (hd m hm)
  unfold relStepSem
  by_cases h1 : ms.all (fun m => uDC k m && pDC k m) = true
  · rw [if_pos h1, hrec ms (fun _ h => h)]
    refine big_congr fun m hm => ?_
    obtain ⟨hu, hp⟩ := Bool.and_eq_true_iff.mp (List.all_eq_true.mp h1 m hm)
    rw [cK_two m (hl m hm), hu, hp]
    simp only [Bool.true_or, Bool.or_true, Bool.and_true, if_true]
  · rw [if_neg h1]
    by_cases h2 : ms.all (fun m => uDC k m && pChg k m) = true
    · rw [if_pos h2]
      have hpt : ∀ m, m ∈ ms → cK dflt a (2*k+2) m =
          if a (2*k+1) = a (2*k+2) then cK dflt a (2*k) m else dflt := fun m hm => by
        have hp : m.at (2*k+1) = .dontChange :=
          eq_of_beq (Bool.and_eq_true_iff.mp (List.all_eq_true.mp h2 m hm)).2
        show cK dflt a (2*k+1+1) m = _
        rw [cK_succ, cK_succ, hp, (hl m hm k).2 hp]
        simp only [entryOK, beq_iff_eq, if_true]
      by_cases e : a (2*k+1) = a (2*k+2)
      · rw [if_pos e, hrec ms (fun _ h => h)]
        exact big_congr fun m hm => by rw [hpt m hm, if_pos e]
      · rw [if_neg e, big_congr fun m hm => (hpt m hm).trans (if_neg e), big_const hL]
    · rw [if_neg h2]
      -- every piece is the accumulation of `cK … (2k)` over a selection of a selection of `ms`
      have hr : ∀ q q', recS ((ms.filter q).filter q') a
          = big op dflt ((ms.filter q).filter q') (cK dflt a (2*k)) :=
        fun q q' => hrec _ fun m hm => (List.mem_filter.mp (List.mem_filter.mp hm).1).1
      have hnf : ∀ q m, m ∈ ms.filter q → op dflt (cK dflt a (2*k) m) = cK dflt a (2*k) m :=
        fun q m hm => hn m (List.mem_filter.mp hm).1
      dsimp only
      simp only [cpS, hr, big_isEmpty (Nat.le_refl _)]
      -- `Cp` accumulated with the (·, DONT_CARE) group, under unprimed DONT_CARE and under a fixed value;
      -- then the (DONT_CARE, DONT_CHANGE) group, on the diagonal only; then the two halves
      rw [big_opt hL (Nat.le_refl _), big_filter_or hL (hnf _),
        big_opt hL (Nat.le_refl _), big_filter_or hL (hnf _),
        ← big_filter_const, big_isEmpty (List.length_filter_le _ _),
        big_opt hL (List.length_filter_le _ _),
        List.filter_filter (q := pChg k), big_filter_or hL (hnf _),
        big_opt hL (List.length_filter_le _ _), List.filter_filter, List.filter_filter,
        big_filter_or hL hn]
      exact big_filter_eq hL _ fun m hm => (cK_two m (hl m hm) a k).symm
theorem semRel_eq_big (hL : SemiLat op) (a : Assign) :
    ∀ (k : Nat) (ms : List (Minterm α)), defaultOK op dflt ms → (∀ m, m ∈ ms → RelLegal m) →
      semRel op dflt k ms a = big op dflt ms (cK dflt a (2*k))
  | 0, ms, hd, _ => (foldOpt_eq_big _ hd).trans (big_congr fun _ _ => rfl)
  | k+1, ms, hd, hl => by
    have ih := semRel_eq_big hL a k
    unfold semRel
    split
    · next m =>
      rw [pathRelSem_eq m (hl m (List.mem_singleton.mpr rfl)) a (k+1)]
      exact (cK_neutral hL a _ m (hd m (List.mem_singleton.mpr rfl))).symm
    · exact relStepSem_eq_big hL a k _ ms hd hl
        (fun ms' hsub => ih ms' (fun m hm => hd m (hsub m hm)) (fun m hm => hl m (hsub m hm)))

end RelBuilder

/-! ## `createEdgeForVar`, top-level entry points -/

section Top
variable (S : Shape) (zero : α)

/-- `forest::createEdgeForVar` for the variable at position `p` (`2·level` / `2·level-1` for an
    unprimed / primed variable of a relation): a node at `p` whose child `i` is the constant
    `terms i`, redundant nodes above. -/
def varF (terms : Nat → α) (p : Nat) : Nat → Fam α
  | 0 => fun _ => .leaf zero
  | k+1 => if k+1 = p then nodeF S zero k (fun i => constF S zero (terms i) k)
           else redF S zero k (varF terms p k)

/-- `forest::createEdgeForVar(vh, pr, terms, e)` -/
def createEdgeForVar (terms : Nat → α) (p : Nat) : DD α := varF S zero terms p S.top none

/-- `forest::createConstant(v, e)` -/
def createConstant (v : α) : DD α := constF S zero v S.top none

/-- `minterm::buildFunction(dflt, e)`; `rel`: the forest is a relation forest -/
def buildMinterm (rel : Bool) (dflt : α) (m : Minterm α) : DD α :=
  if rel then pathRel S zero dflt m (S.top / 2) none else pathSet S zero dflt m S.top none

/-- `minterm_coll::buildFunctionMax / Min (dflt, e)` with `op` = max / min.  (The code's special
    case for the empty collection, `createConstant(dflt)`, is what the recursion yields for `[]`.) -/
def buildColl (rel : Bool) (op : α → α → α) (dflt : α) (ms : List (Minterm α)) : DD α :=
  if rel then buildRel S zero op dflt (S.top / 2) ms none else buildSet S zero op dflt S.top ms none

end Top

/-- what `buildColl` computes (inside and outside the documented contract) -/
def semColl (rel : Bool) (op : α → α → α) (dflt : α) (top : Nat) (ms : List (Minterm α)) (a : Assign) : α :=
  if rel then semRel op dflt (top / 2) ms a else semSet op dflt top ms a

/-- legal minterms for a set / relation forest -/
def Legal (rel : Bool) (m : Minterm α) : Prop := if rel then RelLegal m else SetLegal m

section TopProofs
variable {S : Shape} {zero : α} {op : α → α → α} {dflt : α}

theorem varF_good (hS : S.WF) (terms : Nat → α) (p : Nat) (hp : 1 ≤ p) :
    ∀ k, k ≤ S.top → p ≤ k → Good S zero k (varF S zero terms p k) (fun x => terms (x p))
  | 0, _, h => by omega
  | k+1, hk, h => by
    unfold varF
    by_cases e : k+1 = p
    · rw [if_pos e]
      subst e
      exact Good.node hS hk fun i _ => Good.const hS (terms i) k (by omega)
    · rw [if_neg e]
      exact Good.red1 hS hk (varF_good hS terms p hp k (by omega) (by omega))

theorem top_not_ident (hS : S.WF) : S.mode S.top ≠ .ident := hS.top_not_ident (Nat.le_refl _)

theorem Good.top_eval (hS : S.WF) {t : Fam α} {g : Assign → α} (h : Good S zero S.top t g)
    (a : Assign) (ha : Assign.Valid S a) : DD.eval S zero S.top (t none) a = g a :=
  h.eval none a ha (fun hm => absurd hm (top_not_ident hS))

theorem Good.top_red (hS : S.WF) {t : Fam α} {g : Assign → α} (h : Good S zero S.top t g) :
    Red S zero S.top none (t none) = true :=
  h.red none (fun _ => top_not_ident hS)

theorem big_perm (hL : SemiLat op) {ms ms' : List (Minterm α)} (hp : ms.Perm ms') (c : Minterm α → α) :
    big op dflt ms c = big op dflt ms' c := by
  unfold big bigFrom
  apply List.Perm.foldl_eq' hp
  intro x _ y _ z
  rw [hL.assoc, hL.assoc, hL.comm (c x)]

theorem buildColl_good (hS : S.WF) (rel : Bool) (hrel : rel = true → S.top % 2 = 0)
    (ms : List (Minterm α)) :
    Good S zero S.top (fun fi => if rel then buildRel S zero op dflt (S.top / 2) ms fi
      else buildSet S zero op dflt S.top ms fi) (semColl rel op dflt S.top ms) := by
  cases rel with
  | false => exact buildSet_good hS S.top (Nat.le_refl _) ms
  | true =>
    have h2 : 2 * (S.top / 2) = S.top := by have := hrel rfl; omega
    have := buildRel_good (zero := zero) (op := op) (dflt := dflt) hS (S.top / 2) (by omega) ms
    rwa [h2] at this

theorem semColl_eq_spec (hL : SemiLat op) (rel : Bool) (top : Nat) (hrel : rel = true → top % 2 = 0)
    (ms : List (Minterm α)) (hd : defaultOK op dflt ms) (hl : ∀ m, m ∈ ms → Legal rel m) (a : Assign) :
    semColl rel op dflt top ms a = specColl op top ms dflt a := by
  rw [specColl_eq_big hL top ms hd a]
  cases rel with
  | false => exact semSet_eq_big hL a top ms hd hl
  | true =>
    have h2 : 2 * (top / 2) = top := by have := hrel rfl; omega
    have := semRel_eq_big hL a (top / 2) ms hd hl
    rwa [h2] at this

end TopProofs

/-! ## Concrete shapes and collections for the non-vacuity examples -/
namespace Examples

/-- set forest, two variables of sizes 2 (bottom) and 3, fully reduced -/
def SS : Shape := { top := 2, size := fun p => if p = 2 then 3 else 2, mode := fun _ => .red }
theorem SS_WF : SS.WF where
  size_ge := by intro p h1 h2; show 2 ≤ (if p = 2 then 3 else 2); split <;> omega
  ident_below_red := nofun

/-- set forest, quasi reduced -/
def SQ : Shape := { top := 2, size := fun p => if p = 2 then 3 else 2, mode := fun _ => .none }
theorem SQ_WF : SQ.WF where
  size_ge := by intro p h1 h2; show 2 ≤ (if p = 2 then 3 else 2); split <;> omega
  ident_below_red := nofun

/-- relation forest, one variable of size 2 (positions 2 = unprimed, 1 = primed), identity reduced -/
def SI : Shape := { top := 2, size := fun _ => 2, mode := fun p => if p = 1 then .ident else .red }
theorem SI_WF : SI.WF where
  size_ge := by intro p _ _; exact Nat.le_refl 2
  ident_below_red := by
    intro p h
    by_cases e : p = 1
    · subst e
      exact ⟨Nat.le_refl _, Nat.le_refl _, rfl, rfl⟩
    · have : (if p = 1 then Mode.ident else Mode.red) = .ident := h
      rw [if_neg e] at this; cases this

/-- relation forest, one variable of size 2, fully reduced -/
def SF : Shape := { top := 2, size := fun _ => 2, mode := fun _ => .red }
theorem SF_WF : SF.WF where
  size_ge := by intro p _ _; exact Nat.le_refl 2
  ident_below_red := nofun

/-- assignment from a list of values for positions 1, 2, … -/
def asg (l : List Nat) : Assign := fun p => l.getD (p - 1) 0

/-- set minterms over `SS`: (x₂ = don't care, x₁ = 0) ↦ 1 and (x₂ = 0, x₁ = 1) ↦ 7 -/
def msA : List (Minterm Int) := [⟨[.fixed 0, .dontCare], 1⟩, ⟨[.fixed 1, .fixed 0], 7⟩]

/-- relation minterms over one variable: (x, x' = x) ↦ 3, (x = 1, x' = don't care) ↦ 4, (0 → 1) ↦ 9 -/
def msR : List (Minterm Int) :=
  [⟨[.dontChange, .dontCare], 3⟩, ⟨[.dontCare, .fixed 1], 4⟩, ⟨[.fixed 1, .fixed 0], 9⟩]

end Examples

/-! ## Property theorems -/
section Props
open Examples
variable {S : Shape} {zero : α} {op : α → α → α} {dflt : α}

/-- **What the collection builder computes, contract or not.**  For every forest shape (any number
    of variables, any sizes ≥ 2, fully / quasi / identity reduced), every collection and every
    default, the tree built by the model of `fbuilder::createEdgeSet / createEdgeRel` evaluates at
    every assignment to the semantic recursion `semColl` (the same partition, read on assignments). -/
theorem buildColl_sem (hS : S.WF) (rel : Bool) (hrel : rel = true → S.top % 2 = 0)
    (ms : List (Minterm α)) (a : Assign) (ha : Assign.Valid S a) :
    DD.eval S zero S.top (buildColl S zero rel op dflt ms) a = semColl rel op dflt S.top ms a :=
  (buildColl_good hS rel hrel ms).top_eval hS a ha

example : DD.eval SS (0:Int) 2 (buildColl SS 0 false max 0 msA) (asg [0, 2]) = 1 := by decide +kernel
example : DD.eval SI (0:Int) 2 (buildColl SI 0 true max 0 msR) (asg [1, 1]) = 4 := by decide +kernel

/-- **C03, collections.**  Under the documented contract of `buildFunctionMax` / `buildFunctionMin`
    (`defaultOK`: the default is ≤ / ≥ every value) the function built from a collection of legal
    minterms has, at every assignment of the domain, the max / min of the values of the matching
    minterms, and the default where none matches — for every domain, forest kind and collection. -/
theorem buildColl_eval (hS : S.WF) (hL : SemiLat op) (rel : Bool) (hrel : rel = true → S.top % 2 = 0)
    (ms : List (Minterm α)) (hd : defaultOK op dflt ms) (hl : ∀ m, m ∈ ms → Legal rel m)
    (a : Assign) (ha : Assign.Valid S a) :
    DD.eval S zero S.top (buildColl S zero rel op dflt ms) a = specColl op S.top ms dflt a := by
  rw [buildColl_sem hS rel hrel ms a ha, semColl_eq_spec hL rel S.top hrel ms hd hl a]

example : defaultOK (max : Int → Int → Int) 0 msR := by decide +kernel
example : (List.range 4).map (fun i => DD.eval SI (0:Int) 2 (buildColl SI 0 true max 0 msR) (asg [i % 2, i / 2]))
    = [3, 9, 4, 4] ∧
    (List.range 4).map (fun i => specColl max 2 msR 0 (asg [i % 2, i / 2])) = [3, 9, 4, 4] := by decide +kernel

/-- **The built tree is in reduced (canonical) form** for the forest's rule. -/
theorem buildColl_red (hS : S.WF) (rel : Bool) (hrel : rel = true → S.top % 2 = 0)
    (ms : List (Minterm α)) :
    Red S zero S.top none (buildColl S zero rel op dflt ms) = true :=
  (buildColl_good hS rel hrel ms).top_red hS

example : Red SI (0:Int) 2 none (buildColl SI 0 true max 0 msR) = true := by decide +kernel

/-- **The result does not depend on the order of the collection** (the code permutes it in
    place): permuted collections give the identical tree, hence (`DD.canon`) the identical edge. -/
theorem buildColl_perm (hS : S.WF) (hL : SemiLat op) (rel : Bool) (hrel : rel = true → S.top % 2 = 0)
    {ms ms' : List (Minterm α)} (hp : ms.Perm ms') (hd : defaultOK op dflt ms)
    (hl : ∀ m, m ∈ ms → Legal rel m) :
    buildColl S zero rel op dflt ms = buildColl S zero rel op dflt ms' := by
  apply (canon S zero hS _ _ (buildColl_red hS rel hrel ms) (buildColl_red hS rel hrel ms')).mp
  intro a ha
  have hd' : defaultOK op dflt ms' := fun m hm => hd m (hp.symm.subset hm)
  have hl' : ∀ m, m ∈ ms' → Legal rel m := fun m hm => hl m (hp.symm.subset hm)
  rw [buildColl_eval hS hL rel hrel ms hd hl a ha, buildColl_eval hS hL rel hrel ms' hd' hl' a ha,
    specColl_eq_big hL _ _ hd, specColl_eq_big hL _ _ hd', big_perm hL hp]

example : buildColl SI (0:Int) true max 0 msR = buildColl SI 0 true max 0 msR.reverse := by decide +kernel

theorem buildMinterm_good (hS : S.WF) (rel : Bool) (hrel : rel = true → S.top % 2 = 0)
    (m : Minterm α) (hm : Legal rel m) :
    Good S zero S.top (fun fi => if rel then pathRel S zero dflt m (S.top / 2) fi
      else pathSet S zero dflt m S.top fi) (specSingle S.top m dflt) := by
  cases rel with
  | false => exact pathSet_good hS m hm S.top (Nat.le_refl _)
  | true =>
    have h2 : 2 * (S.top / 2) = S.top := by have := hrel rfl; omega
    have hg := pathRel_good (zero := zero) (dflt := dflt) hS m (S.top / 2) (by omega)
    rw [h2] at hg
    exact hg.congr fun a _ => by rw [pathRelSem_eq m hm a, h2]; rfl

/-- **C03, single minterm** (`minterm::buildFunction`): value of the minterm where it matches
    (fixed / don't-care / don't-change positions), the default elsewhere — no contract needed. -/
theorem buildMinterm_eval (hS : S.WF) (rel : Bool) (hrel : rel = true → S.top % 2 = 0)
    (m : Minterm α) (hm : Legal rel m) (a : Assign) (ha : Assign.Valid S a) :
    DD.eval S zero S.top (buildMinterm S zero rel dflt m) a = specSingle S.top m dflt a :=
  (buildMinterm_good hS rel hrel m hm).top_eval hS a ha

theorem buildMinterm_red (hS : S.WF) (rel : Bool) (hrel : rel = true → S.top % 2 = 0)
    (m : Minterm α) (hm : Legal rel m) :
    Red S zero S.top none (buildMinterm S zero rel dflt m) = true :=
  (buildMinterm_good hS rel hrel m hm).top_red hS

example : (List.range 4).map (fun i =>
      DD.eval SI (0:Int) 2 (buildMinterm SI 0 true 5 ⟨[.dontChange, .dontCare], 3⟩) (asg [i % 2, i / 2]))
    = [3, 5, 5, 3] := by decide +kernel
example : (List.range 6).map (fun i =>
      DD.eval SQ (0:Int) 2 (buildMinterm SQ 0 false (-1) ⟨[.dontCare, .fixed 2], 8⟩) (asg [i % 2, i / 2]))
    = [-1, -1, -1, -1, 8, 8] := by decide +kernel

/-- **C03, constants** (`forest::createConstant`). -/
theorem constant_eval (hS : S.WF) (v : α) (a : Assign) (ha : Assign.Valid S a) :
    DD.eval S zero S.top (createConstant S zero v) a = specConst v a :=
  (Good.const hS v S.top (Nat.le_refl _)).top_eval hS a ha

theorem constant_red (hS : S.WF) (v : α) : Red S zero S.top none (createConstant S zero v) = true :=
  (Good.const hS v S.top (Nat.le_refl _)).top_red hS

example : createConstant SQ (0:Int) 4 = .node 2 [.node 1 [.leaf 4, .leaf 4], .node 1 [.leaf 4, .leaf 4],
    .node 1 [.leaf 4, .leaf 4]] := by decide +kernel
example : createConstant SI (0:Int) 4 = .node 1 [.leaf 4, .leaf 4] := by decide +kernel

/-- **C03, variables** (`forest::createEdgeForVar`, primed or unprimed, with or without a `terms`
    array): the function returns `terms[value of that variable]`. -/
theorem edgeForVar_eval (hS : S.WF) (terms : Nat → α) (p : Nat) (hp1 : 1 ≤ p) (hp2 : p ≤ S.top)
    (a : Assign) (ha : Assign.Valid S a) :
    DD.eval S zero S.top (createEdgeForVar S zero terms p) a = specVar terms p a :=
  (varF_good hS terms p hp1 S.top (Nat.le_refl _) hp2).top_eval hS a ha

theorem edgeForVar_red (hS : S.WF) (terms : Nat → α) (p : Nat) (hp1 : 1 ≤ p) (hp2 : p ≤ S.top) :
    Red S zero S.top none (createEdgeForVar S zero terms p) = true :=
  (varF_good hS terms p hp1 S.top (Nat.le_refl _) hp2).top_red hS

/-- the primed variable of an identity-reduced relation with terms [0, 5]: the singleton primed node
    may not hang below index 1 of the unprimed node (`check_singleton` in `_makeRedundantsTo`) -/
example : createEdgeForVar SI (0:Int) (fun i => if i = 1 then 5 else 0) 1
    = .node 2 [.node 1 [.leaf 0, .leaf 5], .leaf 5] := by decide +kernel
example : (List.range 4).map (fun i =>
      DD.eval SI (0:Int) 2 (createEdgeForVar SI 0 (fun i => if i = 1 then 5 else 0) 1) (asg [i % 2, i / 2]))
    = [0, 5, 0, 5] := by decide +kernel

/-- **The guard of `buildColl_eval` is needed**: with default 5 above the value 1 of a minterm with a
    don't-care entry (outside the contract of `buildFunctionMax`), the point (x₂=1, x₁=0), matched
    only by that minterm, evaluates to 5 = max(default, 1) instead of 1 — in the model as in the
    library (harness family `build`, case `offcontract-witness`). -/
example : ¬ defaultOK (max : Int → Int → Int) 5 msA ∧
    DD.eval SS (0:Int) 2 (buildColl SS 0 false max 5 msA) (asg [0, 1]) = 5 ∧
    specColl max 2 msA 5 (asg [0, 1]) = 1 := by decide +kernel

/-! ### The contract and the theorem for the concrete value types -/

/-- order of the EV+ values: `none` (+infinity) on top -/
def leInf : IntInf → IntInf → Prop
  | _, none => True
  | none, some _ => False
  | some a, some b => a ≤ b

/-- `defaultOK` for integer `buildFunctionMax` is literally the documented "default ≤ every value" -/
theorem defaultOK_intMax (dflt : Int) (ms : List (Minterm Int)) :
    defaultOK max dflt ms ↔ ∀ m, m ∈ ms → dflt ≤ m.val :=
  forall₂_congr fun m _ => by omega

/-- … and for `buildFunctionMin` "default ≥ every value" -/
theorem defaultOK_intMin (dflt : Int) (ms : List (Minterm Int)) :
    defaultOK min dflt ms ↔ ∀ m, m ∈ ms → m.val ≤ dflt :=
  forall₂_congr fun m _ => by omega

theorem defaultOK_maxInf (dflt : IntInf) (ms : List (Minterm IntInf)) :
    defaultOK maxInf dflt ms ↔ ∀ m, m ∈ ms → leInf dflt m.val :=
  forall₂_congr fun m _ => by
    cases dflt <;> cases m.val <;> simp [maxInf, leInf] <;> omega

theorem defaultOK_minInf (dflt : IntInf) (ms : List (Minterm IntInf)) :
    defaultOK minInf dflt ms ↔ ∀ m, m ∈ ms → leInf m.val dflt :=
  forall₂_congr fun m _ => by
    cases dflt <;> cases m.val <;> simp [minInf, leInf] <;> omega

/-- **`buildFunctionMax` on integer forests** (MT int): with `deflt ≤` every value, the maximum of
    the matching minterms' values, `deflt` where none matches. -/
theorem buildFunctionMax_int (hS : S.WF) (rel : Bool) (hrel : rel = true → S.top % 2 = 0)
    (dflt : Int) (ms : List (Minterm Int)) (hd : ∀ m, m ∈ ms → dflt ≤ m.val)
    (hl : ∀ m, m ∈ ms → Legal rel m) (a : Assign) (ha : Assign.Valid S a) :
    DD.eval S (0:Int) S.top (buildColl S 0 rel max dflt ms) a = specColl max S.top ms dflt a :=
  buildColl_eval hS semiLat_intMax rel hrel ms ((defaultOK_intMax dflt ms).mpr hd) hl a ha

/-- **`buildFunctionMin` on EV+ forests** (values with +infinity, transparent value +infinity):
    with `deflt ≥` every value — in particular `deflt = +infinity` — the minimum of the matching
    minterms' values, `deflt` where none matches. -/
theorem buildFunctionMin_evplus (hS : S.WF) (rel : Bool) (hrel : rel = true → S.top % 2 = 0)
    (dflt : IntInf) (ms : List (Minterm IntInf)) (hd : ∀ m, m ∈ ms → leInf m.val dflt)
    (hl : ∀ m, m ∈ ms → Legal rel m) (a : Assign) (ha : Assign.Valid S a) :
    DD.eval S (none : IntInf) S.top (buildColl S none rel minInf dflt ms) a = specColl minInf S.top ms dflt a :=
  buildColl_eval hS semiLat_minInf rel hrel ms ((defaultOK_minInf dflt ms).mpr hd) hl a ha

/-- EV+ relation, one variable: `(0→0) ↦ 2`, `(x, x'=x) ↦ +infinity`, `(1→x) ↦ 5`, default +infinity -/
example : (List.range 4).map (fun i =>
      DD.eval SI (none : IntInf) 2
        (buildColl SI none true minInf none
          [⟨[.fixed 0, .fixed 0], some 2⟩, ⟨[.dontChange, .dontCare], none⟩, ⟨[.dontCare, .fixed 1], some 5⟩])
        (asg [i % 2, i / 2]))
    = [some 2, none, some 5, some 5] := by decide +kernel

end Props

end Build
end Meddly

/-
#print axioms (lake env lean, Lean 4.33.0):
'Meddly.Build.buildColl_sem' depends on axioms: [propext, Classical.choice, Quot.sound]
'Meddly.Build.buildColl_eval' depends on axioms: [propext, Classical.choice, Quot.sound]
'Meddly.Build.buildColl_red' depends on axioms: [propext, Classical.choice, Quot.sound]
'Meddly.Build.buildColl_perm' depends on axioms: [propext, Classical.choice, Quot.sound]
'Meddly.Build.buildMinterm_eval' depends on axioms: [propext, Classical.choice, Quot.sound]
'Meddly.Build.buildMinterm_red' depends on axioms: [propext, Classical.choice, Quot.sound]
'Meddly.Build.constant_eval' depends on axioms: [propext, Classical.choice, Quot.sound]
'Meddly.Build.constant_red' depends on axioms: [propext, Classical.choice, Quot.sound]
'Meddly.Build.edgeForVar_eval' depends on axioms: [propext, Classical.choice, Quot.sound]
'Meddly.Build.edgeForVar_red' depends on axioms: [propext, Classical.choice, Quot.sound]
'Meddly.Build.semColl_eq_spec' depends on axioms: [propext, Classical.choice, Quot.sound]
'Meddly.Build.buildSet_single' depends on axioms: [propext, Quot.sound]
'Meddly.Build.buildFunctionMax_int' depends on axioms: [propext, Classical.choice, Quot.sound]
'Meddly.Build.buildFunctionMin_evplus' depends on axioms: [propext, Classical.choice, Quot.sound]
-/
