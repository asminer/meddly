/-
  C09 (EV+ part) — one-step image of an EV+ DISTANCE function under a boolean relation:
  `prepost_set_mtrel<EdgeOp_plus<INT>, ev_prepost<INT>>` (operations/prepost_sets.cc,
  operations/prepost_common.h), the instantiation

        accumulate `add`   combine `mul`                unreachable `u`
    ev_prepost    min        r ∧ a < ∞ → a+1 | ∞           ∞

  (the last row of the table in `Ops/Image.lean`, which treats the multi-terminal rows: `imageG`).

  The operand is an EV+ edge `Int × EDD` of a set forest `Ss` (fully or quasi reduced), the
  relation a multi-terminal boolean tree `DD Bool` of a relation forest `Sr` of ANY rule (a
  skipped unprimed position 2k is expanded as redundant, a skipped primed position 2k-1 as
  redundant or as identity: `DD.cofactor` twice per variable, the tree-level
  `rel_node::outgoing`), the result an EV+ edge of the result forest `Sc`.

  `imageEVRec` follows the loop nest of `_compute` (`FORWD`: C[j] = min(C[j], A[i]·B[i][j]);
  backward: C[i] = min(C[i], B[i][j]·A[j])):
    * the incoming edge value is pushed down to the children (`cofactorE`;  the code keeps it
      outside and adds it back with `EOP::accumulateOp(cv, av)` — on trees the same function);
    * the terminal case is `ev_prepost::apply`: copy, and `cv.add(1)` unless the copy is ∞;
      a false relation terminal or an ∞ operand gives `setUnreachable` = the edge (0, ∞);
    * result entries start as `setAllUnreachable` = (0, ∞) and are accumulated with the EV+
      `MINIMUM` of the result forest (`accumE` = a fold of `applyE2 minO`);
    * the node is built by `createReducedNode` = `mkNodeEV` (`normalize_evplus`: the minimum is
      pulled up to the returned edge value; an all-∞ node is the edge (0, ∞)).

  Theorems
    `imageEVRec_fold`  the denotation at `y` is the `minO`-fold over all operand states `x` of
                       `stepE (d x) (R (x,y))`                      (analogue of `imageG_eval`)
    `imageEV_eval`     result y = 1 + min { d x | R x y }, ∞ if there is none
                                                                     (analogue of `distDD_eval`)
    `imageEV_red`      the result is a reduced edge (`RedEdge`) of the result forest
    `imageEV_unique`   any reduced edge with that denotation IS the model's result (`EDD.canon`)
    `imageEV_empty`    the image under the EMPTY relation is the canonical ∞ edge `(0, inf)`
                       (the known finding: not an edge `(v, inf)` with a stale value `v`)
-/
import MeddlyModel.Ops.EVApply
import MeddlyModel.Ops.Image

namespace Meddly

namespace EDD

/-- terminal case of `ev_prepost`: no edge of the relation, or an unreachable operand → ∞,
    otherwise the operand distance plus one (`ev_prepost::apply`: copy, then `cv.add(1)`) -/
def stepE (a : Option Int) (r : Bool) : Option Int :=
  if r = true then a.map (· + 1) else none

/-- the `MINIMUM`-accumulation of a list of result edges, starting from "unreachable"
    (`setAllUnreachable` = the edge (0, ∞), then one `addToCi` per operand index) -/
def accumE (Sc : Shape) (k : Nat) (l : List (Int × EDD)) : Int × EDD :=
  l.foldl (fun acc d => applyE2 Sc Sc Sc minO k none acc d) (0, .inf)

/-- `prepost_set_mtrel<EdgeOp_plus, ev_prepost>::_compute` on trees, read from variable `k`
    downwards.  `fwd = true`: post-image; `fwd = false`: pre-image.  Position `2k` of the relation
    is the unprimed, position `2k-1` the primed level of variable `k`. -/
def imageEVRec (Ss Sr Sc : Shape) (fwd : Bool) : Nat → (Int × EDD) → DD Bool → Int × EDD
  | 0, a, b => ofOpt (stepE (leafValE a) (DD.leafVal false b))
  | k+1, a, b =>
    mkNodeEV Sc (k+1) none
      ((List.range (Sc.size (k+1))).map fun res =>
        accumE Sc k
          ((List.range (Ss.size (k+1))).map fun opd =>
            imageEVRec Ss Sr Sc fwd k
              (cofactorE Ss (k+1) none a opd)
              (DD.cofactor Sr false (2*k+1) (some (if fwd then opd else res))
                (DD.cofactor Sr false (2*k+2) none b (if fwd then opd else res))
                (if fwd then res else opd))))

/-- EV+ `POST_IMAGE` (`fwd`) / `PRE_IMAGE` (`¬fwd`) of the distance edge `d` under the boolean
    relation `b`, on whole forest edges -/
def imageEV (Ss Sr Sc : Shape) (fwd : Bool) (d : Int × EDD) (b : DD Bool) : Int × EDD :=
  imageEVRec Ss Sr Sc fwd Sc.top d b

theorem stepE_some_iff (a : Option Int) (q : Bool) (r : Int) :
    stepE a q = some r ↔ q = true ∧ ∃ n, a = some n ∧ r = n + 1 := by
  cases q with
  | false => exact ⟨nofun, fun h => nomatch h.1⟩
  | true =>
    cases a with
    | none => exact ⟨nofun, fun ⟨_, n, hn, _⟩ => nomatch hn⟩
    | some n =>
      show some (n + 1) = some r ↔ _
      constructor
      · intro h; cases h; exact ⟨rfl, n, rfl, rfl⟩
      · rintro ⟨_, m, hm, hr⟩; cases hm; rw [hr]

theorem stepE_true (n : Int) : stepE (some n) true = some (n + 1) := rfl

theorem minO_sel (a b : Option Int) : minO a b = a ∨ minO a b = b := by
  cases a with
  | none => cases b <;> exact .inr rfl
  | some p =>
    cases b with
    | none => exact .inl rfl
    | some q => exact (Arith.min_sel p q).imp (congrArg some) (congrArg some)

/-- `minO` lies below its arguments in the order "if the larger is finite, so is the smaller, and
    at most as large" -/
theorem minO_lowerBound :
    DD.LowerBound minO (fun a b => ∀ n, b = some n → ∃ r, a = some r ∧ r ≤ n) where
  refl := fun _ n h => ⟨n, h, Int.le_refl n⟩
  trans := fun _ _ _ h1 h2 n hn =>
    let ⟨r, hr, hrn⟩ := h2 n hn
    let ⟨r', hr', hrr⟩ := h1 r hr
    ⟨r', hr', Int.le_trans hrr hrn⟩
  left := fun a b n h => by
    subst h
    cases b with
    | none => exact ⟨n, rfl, Int.le_refl n⟩
    | some q => exact ⟨min n q, rfl, Int.min_le_left n q⟩
  right := fun a b n h => by
    subst h
    cases a with
    | none => exact ⟨n, rfl, Int.le_refl n⟩
    | some p => exact ⟨min p n, rfl, Int.min_le_right p n⟩

theorem RedEdge_fi_irrel (S : Shape) (k : Nat) (fi fj : Option Nat) (e : Int × EDD)
    (hm : S.mode k ≠ .ident) : RedEdge S k fi e = RedEdge S k fj e := by
  unfold RedEdge
  rw [Red_fi_irrel S k fi fj e.2 hm]

section
variable {Sc : Shape} {k : Nat} {l : List (Int × EDD)}

theorem accumE_Below : Below k (accumE Sc k l).2 := by
  unfold accumE
  exact DD.foldl_of_step (P := fun e : Int × EDD => Below k e.2) (fun _ _ => applyE2_Below) l _
    (fun _ => Below_inf k)

theorem accumE_eval {y : Assign} (hk : k ≤ Sc.top) (hni : ∀ p, Sc.mode p ≠ .ident)
    (hy : Assign.Valid Sc y) :
    evalEdge Sc k (accumE Sc k l) y = l.foldl (fun v d => minO v (evalEdge Sc k d y)) none := by
  have hstep : ∀ (e d : Int × EDD), minO (evalEdge Sc k e y) (evalEdge Sc k d y)
      = evalEdge Sc k (applyE2 Sc Sc Sc minO k none e d) y := fun e d =>
    (applyE2_eval hk hy
      (fun h => absurd h (hni k)) (fun h => absurd h (hni k)) (fun h => absurd h (hni k))).symm
  unfold accumE
  simpa only [evalEdge_inf] using
    (List.foldl_hom (fun e => evalEdge Sc k e y) (l := l) (init := (0, .inf)) hstep).symm

/-- the accumulated edge is reduced — also for an empty list: the start value `(0, ∞)` IS the
    canonical ∞ edge -/
theorem accumE_red (hSc : Sc.WF) (hni : ∀ p, Sc.mode p ≠ .ident) (fi : Option Nat) :
    RedEdge Sc k fi (accumE Sc k l) = true := by
  rw [RedEdge_fi_irrel Sc k fi none _ (hni k)]
  unfold accumE
  exact DD.foldl_of_step (P := fun e => RedEdge Sc k none e = true)
    (fun acc d => applyE2_red hSc (fun _ => hni k)) l _
    (fun _ => (RedEdge_iff _ _ _ _).mpr ⟨Red_inf Sc k none, fun _ => rfl⟩)

end

section image
variable (Ss Sr Sc : Shape) (fwd : Bool)

theorem imageEVRec_zero (a : Int × EDD) (b : DD Bool) :
    imageEVRec Ss Sr Sc fwd 0 a b = ofOpt (stepE (leafValE a) (DD.leafVal false b)) := rfl

theorem imageEVRec_succ (k : Nat) (a : Int × EDD) (b : DD Bool) :
    imageEVRec Ss Sr Sc fwd (k+1) a b =
      mkNodeEV Sc (k+1) none
        ((List.range (Sc.size (k+1))).map fun res =>
          accumE Sc k
            ((List.range (Ss.size (k+1))).map fun opd =>
              imageEVRec Ss Sr Sc fwd k
                (cofactorE Ss (k+1) none a opd)
                (DD.cofactor Sr false (2*k+1) (some (if fwd then opd else res))
                  (DD.cofactor Sr false (2*k+2) none b (if fwd then opd else res))
                  (if fwd then res else opd)))) := rfl

theorem imageEVRec_Below (k : Nat) (a : Int × EDD) (b : DD Bool) :
    Below k (imageEVRec Ss Sr Sc fwd k a b).2 := by
  cases k with
  | zero => rw [imageEVRec_zero]; exact Below_ofOpt 0 _
  | succ k =>
    rw [imageEVRec_succ]
    exact mkNodeEV_range_Below (fun i => accumE_Below)

/-- MAIN LEMMA.  The denotation of `imageEVRec` at a result assignment `y` is the `minO`-fold
    over all operand assignments `x` (lexicographic order) of `stepE (d x) (R (x,y))` — for every
    operand edge, every relation rule, forward and backward. -/
theorem imageEVRec_fold (h : DD.ImgShapes Ss Sr Sc) (k : Nat) (a : Int × EDD) (b : DD Bool)
    (y x0 : Assign) (hk : k ≤ Sc.top) (hy : Assign.Valid Sc y) :
    evalEdge Sc k (imageEVRec Ss Sr Sc fwd k a b) y
      = DD.relFold minO none Ss.size k
          (fun x => stepE (evalEdge Ss k a x) (DD.eval Sr false (2*k) b (DD.pairD fwd x y))) x0 := by
  induction k generalizing a b x0 with
  | zero =>
    rw [imageEVRec_zero, evalEdge_ofOpt, DD.relFold_zero, evalEdge_zero_eq_leafValE,
      DD.eval_zero_eq_leafVal]
  | succ k ih =>
    rw [imageEVRec_succ,
      mkNodeEV_range_eval hk hy (fun i => accumE_Below)
        (fun hm => absurd hm (h.res_noident (k+1))),
      accumE_eval (by omega) h.res_noident hy, List.foldl_map, DD.relFold_succ]
    apply DD.foldl_ext_mem
    intro acc opd _
    congr 1
    rw [ih _ _ (Assign.upd x0 (k+1) opd) (by omega)]
    apply DD.relFold_congr
    intro x hx
    rw [cofactorE_eval Ss k none a x (fun hm => absurd hm (h.set_noident (k+1))),
      DD.rel_step Sr false fwd h.rel_even k b x y, (DD.agree_upd hx).1]

theorem imageEVRec_red (h : DD.ImgShapes Ss Sr Sc) (hSc : Sc.WF) (k : Nat) (a : Int × EDD)
    (b : DD Bool) : RedEdge Sc k none (imageEVRec Ss Sr Sc fwd k a b) = true := by
  cases k with
  | zero => rw [imageEVRec_zero]; exact RedEdge_ofOpt Sc none _
  | succ k =>
    rw [imageEVRec_succ]
    exact mkNodeEV_range_red hSc (fun i _ => accumE_red hSc h.res_noident (some i))
      (fun _ => h.res_noident (k+1))

end image

/-! ## The relational characterisation -/

/-- `v` is "one plus the minimum distance of a predecessor of `y`, ∞ if there is none":
    a lower bound of `d x + 1` over all `x` with `d x < ∞` and an edge to `y`, and attained
    when finite -/
def IsMinStep (Ss Sr : Shape) (fwd : Bool) (d : Int × EDD) (b : DD Bool) (y : Assign)
    (v : Option Int) : Prop :=
  (∀ x n, Assign.Valid Ss x → evalEdge Ss Ss.top d x = some n →
      DD.eval Sr false Sr.top b (DD.pairD fwd x y) = true → ∃ r, v = some r ∧ r ≤ n + 1) ∧
  (∀ r, v = some r → ∃ x n, Assign.Valid Ss x ∧ evalEdge Ss Ss.top d x = some n ∧
      DD.eval Sr false Sr.top b (DD.pairD fwd x y) = true ∧ r = n + 1)

theorem IsMinStep.unique {Ss Sr : Shape} {fwd : Bool} {d : Int × EDD} {b : DD Bool} {y : Assign}
    {v w : Option Int} (hv : IsMinStep Ss Sr fwd d b y v) (hw : IsMinStep Ss Sr fwd d b y w) :
    v = w := by
  -- of two values with the characterisation, a finite one bounds the other from above
  have le : ∀ {v w : Option Int}, IsMinStep Ss Sr fwd d b y v → IsMinStep Ss Sr fwd d b y w →
      ∀ {q}, w = some q → ∃ p, v = some p ∧ p ≤ q := fun hv hw q h => by
    obtain ⟨x, n, hx, hd, hr, hq⟩ := hw.2 q h
    rw [hq]
    exact hv.1 x n hx hd hr
  cases w with
  | none =>
    cases v with
    | none => rfl
    | some p => obtain ⟨q, hq, _⟩ := le hw hv rfl; cases hq
  | some q =>
    obtain ⟨p, rfl, h1⟩ := le hv hw rfl
    obtain ⟨q', hq', h2⟩ := le hw hv rfl
    cases hq'
    rw [Int.le_antisymm h1 h2]

theorem imageEV_isMinStep (Ss Sr Sc : Shape) (h : DD.ImgShapes Ss Sr Sc) (fwd : Bool)
    (d : Int × EDD) (b : DD Bool) (y : Assign) (hy : Assign.Valid Sc y) :
    IsMinStep Ss Sr fwd d b y (evalEdge Sc Sc.top (imageEV Ss Sr Sc fwd d b) y) := by
  unfold imageEV IsMinStep
  rw [h.top_s, h.top_r]
  have key := fun x0 => imageEVRec_fold Ss Sr Sc fwd h Sc.top d b y x0 (Nat.le_refl _) hy
  constructor
  · intro x n hx hd hr
    rw [key x]
    exact DD.relFold_lowerBound minO_lowerBound none Ss.size Sc.top _ x ((h.valid_iff x).mp hx)
      (n+1) (by rw [hd, hr]; rfl)
  · intro r hr
    rw [key y] at hr
    obtain ⟨x, _, hx2, hx3⟩ := DD.relFold_sel minO_sel hr nofun
    obtain ⟨hq, n, hn, hrn⟩ := (stepE_some_iff _ _ _).mp hx3
    exact ⟨x, n, (h.valid_iff x).mpr hx2, hn, hq, hrn⟩

end EDD

/-! ## Concrete forests and edges (non-vacuity) -/

namespace EVImageExamples
open EDD CanonExamples ApplyExamples EVApplyExamples

/-! three variables of sizes 2, 3, 2 (`CanonExamples.SA`, fully reduced; `EVApplyExamples.aE`:
    shared sub-tree `xE`, non-zero edge values, an ∞ entry, root value 1).  Relation forests over
    the same variables: positions 6, 4, 2 unprimed, positions 5, 3, 1 primed. -/

/-- identity reduced: unprimed positions `red`, primed positions `ident` -/
def SR6 : Shape where
  top := 6
  size := fun p => if p = 4 ∨ p = 3 then 3 else 2
  mode := fun p => if p = 5 ∨ p = 3 ∨ p = 1 then .ident else .red

theorem SR6_WF : SR6.WF where
  size_ge := by
    intro p _ _
    show 2 ≤ (if p = 4 ∨ p = 3 then 3 else 2)
    split <;> omega
  ident_below_red := by
    intro p (h : (if p = 5 ∨ p = 3 ∨ p = 1 then Mode.ident else Mode.red) = Mode.ident)
    by_cases hp : p = 5 ∨ p = 3 ∨ p = 1
    · rcases hp with rfl | rfl | rfl <;> decide
    · rw [if_neg hp] at h; cases h

/-- fully reduced relation forest over the same variables -/
def SF6 : Shape where
  top := 6
  size := fun p => if p = 4 ∨ p = 3 then 3 else 2
  mode := fun _ => .red

/-- the same three variables, quasi reduced (set forest) -/
def SQ3 : Shape where
  top := 3
  size := fun p => if p = 2 then 3 else 2
  mode := fun _ => .none

theorem SQ3_WF : SQ3.WF where
  size_ge := by intro p _ _; show 2 ≤ (if p = 2 then 3 else 2); split <;> omega
  ident_below_red := by intro p h; cases h

theorem SR6_even (p : Nat) : SR6.mode (2*p) ≠ .ident := by
  intro (h : (if 2*p = 5 ∨ 2*p = 3 ∨ 2*p = 1 then Mode.ident else Mode.red) = Mode.ident)
  rw [if_neg (by omega)] at h; cases h

/-- set fully reduced, relation identity reduced, result fully reduced -/
theorem sh_FIF : DD.ImgShapes SA SR6 SA :=
  ⟨fun _ h => (by cases h), fun _ h => (by cases h), SR6_even, rfl, rfl, fun _ => rfl⟩
/-- set fully reduced, relation identity reduced, result quasi reduced -/
theorem sh_FIQ : DD.ImgShapes SA SR6 SQ3 :=
  ⟨fun _ h => (by cases h), fun _ h => (by cases h), SR6_even, rfl, rfl, fun _ => rfl⟩
/-- set quasi reduced, relation fully reduced, result fully reduced -/
theorem sh_QFF : DD.ImgShapes SQ3 SF6 SA :=
  ⟨fun _ h => (by cases h), fun _ h => (by cases h), fun _ h => (by cases h), rfl, rfl,
    fun _ => rfl⟩

/-- `x₂' = x₂ + 1 mod 3`, `x₃' = x₃`, `x₁' = x₁`, identity reduced: the root skips positions 6
    and 5 (identity on `x₃`), the `true` terminals skip positions 2 and 1 (identity on `x₁`) -/
def inc2 : DD Bool :=
  .node 4 [.node 3 [.leaf false, .leaf true, .leaf false],
           .node 3 [.leaf false, .leaf false, .leaf true],
           .node 3 [.leaf true, .leaf false, .leaf false]]
/-- "`x₃' = 1` from anywhere, `x₂`, `x₁` arbitrary → arbitrary", fully reduced: position 6 and
    both positions of the variables 2 and 1 are skipped as redundant -/
def set3 : DD Bool := .node 5 [.leaf false, .leaf true]

/-- post-image of `aE` under `inc2`: the entries of position 2 are rotated (the ∞ entry moves
    from index 2 to index 0, the shared `xE` stays shared), the root value becomes 1 + 1 -/
def postInc : Int × EDD :=
  (2, .node 3 [(0, .node 2 [(0, .inf), (0, xE), (1, yE)]), (2, xE)])
/-- pre-image: rotated the other way -/
def preInc : Int × EDD :=
  (2, .node 3 [(0, .node 2 [(1, yE), (0, .inf), (0, xE)]), (2, xE)])
/-- the post-image in the quasi-reduced result forest: the skipped position 2 below index 1 is
    spelled out -/
def postIncQ : Int × EDD :=
  (2, .node 3 [(0, .node 2 [(0, .inf), (0, xE), (1, yE)]), (2, .node 2 [(0, xE), (0, xE), (0, xE)])])
/-- the same operand in the quasi-reduced set forest -/
def aQ : Int × EDD :=
  (1, .node 3 [(0, .node 2 [(0, xE), (1, yE), (0, .inf)]), (2, .node 2 [(0, xE), (0, xE), (0, xE)])])

end EVImageExamples

namespace EDD

/-- C09 (EV+ distances), evaluation.  With `r` the value at `y` of the model of
    `prepost_set_mtrel<EdgeOp_plus, ev_prepost>` — for every operand edge (fully or quasi reduced
    set forest), every relation tree of ANY reduction rule, every result forest, forward
    (`fwd`, neighbours `x → y`) and backward (`¬fwd`, neighbours `y → x`):
    `r` is finite and a lower bound of `d x + 1` over all neighbours `x` with `d x < ∞`; a finite
    `r` is attained; `r = ∞` iff every neighbour has `d x = ∞` (in particular when there is none).
    I.e. `r = 1 + min { d x | R x y }`, `+∞` if there is none.  (`distDD_eval` over `Option Int`,
    `none` = ∞.) -/
theorem imageEV_eval (Ss Sr Sc : Shape) (h : DD.ImgShapes Ss Sr Sc) (fwd : Bool)
    (d : Int × EDD) (b : DD Bool) (y : Assign) (hy : Assign.Valid Sc y) :
    (∀ x n, Assign.Valid Ss x → evalEdge Ss Ss.top d x = some n →
        DD.eval Sr false Sr.top b (DD.pairD fwd x y) = true →
        ∃ r, evalEdge Sc Sc.top (imageEV Ss Sr Sc fwd d b) y = some r ∧ r ≤ n + 1) ∧
    (∀ r, evalEdge Sc Sc.top (imageEV Ss Sr Sc fwd d b) y = some r →
        ∃ x n, Assign.Valid Ss x ∧ evalEdge Ss Ss.top d x = some n ∧
          DD.eval Sr false Sr.top b (DD.pairD fwd x y) = true ∧ r = n + 1) ∧
    (evalEdge Sc Sc.top (imageEV Ss Sr Sc fwd d b) y = none ↔
        ∀ x, Assign.Valid Ss x → DD.eval Sr false Sr.top b (DD.pairD fwd x y) = true →
          evalEdge Ss Ss.top d x = none) := by
  obtain ⟨h1, h2⟩ := imageEV_isMinStep Ss Sr Sc h fwd d b y hy
  refine ⟨h1, h2, ?_, ?_⟩
  · intro hn x hx hr
    cases hd : evalEdge Ss Ss.top d x with
    | none => rfl
    | some n =>
      obtain ⟨r, hr', _⟩ := h1 x n hx hd hr
      rw [hn] at hr'; cases hr'
  · intro hall
    cases hv : evalEdge Sc Sc.top (imageEV Ss Sr Sc fwd d b) y with
    | none => rfl
    | some r =>
      obtain ⟨x, n, hx, hd, hr, _⟩ := h2 r hv
      rw [hall x hx hr] at hd; cases hd

/-- The same as a fold: the value at `y` is the `minO`-fold (∞ neutral), in lexicographic order
    over all operand assignments `x`, of `d x + 1` where `R (x, y)` holds and `∞` elsewhere. -/
theorem imageEV_eval_fold (Ss Sr Sc : Shape) (h : DD.ImgShapes Ss Sr Sc) (fwd : Bool)
    (d : Int × EDD) (b : DD Bool) (y x0 : Assign) (hy : Assign.Valid Sc y) :
    evalEdge Sc Sc.top (imageEV Ss Sr Sc fwd d b) y
      = DD.relFold minO none Ss.size Ss.top
          (fun x => stepE (evalEdge Ss Ss.top d x)
            (DD.eval Sr false Sr.top b (DD.pairD fwd x y))) x0 := by
  unfold imageEV
  rw [imageEVRec_fold Ss Sr Sc fwd h Sc.top d b y x0 (Nat.le_refl _) hy, h.top_s, h.top_r]

/-- Normal form.  The image is a reduced edge of the RESULT forest: edge values normalised
    (minimum pulled up to the root edge, ∞ entries with value 0, an edge to ∞ has value 0) and
    the forest's reduction rule, whatever the rules of the operand forests. -/
theorem imageEV_red (Ss Sr Sc : Shape) (h : DD.ImgShapes Ss Sr Sc) (hSc : Sc.WF) (fwd : Bool)
    (d : Int × EDD) (b : DD Bool) :
    RedEdge Sc Sc.top none (imageEV Ss Sr Sc fwd d b) = true :=
  imageEVRec_red Ss Sr Sc fwd h hSc Sc.top d b

/-- Uniqueness.  ANY reduced edge of the result forest whose value at every `y` is "one plus the
    minimum distance of a neighbour, ∞ if there is none" (`IsMinStep`: lower bound + attained) is
    the edge computed by the model — the terminal shortcuts, the compute table (which stores the
    result for edge value 0 and adds `av` back), `makeRedundantsTo` and the order of the `MINIMUM`
    accumulations of the C++ code cannot produce anything else without breaking canonicity or the
    relational definition (`EDD.canon`). -/
theorem imageEV_unique (Ss Sr Sc : Shape) (h : DD.ImgShapes Ss Sr Sc) (hSc : Sc.WF) (fwd : Bool)
    (d : Int × EDD) (b : DD Bool) (r : Int × EDD) (hr : RedEdge Sc Sc.top none r = true)
    (hd : ∀ y, Assign.Valid Sc y → IsMinStep Ss Sr fwd d b y (evalEdge Sc Sc.top r y)) :
    r = imageEV Ss Sr Sc fwd d b := by
  apply (canon Sc hSc r _ hr (imageEV_red Ss Sr Sc h hSc fwd d b)).mp
  intro y hy
  exact (hd y hy).unique (imageEV_isMinStep Ss Sr Sc h fwd d b y hy)

theorem imageEV_unique_fold (Ss Sr Sc : Shape) (h : DD.ImgShapes Ss Sr Sc) (hSc : Sc.WF)
    (fwd : Bool) (d : Int × EDD) (b : DD Bool) (r : Int × EDD)
    (hr : RedEdge Sc Sc.top none r = true)
    (hd : ∀ y, Assign.Valid Sc y →
      evalEdge Sc Sc.top r y = DD.relFold minO none Ss.size Ss.top
        (fun x => stepE (evalEdge Ss Ss.top d x)
          (DD.eval Sr false Sr.top b (DD.pairD fwd x y))) y) :
    r = imageEV Ss Sr Sc fwd d b := by
  apply (canon Sc hSc r _ hr (imageEV_red Ss Sr Sc h hSc fwd d b)).mp
  intro y hy
  rw [hd y hy, imageEV_eval_fold Ss Sr Sc h fwd d b y y hy]

/-- The image denotes ∞ everywhere iff it IS the canonical ∞ edge `(0, inf)`. -/
theorem imageEV_inf_iff (Ss Sr Sc : Shape) (h : DD.ImgShapes Ss Sr Sc) (hSc : Sc.WF) (fwd : Bool)
    (d : Int × EDD) (b : DD Bool) :
    imageEV Ss Sr Sc fwd d b = (0, .inf) ↔
      ∀ y, Assign.Valid Sc y → evalEdge Sc Sc.top (imageEV Ss Sr Sc fwd d b) y = none := by
  constructor
  · intro he y _; rw [he, evalEdge_inf]
  · intro hz
    exact inf_unique Sc hSc _ (imageEV_red Ss Sr Sc h hSc fwd d b) hz

/-- The known finding: the image under the EMPTY relation (`R ≡ false` on all pairs of valid
    states) is the canonical ∞ edge `(0, inf)` — target ∞ AND edge value 0, never an edge
    `(v, inf)` that keeps the operand's root value or the `+1`. -/
theorem imageEV_empty (Ss Sr Sc : Shape) (h : DD.ImgShapes Ss Sr Sc) (hSc : Sc.WF) (fwd : Bool)
    (d : Int × EDD) (b : DD Bool)
    (hb : ∀ x y, Assign.Valid Ss x → Assign.Valid Sc y →
      DD.eval Sr false Sr.top b (DD.pairD fwd x y) = false) :
    imageEV Ss Sr Sc fwd d b = (0, .inf) := by
  apply (imageEV_inf_iff Ss Sr Sc h hSc fwd d b).mpr
  intro y hy
  apply (imageEV_eval Ss Sr Sc h fwd d b y hy).2.2.mpr
  intro x hx hr
  rw [hb x y hx hy] at hr; cases hr

/-- … in particular for the relation edge `false` (the transparent terminal), in every relation
    forest. -/
theorem imageEV_empty_leaf (Ss Sr Sc : Shape) (h : DD.ImgShapes Ss Sr Sc) (hSc : Sc.WF)
    (fwd : Bool) (d : Int × EDD) : imageEV Ss Sr Sc fwd d (.leaf false) = (0, .inf) :=
  imageEV_empty Ss Sr Sc h hSc fwd d _ (fun _ _ _ _ => DD.eval_leaf_zero Sr false Sr.top _)

/-- Likewise the image of the EMPTY distance function (the edge `(v, inf)`, whatever `v`) is the
    canonical ∞ edge. -/
theorem imageEV_of_inf (Ss Sr Sc : Shape) (h : DD.ImgShapes Ss Sr Sc) (hSc : Sc.WF) (fwd : Bool)
    (v : Int) (b : DD Bool) : imageEV Ss Sr Sc fwd (v, .inf) b = (0, .inf) := by
  apply (imageEV_inf_iff Ss Sr Sc h hSc fwd _ b).mpr
  intro y hy
  apply (imageEV_eval Ss Sr Sc h fwd _ b y hy).2.2.mpr
  intro x _ _
  exact evalEdge_inf Ss Ss.top v x

section Examples
open EVImageExamples CanonExamples ApplyExamples EVApplyExamples

/-! computed instances: identity-reduced relation, fully reduced operand and result -/
example : DD.Red SR6 false 6 none inc2 = true := by decide +kernel
example : RedEdge SA 3 none aE = true := by decide +kernel
theorem image_aE_inc2 : imageEV SA SR6 SA true aE inc2 = postInc := by decide +kernel
example : imageEV SA SR6 SA true aE inc2 = postInc := image_aE_inc2
example : imageEV SA SR6 SA false aE inc2 = preInc := by decide +kernel
example : RedEdge SA 3 none postInc = true := by decide +kernel
/-- `inc2` is a bijection: the post-image of the pre-image is the operand, distance + 2 -/
example : imageEV SA SR6 SA true preInc inc2 = (3, aE.2) := by decide +kernel
/-- the identity relation (a terminal in the identity-reduced forest): distance + 1 -/
example : imageEV SA SR6 SA true aE (.leaf true) = (2, aE.2) := by decide +kernel
/-- quasi-reduced result forest: the redundant node is kept -/
example : imageEV SA SR6 SQ3 true aE inc2 = postIncQ := by decide +kernel
example : RedEdge SQ3 3 none postIncQ = true := by decide +kernel
/-- quasi-reduced operand, FULLY reduced relation `set3` (everything skipped as redundant but
    position 5): every state with `x₃ = 1` gets 1 + the global minimum 1, the others ∞ -/
example : RedEdge SQ3 3 none aQ = true := by decide +kernel
example : imageEV SQ3 SF6 SA true aQ set3 = (2, .node 3 [(0, .inf), (0, .omega)]) := by decide +kernel
/-- … and the pre-image under it: finite everywhere (every state has a successor with `x₃ = 1`
    at distance ≥ 3): 1 + min { aE x | x₃ = 1 } = 1 + 3 -/
example : imageEV SQ3 SF6 SA false aQ set3 = (4, .omega) := by decide +kernel
/-- an un-normalised operand (root value spread differently, stale value on an ∞ entry) gives
    the same result -/
example : imageEV SA SR6 SA true
    (0, .node 3 [(1, .node 2 [(0, xE), (1, yE), (5, .inf)]), (3, xE)]) inc2 = postInc := by decide +kernel
/-- empty relation, empty operand: the canonical ∞ edge, value 0 -/
example : imageEV SA SR6 SA true aE (.leaf false) = (0, .inf) := by decide +kernel
example : imageEV SA SR6 SA true (7, .inf) inc2 = (0, .inf) := by decide +kernel
/-- a non-canonical ∞ edge is NOT the model's result (and not reduced) -/
example : ((2, .inf) : Int × EDD) ≠ imageEV SA SR6 SA true aE (.leaf false) := by decide +kernel
example : RedEdge SA 3 none (2, .inf) = false := by decide +kernel
/-- values: `y = (y₃, y₂, y₁) = (0, 1, 1)` is reached from `x = (0, 0, 1)`: `aE x = 1+0+0+2 = 3` -/
example : evalEdge SA 3 aE (fun p => if p = 1 then 1 else 0) = some 3 := by decide +kernel
example : evalEdge SA 3 postInc (fun p => if p = 3 then 0 else 1) = some 4 := by decide +kernel
/-- `y₂ = 0` is reached from `x₂ = 2` only, where `aE` is ∞ (below `x₃ = 0`) -/
example : evalEdge SA 3 postInc (fun p => if p = 1 then 1 else 0) = none := by decide +kernel

/-- the general theorems apply to the written-out results -/
example (y : Assign) (hy : Assign.Valid SA y) :
    IsMinStep SA SR6 true aE inc2 y (evalEdge SA 3 postInc y) := by
  rw [← image_aE_inc2]
  exact imageEV_isMinStep SA SR6 SA sh_FIF true aE inc2 y hy

example : RedEdge SQ3 3 none (imageEV SA SR6 SQ3 true aE inc2) = true :=
  imageEV_red SA SR6 SQ3 sh_FIQ SQ3_WF true aE inc2

example (d : Int × EDD) : imageEV SQ3 SF6 SA false d (.leaf false) = (0, .inf) :=
  imageEV_empty_leaf SQ3 SF6 SA sh_QFF SA_WF false d

end Examples

end EDD

#print axioms EDD.imageEVRec_fold
#print axioms EDD.imageEVRec_red
#print axioms EDD.imageEV_isMinStep
#print axioms EDD.IsMinStep.unique
#print axioms EDD.imageEV_eval
#print axioms EDD.imageEV_eval_fold
#print axioms EDD.imageEV_red
#print axioms EDD.imageEV_unique
#print axioms EDD.imageEV_unique_fold
#print axioms EDD.imageEV_inf_iff
#print axioms EDD.imageEV_empty
#print axioms EDD.imageEV_empty_leaf
#print axioms EDD.imageEV_of_inf

/- Output (Lean 4.33.0):
'Meddly.EDD.imageEVRec_fold' depends on axioms: [propext, Quot.sound]
'Meddly.EDD.imageEVRec_red' depends on axioms: [propext, Classical.choice, Quot.sound]
'Meddly.EDD.imageEV_isMinStep' depends on axioms: [propext, Quot.sound]
'Meddly.EDD.IsMinStep.unique' depends on axioms: [propext]
'Meddly.EDD.imageEV_eval' depends on axioms: [propext, Quot.sound]
'Meddly.EDD.imageEV_eval_fold' depends on axioms: [propext, Quot.sound]
'Meddly.EDD.imageEV_red' depends on axioms: [propext, Classical.choice, Quot.sound]
'Meddly.EDD.imageEV_unique' depends on axioms: [propext, Classical.choice, Quot.sound]
'Meddly.EDD.imageEV_unique_fold' depends on axioms: [propext, Classical.choice, Quot.sound]
'Meddly.EDD.imageEV_inf_iff' depends on axioms: [propext, Classical.choice, Quot.sound]
'Meddly.EDD.imageEV_empty' depends on axioms: [propext, Classical.choice, Quot.sound]
'Meddly.EDD.imageEV_empty_leaf' depends on axioms: [propext, Classical.choice, Quot.sound]
'Meddly.EDD.imageEV_of_inf' depends on axioms: [propext, Classical.choice, Quot.sound]
-/

end Meddly
