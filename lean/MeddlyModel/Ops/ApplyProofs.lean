/-
  Correctness of the generic element-wise apply (`Ops/Apply.lean`):
    * `apply2`/`apply1` compute the pointwise function of the operands'
      denotations (`apply2_eval`, `apply1_eval`);
    * their result is reduced for the result forest (`apply2_red`, `apply1_red`);
    * hence, by canonicity (`DD.canon`), the result is *the* reduced tree of the
      pointwise function (`apply2_unique`, `apply1_unique`).
  On the way: what `cofactor` and `mkNode` do to well-shaped / reduced trees, `mkNode` over
  a tabulated child vector (`mkNode_map_…`), and what `eval` / `Red` read of a shape
  (`eval_mode_congr`, `Red_shape_congr`); the operations that rebuild trees (reordering,
  arithmetic, shortcuts) start from these.
-/
import MeddlyModel.Ops.Apply

namespace Meddly

set_option linter.unusedSectionVars false

namespace DD
variable {α β γ : Type} [DecidableEq α] [DecidableEq β] [DecidableEq γ]

/-! ## Well-shaped trees -/

/-- the root of `d` is stored at position `≤ k` (terminals: position 0) -/
def Below (k : Nat) (d : DD α) : Prop := d.pos ≤ k

/-- every stored node at position `p` has all its children below `p-1` -/
inductive WFTree : DD α → Prop where
  | leaf (v : α) : WFTree (.leaf v)
  | node (p : Nat) (cs : List (DD α)) :
      (∀ c, c ∈ cs → Below (p-1) c) → (∀ c, c ∈ cs → WFTree c) → WFTree (.node p cs)

theorem Below_leaf (k : Nat) (v : α) : Below k (.leaf v : DD α) := Nat.zero_le k

theorem Below.mono {k k' : Nat} {d : DD α} (h : Below k d) (hk : k ≤ k') : Below k' d :=
  Nat.le_trans h hk

theorem Below.not_nodeAt {k : Nat} {d : DD α} (h : Below k d) : d.isNodeAt (k+1) = false := by
  cases d with
  | leaf v => rfl
  | node p cs =>
    have : p ≠ k+1 := Nat.ne_of_lt (Nat.lt_succ_of_le h)
    simp [isNodeAt, this]

theorem Below_of_not_nodeAt {k : Nat} {d : DD α} (h : Below (k+1) d)
    (hn : d.isNodeAt (k+1) = false) : Below k d := by
  cases d with
  | leaf v => exact Below_leaf k v
  | node p cs =>
    have hne : p ≠ k+1 := by simpa [isNodeAt] using hn
    exact Nat.le_of_lt_succ (Nat.lt_of_le_of_ne h hne)

theorem WFTree.children {p : Nat} {cs : List (DD α)} (h : WFTree (.node p cs)) :
    ∀ c, c ∈ cs → Below (p-1) c ∧ WFTree c := by
  cases h with
  | node _ _ hb hc => exact fun c hm => ⟨hb c hm, hc c hm⟩

theorem getD_mem_or {β : Type} (l : List β) (i : Nat) (dflt : β) :
    l.getD i dflt ∈ l ∨ l.getD i dflt = dflt := by
  by_cases hi : i < l.length
  · exact Or.inl (List.getElem_eq_getD dflt ▸ List.getElem_mem hi)
  · right
    rw [List.getD_eq_getElem?_getD, List.getElem?_eq_none (by omega)]
    rfl

theorem getD_of_forall {β : Type} {P : β → Prop} (l : List β) (i : Nat) (dflt : β)
    (h : ∀ c, c ∈ l → P c) (h0 : P dflt) : P (l.getD i dflt) := by
  rcases getD_mem_or l i dflt with hm | he
  · exact h _ hm
  · rw [he]; exact h0

theorem WFTree.child {p : Nat} {cs : List (DD α)} (h : WFTree (.node p cs)) (zero : α) (i : Nat) :
    Below (p-1) (cs.getD i (.leaf zero)) ∧ WFTree (cs.getD i (.leaf zero)) :=
  getD_of_forall cs i _ h.children ⟨Below_leaf _ _, WFTree.leaf _⟩

/-- A tree reduced for position `k` is well shaped and below `k`. -/
theorem Red_WFTree (S : Shape) (zero : α) :
    ∀ (k : Nat) (fi : Option Nat) (d : DD α), Red S zero k fi d = true → Below k d ∧ WFTree d := by
  intro k
  induction k with
  | zero =>
    intro fi d h
    obtain ⟨v, rfl⟩ := (Red_zero_iff S zero fi d).mp h
    exact ⟨Below_leaf _ _, WFTree.leaf _⟩
  | succ k ih =>
    intro fi d h
    rcases storedAt_cases (k+1) d with ⟨cs, rfl⟩ | hd
    · obtain ⟨_, _, _, _, hch⟩ := (Red_succ_node S zero k fi cs).mp h
      have hc : ∀ c, c ∈ cs → Below k c ∧ WFTree c := by
        intro c hc
        obtain ⟨j, hj, rfl⟩ := List.getElem_of_mem hc
        exact List.getElem_eq_getD (DD.leaf zero) ▸ ih (some j) _ (hch j hj)
      exact ⟨Nat.le_refl _, WFTree.node _ _ (fun c hm => (hc c hm).1) (fun c hm => (hc c hm).2)⟩
    · obtain ⟨_, h2⟩ := Red_succ_skip S zero k fi hd h
      obtain ⟨hb, hw⟩ := ih none d h2
      exact ⟨hb.mono (Nat.le_succ k), hw⟩

section
variable (S : Shape) (zero : α)

/-! ## `cofactor` -/

theorem cofactor_node (k : Nat) (fi : Option Nat) (cs : List (DD α))
    (i : Nat) : cofactor S zero k fi (.node k cs) i = cs.getD i (.leaf zero) := by
  simp [cofactor]

theorem cofactor_skip (k : Nat) (fi : Option Nat) {d : DD α} (i : Nat)
    (hd : d.isNodeAt k = false) :
    cofactor S zero k fi d i =
      if S.mode k = .ident then
        (match fi with
         | some j => if i = j then d else .leaf zero
         | none => d)
      else d := by
  cases d with
  | leaf v => rfl
  | node p cs =>
    have hp : p ≠ k := by simpa [isNodeAt] using hd
    simp only [cofactor, if_neg hp]
    rfl

theorem cofactor_skip_cases (k : Nat) (fi : Option Nat) {d : DD α} (i : Nat)
    (hd : d.isNodeAt k = false) :
    cofactor S zero k fi d i = d ∨ cofactor S zero k fi d i = .leaf zero := by
  rw [cofactor_skip S zero k fi i hd]
  split
  · cases fi with
    | none => exact Or.inl rfl
    | some j =>
      by_cases h : i = j
      · exact Or.inl (if_pos h)
      · exact Or.inr (if_neg h)
  · exact Or.inl rfl

theorem cofactor_eval (k : Nat) (fi : Option Nat) (d : DD α) (x : Assign)
    (hfi : S.mode (k+1) = .ident → fi = some (x (k+2))) :
    eval S zero (k+1) d x = eval S zero k (cofactor S zero (k+1) fi d (x (k+1))) x := by
  rcases storedAt_cases (k+1) d with ⟨cs, rfl⟩ | hd
  · rw [eval_succ_node, cofactor_node]
  · rw [eval_succ_skip S zero k x hd, cofactor_skip S zero (k+1) fi _ hd]
    by_cases hm : S.mode (k+1) = .ident
    · rw [hfi hm, if_pos hm]
      show _ = eval S zero k (if x (k+1) = x (k+2) then d else .leaf zero) x
      by_cases he : x (k+1) = x (k+2)
      · rw [if_neg (not_and_of_not_right _ fun h => h he), if_pos he]
      · rw [if_pos ⟨hm, he⟩, if_neg he, eval_leaf_zero]
    · rw [if_neg (not_and_of_not_left _ hm), if_neg hm]

theorem cofactor_ok (k : Nat) (fi : Option Nat) (d : DD α) (i : Nat)
    (h : Below (k+1) d ∧ WFTree d) :
    Below k (cofactor S zero (k+1) fi d i) ∧ WFTree (cofactor S zero (k+1) fi d i) := by
  rcases storedAt_cases (k+1) d with ⟨cs, rfl⟩ | hd
  · rw [cofactor_node]; exact h.2.child zero i
  · rcases cofactor_skip_cases S zero (k+1) fi i hd with e | e <;> rw [e]
    · exact ⟨Below_of_not_nodeAt h.1 hd, h.2⟩
    · exact ⟨Below_leaf _ _, WFTree.leaf _⟩

/-! ## `Red` helpers -/

theorem isSingleton_of_not_nodeAt (p i : Nat) {d : DD α} (hd : d.isNodeAt p = false) :
    isSingleton zero p i d = false := by
  cases d with
  | leaf v => rfl
  | node q cs =>
    have hq : (q == p) = false := hd
    simp only [isSingleton, hq, Bool.false_and]

theorem isAnySingleton_of_not_nodeAt (p : Nat) {d : DD α} (hd : d.isNodeAt p = false) :
    isAnySingleton zero p d = false := by
  cases d with
  | leaf v => rfl
  | node q cs =>
    rw [← Bool.not_eq_true]
    simp only [isAnySingleton, List.any_eq_true, List.mem_range]
    rintro ⟨i, _, hi⟩
    rw [isSingleton_of_not_nodeAt zero p i hd] at hi
    cases hi

/-- a tree that skips a `red` or `ident` position may hang below any edge -/
theorem edgeOK_skip (k : Nat) (fi : Option Nat) {d : DD α}
    (hd : d.isNodeAt k = false) (hm : S.mode k ≠ .none) : edgeOK S zero k fi d = true := by
  unfold edgeOK
  split
  · rfl
  · rename_i h; exact absurd h hm
  · cases fi with
    | none => exact congrArg not (isAnySingleton_of_not_nodeAt zero k hd)
    | some i => exact congrArg not (isSingleton_of_not_nodeAt zero k i hd)

theorem Red_skip_intro (k : Nat) (fi : Option Nat) {d : DD α}
    (hb : Below k d) (he : edgeOK S zero (k+1) fi d = true) (hr : Red S zero k none d = true) :
    Red S zero (k+1) fi d = true := by
  cases d with
  | leaf v => rw [Red, Bool.and_eq_true]; exact ⟨he, hr⟩
  | node p cs =>
    have hlt : p < k+1 := Nat.lt_succ_of_le hb
    rw [Red, Bool.and_eq_true, if_neg (Nat.ne_of_lt hlt), if_pos hlt]; exact ⟨he, hr⟩

/-- a tree reduced for position `k` may hang below any edge that skips a `red` or
    `ident` position `k+1` -/
theorem Red_succ_of_none (k : Nat) (fi : Option Nat) {d : DD α}
    (hm : S.mode (k+1) ≠ .none) (hr : Red S zero k none d = true) :
    Red S zero (k+1) fi d = true :=
  have hb := (Red_WFTree S zero k none d hr).1
  Red_skip_intro S zero k fi hb (edgeOK_skip S zero (k+1) fi hb.not_nodeAt hm) hr

theorem Red_fi_irrel (k : Nat) (fi fj : Option Nat) (d : DD α)
    (hm : S.mode k ≠ .ident) : Red S zero k fi d = Red S zero k fj d := by
  cases k with
  | zero => cases d <;> rfl
  | succ k =>
    cases d <;> simp only [Red, edgeOK_not_ident S zero (k+1) fi fj hm]

/-- A tree that is reduced below *every* index of position `k+1` is reduced
    below a skipped position `k+1`: it is no singleton at all.  This is what makes
    eliminating a redundant node at a `red` position above an `ident` position
    legal. -/
theorem Red_all_some_none (hS : S.WF) (k : Nat) (d : DD α)
    (hpos : 0 < S.size (k+1))
    (h : ∀ i, i < S.size (k+1) → Red S zero k (some i) d = true) :
    Red S zero k none d = true := by
  have h0 := h 0 hpos
  by_cases hm : S.mode k = .ident
  · obtain ⟨hk1, _, _, hsz⟩ := hS.ident_below_red k hm
    obtain ⟨k', rfl⟩ : ∃ k', k = k'+1 := ⟨k-1, by omega⟩
    rcases storedAt_cases (k'+1) d with ⟨cs, rfl⟩ | hd
    · obtain ⟨_, hlen, hnz, hred, hch⟩ := (Red_succ_node S zero k' (some 0) cs).mp h0
      refine (Red_succ_node S zero k' none cs).mpr ⟨?_, hlen, hnz, hred, hch⟩
      unfold edgeOK
      rw [hm]
      show (!isAnySingleton zero (k'+1) (.node (k'+1) cs)) = true
      rw [Bool.not_eq_true', ← Bool.not_eq_true]
      simp only [isAnySingleton, List.any_eq_true, List.mem_range]
      rintro ⟨i, hi, hs⟩
      have hi' : i < S.size (k'+1+1) := by rw [hsz, ← hlen]; exact hi
      have hE := ((Red_succ_node S zero k' (some i) cs).mp (h i hi')).1
      rw [edgeOK_ident_some S zero (k'+1) i hm hE] at hs
      cases hs
    · exact Red_succ_of_none S zero k' none (by rw [hm]; nofun)
        (Red_succ_skip S zero k' (some 0) hd h0).2
  · rw [Red_fi_irrel S zero k none (some 0) d hm]; exact h0

end

/-! ## `mkNode` -/

section
variable (S : Shape) (zero : α)

theorem headD_eq_getD {β : Type} (l : List β) (dflt : β) : l.headD dflt = l.getD 0 dflt := by
  cases l <;> rfl

theorem all_leaf_zero_getD (cs : List (DD α))
    (h : cs.all (fun c => c == .leaf zero) = true) (i : Nat) :
    cs.getD i (.leaf zero) = .leaf zero :=
  getD_of_forall cs i _ (fun c hm => beq_iff_eq.mp (List.all_eq_true.mp h c hm)) rfl

theorem all_head_getD (dflt : DD α) (cs : List (DD α))
    (h : cs.all (fun c => c == cs.headD dflt) = true) (i : Nat) (hi : i < cs.length) :
    cs.getD i dflt = cs.headD dflt :=
  beq_iff_eq.mp (List.all_eq_true.mp h _ (List.getElem_eq_getD dflt ▸ List.getElem_mem hi))

theorem exists_ne_of_all_false (cs : List (DD α))
    (h : cs.all (fun c => c == .leaf zero) = false) : ∃ c, c ∈ cs ∧ c ≠ .leaf zero := by
  obtain ⟨c, hc, hne⟩ := List.all_eq_false.mp h
  exact ⟨c, hc, fun e => hne (beq_iff_eq.mpr e)⟩

theorem isSingletonList_iff (i : Nat) (cs : List (DD α)) :
    isSingletonList zero i cs = true ↔
      i < cs.length ∧
      (∀ j, j < cs.length → j = i ∨ cs.getD j (.leaf zero) = .leaf zero) ∧
      cs.getD i (.leaf zero) ≠ .leaf zero := by
  simp only [isSingletonList, Bool.and_eq_true, decide_eq_true_eq,
    List.all_eq_true, List.mem_range, Bool.or_eq_true, beq_iff_eq, bne_iff_ne, ne_eq, and_assoc]

theorem isSingleton_node_eq (p i : Nat) (cs : List (DD α)) :
    isSingleton zero p i (.node p cs) = isSingletonList zero i cs := by
  simp only [isSingleton, isSingletonList, beq_self_eq_true, Bool.true_and]

/-- The four outcomes of `mkNode`. -/
theorem mkNode_cases (k : Nat) (fi : Option Nat) (cs : List (DD α)) :
    (cs.all (fun c => c == .leaf zero) = true ∧ mkNode S zero k fi cs = .leaf zero) ∨
    (cs.all (fun c => c == .leaf zero) = false ∧ S.mode k = .red ∧
      cs.all (fun c => c == cs.headD (.leaf zero)) = true ∧
      mkNode S zero k fi cs = cs.headD (.leaf zero)) ∨
    (cs.all (fun c => c == .leaf zero) = false ∧ S.mode k = .ident ∧
      ∃ i, fi = some i ∧ isSingletonList zero i cs = true ∧
        mkNode S zero k fi cs = cs.getD i (.leaf zero)) ∨
    (cs.all (fun c => c == .leaf zero) = false ∧ mkNode S zero k fi cs = .node k cs ∧
      (S.mode k = .red → cs.all (fun c => c == cs.headD (.leaf zero)) = false) ∧
      (S.mode k = .ident → ∀ i, fi = some i → isSingletonList zero i cs = false)) := by
  unfold mkNode
  by_cases hz : cs.all (fun c => c == .leaf zero) = true
  · exact Or.inl ⟨hz, if_pos hz⟩
  · have hz' := Bool.of_not_eq_true hz
    rw [if_neg hz]
    refine Or.inr ?_
    cases S.mode k with
    | red =>
      by_cases hh : cs.all (fun c => c == cs.headD (.leaf zero)) = true
      · exact Or.inl ⟨hz', rfl, hh, if_pos hh⟩
      · exact Or.inr (Or.inr ⟨hz', if_neg hh, fun _ => Bool.of_not_eq_true hh, nofun⟩)
    | none => exact Or.inr (Or.inr ⟨hz', rfl, nofun, nofun⟩)
    | ident =>
      cases fi with
      | none => exact Or.inr (Or.inr ⟨hz', rfl, nofun, fun _ _ => nofun⟩)
      | some i =>
        by_cases hs : isSingletonList zero i cs = true
        · exact Or.inr (Or.inl ⟨hz', rfl, i, rfl, hs, if_pos hs⟩)
        · exact Or.inr (Or.inr ⟨hz', if_neg hs, nofun,
            fun _ j hj => Option.some.inj hj ▸ Bool.of_not_eq_true hs⟩)

theorem mkNode_eval_lt (k : Nat) (fi : Option Nat) (cs : List (DD α))
    (x : Assign) (hlen : cs.length = S.size (k+1)) (hx : x (k+1) < S.size (k+1))
    (hb : ∀ c, c ∈ cs → Below k c)
    (hfi : S.mode (k+1) = .ident → fi = some (x (k+2))) :
    eval S zero (k+1) (mkNode S zero (k+1) fi cs) x
      = eval S zero k (cs.getD (x (k+1)) (.leaf zero)) x := by
  have hbg : ∀ i, Below k (cs.getD i (.leaf zero)) :=
    fun i => getD_of_forall cs i _ hb (Below_leaf _ _)
  rcases mkNode_cases S zero (k+1) fi cs with ⟨hz, hr⟩ | ⟨_, hm, hh, hr⟩ | ⟨_, hm, i, hi, hs, hr⟩ |
      ⟨_, hr, _, _⟩
  · rw [hr, eval_leaf_zero, all_leaf_zero_getD zero cs hz, eval_leaf_zero]
  · rw [hr, all_head_getD _ cs hh _ (by rw [hlen]; exact hx)]
    have hbh : Below k (cs.headD (.leaf zero)) := by rw [headD_eq_getD]; exact hbg 0
    rw [eval_succ_skip S zero k x hbh.not_nodeAt,
      if_neg (not_and_of_not_left _ (by rw [hm]; nofun))]
  · have hi' : i = x (k+2) := by
      have := hfi hm; rw [hi] at this; cases this; rfl
    subst hi'
    obtain ⟨_, hoth, _⟩ := (isSingletonList_iff zero _ cs).mp hs
    rw [hr, eval_succ_skip S zero k x (hbg _).not_nodeAt]
    by_cases he : x (k+1) = x (k+2)
    · rw [if_neg (not_and_of_not_right _ fun h => h he), he]
    · rw [if_pos ⟨hm, he⟩]
      rcases hoth (x (k+1)) (by rw [hlen]; exact hx) with h | h
      · exact absurd h he
      · rw [h, eval_leaf_zero]
  · rw [hr, eval_succ_node]

theorem mkNode_eval (k : Nat) (fi : Option Nat) (cs : List (DD α))
    (x : Assign) (hk : k+1 ≤ S.top) (hlen : cs.length = S.size (k+1)) (hx : Assign.Valid S x)
    (hb : ∀ c, c ∈ cs → Below k c)
    (hfi : S.mode (k+1) = .ident → fi = some (x (k+2))) :
    eval S zero (k+1) (mkNode S zero (k+1) fi cs) x
      = eval S zero k (cs.getD (x (k+1)) (.leaf zero)) x :=
  mkNode_eval_lt S zero k fi cs x hlen (hx (k+1) (by omega) hk) hb hfi

/-- `mkNode` returns the transparent terminal, a child, or the stored node: what holds of
    these holds of its result -/
theorem mkNode_of_forall {P : DD α → Prop} (k : Nat) (fi : Option Nat) (cs : List (DD α))
    (h0 : P (.leaf zero)) (hc : ∀ c, c ∈ cs → P c) (hn : P (.node k cs)) :
    P (mkNode S zero k fi cs) := by
  rcases mkNode_cases S zero k fi cs with ⟨_, hr⟩ | ⟨_, _, _, hr⟩ | ⟨_, _, i, _, _, hr⟩ |
      ⟨_, hr, _, _⟩ <;> rw [hr]
  · exact h0
  · rw [headD_eq_getD]; exact getD_of_forall cs 0 _ hc h0
  · exact getD_of_forall cs i _ hc h0
  · exact hn

theorem mkNode_Below (k : Nat) (fi : Option Nat) (cs : List (DD α))
    (hb : ∀ c, c ∈ cs → Below k c) : Below (k+1) (mkNode S zero (k+1) fi cs) :=
  mkNode_of_forall (P := Below (k+1)) S zero (k+1) fi cs (Below_leaf _ _)
    (fun c hm => (hb c hm).mono (Nat.le_succ k)) (Nat.le_refl (k+1))

theorem mkNode_WFTree (k : Nat) (fi : Option Nat) (cs : List (DD α))
    (hb : ∀ c, c ∈ cs → Below k c) (hw : ∀ c, c ∈ cs → WFTree c) :
    WFTree (mkNode S zero (k+1) fi cs) :=
  mkNode_of_forall S zero (k+1) fi cs (WFTree.leaf _) hw (WFTree.node _ _ hb hw)

end

/-- at a `none` (quasi-reduced) position `mkNode` stores the node, unless it is
    the transparent one -/
theorem mkNode_none (S : Shape) (zero : α) (k : Nat) (fi : Option Nat) (cs : List (DD α))
    (hm : S.mode k = .none) :
    mkNode S zero k fi cs = .leaf zero ∨ mkNode S zero k fi cs = .node k cs := by
  rcases mkNode_cases S zero k fi cs with ⟨_, hr⟩ | ⟨_, hm', _⟩ | ⟨_, hm', _⟩ | ⟨_, hr, _, _⟩
  · left; exact hr
  · rw [hm] at hm'; cases hm'
  · rw [hm] at hm'; cases hm'
  · right; exact hr

theorem mkNode_red (S : Shape) (zero : α) (hS : S.WF) (k : Nat) (fi : Option Nat)
    (cs : List (DD α)) (hlen : cs.length = S.size (k+1))
    (hch : ∀ i, i < cs.length → Red S zero k (some i) (cs.getD i (.leaf zero)) = true)
    (hfi : fi = none → S.mode (k+1) ≠ .ident) :
    Red S zero (k+1) fi (mkNode S zero (k+1) fi cs) = true := by
  rcases mkNode_cases S zero (k+1) fi cs with ⟨_, hr⟩ | ⟨hz, hm, hh, hr⟩ | ⟨_, hm, i, hi, hs, hr⟩ |
      ⟨hz, hr, hred, hid⟩
  · rw [hr]; exact Red_leaf_zero S zero (k+1) fi
  · rw [hr]
    obtain ⟨c0, hc0, _⟩ := exists_ne_of_all_false zero cs hz
    refine Red_succ_of_none S zero k fi (by rw [hm]; nofun)
      (Red_all_some_none S zero hS k _ (hlen ▸ List.length_pos_of_mem hc0) fun i hi => ?_)
    rw [← hlen] at hi
    rw [← all_head_getD _ cs hh i hi]; exact hch i hi
  · rw [hr]
    obtain ⟨hil, _, _⟩ := (isSingletonList_iff zero i cs).mp hs
    refine Red_succ_of_none S zero k fi (by rw [hm]; nofun) ?_
    rw [Red_fi_irrel S zero k none (some i) _ (hS.not_ident_below hm)]; exact hch i hil
  · rw [hr]
    refine (Red_succ_node S zero k fi cs).mpr ⟨?_, hlen, exists_ne_of_all_false zero cs hz, ?_, hch⟩
    · unfold edgeOK
      cases hm : S.mode (k+1) with
      | red => rfl
      | none => simp [isNodeAt]
      | ident =>
        cases fi with
        | none => exact absurd hm (hfi rfl)
        | some i =>
          show (!isSingleton zero (k+1) i (.node (k+1) cs)) = true
          rw [isSingleton_node_eq, hid hm i rfl]; rfl
    · intro hm hall
      have := hred hm
      rw [← Bool.not_eq_true, List.all_eq_true] at this
      exact this (fun c hc => beq_iff_eq.mpr (hall c hc))

/-! ## `apply2` -/

section
variable (S : Shape) (zero : α)

theorem eval_zero_eq_leafVal (d : DD α) (x : Assign) :
    eval S zero 0 d x = leafVal zero d := by
  cases d <;> rfl

theorem getD_map_range {δ : Type} (n : Nat) (g : Nat → δ) (i : Nat) (hi : i < n) (dflt : δ) :
    ((List.range n).map g).getD i dflt = g i := by
  rw [List.getD_eq_getElem?_getD, List.getElem?_map, List.getElem?_range hi]
  rfl

theorem length_map_range {δ : Type} (n : Nat) (g : Nat → δ) :
    ((List.range n).map g).length = n := by
  rw [List.length_map, List.length_range]

/-! ### `mkNode` over a tabulated child vector -/

theorem mkNode_map_ok (k : Nat) (fi : Option Nat) (n : Nat)
    (g : Nat → DD α) (h : ∀ i, Below k (g i) ∧ WFTree (g i)) :
    Below (k+1) (mkNode S zero (k+1) fi ((List.range n).map g)) ∧
    WFTree (mkNode S zero (k+1) fi ((List.range n).map g)) :=
  ⟨mkNode_Below S zero k fi _ (List.forall_mem_map.mpr fun i _ => (h i).1),
    mkNode_WFTree S zero k fi _ (List.forall_mem_map.mpr fun i _ => (h i).1)
      (List.forall_mem_map.mpr fun i _ => (h i).2)⟩

theorem mkNode_map_eval (k : Nat) (fi : Option Nat) (n : Nat)
    (g : Nat → DD α) (x : Assign) (hn : n = S.size (k+1)) (hx : x (k+1) < S.size (k+1))
    (hb : ∀ i, Below k (g i))
    (hfi : S.mode (k+1) = .ident → fi = some (x (k+2))) :
    eval S zero (k+1) (mkNode S zero (k+1) fi ((List.range n).map g)) x
      = eval S zero k (g (x (k+1))) x := by
  rw [mkNode_eval_lt S zero k fi _ x (by rw [length_map_range, hn]) hx
      (List.forall_mem_map.mpr fun i _ => hb i) hfi,
    getD_map_range _ _ _ (hn ▸ hx)]

theorem mkNode_map_red (hS : S.WF) (k : Nat) (fi : Option Nat) (n : Nat)
    (g : Nat → DD α) (hn : n = S.size (k+1))
    (hch : ∀ i, i < n → Red S zero k (some i) (g i) = true)
    (hfi : fi = none → S.mode (k+1) ≠ .ident) :
    Red S zero (k+1) fi (mkNode S zero (k+1) fi ((List.range n).map g)) = true := by
  apply mkNode_red S zero hS k fi _ (by rw [length_map_range, hn]) _ hfi
  intro i hi
  rw [length_map_range] at hi
  rw [getD_map_range _ _ _ hi]
  exact hch i hi

/-! ### What `eval` and `Red` read of a shape; cofactors of reduced trees -/

theorem eval_mode_congr (S T : Shape) (zero : α) (k : Nat)
    (h : ∀ q, 1 ≤ q → q ≤ k → S.mode q = T.mode q) (d : DD α) (x : Assign) :
    eval S zero k d x = eval T zero k d x := by
  induction k generalizing d with
  | zero => cases d <;> rfl
  | succ k ih =>
    have ih' := ih fun q h1 h2 => h q h1 (Nat.le_succ_of_le h2)
    rcases storedAt_cases (k+1) d with ⟨cs, rfl⟩ | hd
    · rw [eval_succ_node, eval_succ_node, ih']
    · rw [eval_succ_skip S zero k x hd, eval_succ_skip T zero k x hd,
        h (k+1) (Nat.succ_pos k) (Nat.le_refl _), ih']

theorem Red_shape_congr (S S' : Shape) (zero : α) (p : Nat)
    (hq : ∀ q, q ≤ p → S'.size q = S.size q ∧ S'.mode q = S.mode q)
    (fi : Option Nat) (d : DD α) (hr : Red S zero p fi d = true) : Red S' zero p fi d = true := by
  induction p generalizing fi d with
  | zero => exact (Red_zero_iff S' zero fi d).mpr ((Red_zero_iff S zero fi d).mp hr)
  | succ p ih =>
    have hq' : ∀ q, q ≤ p → S'.size q = S.size q ∧ S'.mode q = S.mode q :=
      fun q h => hq q (Nat.le_succ_of_le h)
    obtain ⟨hsz, hmd⟩ := hq (p+1) (Nat.le_refl _)
    have hok : edgeOK S' zero (p+1) fi d = edgeOK S zero (p+1) fi d := by unfold edgeOK; rw [hmd]
    rcases storedAt_cases (p+1) d with ⟨cs, rfl⟩ | hd
    · obtain ⟨h1, h2, h3, h4, h5⟩ := (Red_succ_node S zero p fi cs).mp hr
      exact (Red_succ_node S' zero p fi cs).mpr
        ⟨hok ▸ h1, hsz ▸ h2, h3, fun hm => h4 (hmd ▸ hm), fun i hi => ih hq' (some i) _ (h5 i hi)⟩
    · obtain ⟨h1, h2⟩ := Red_succ_skip S zero p fi hd hr
      exact Red_skip_intro S' zero p fi (Red_WFTree S zero p none d h2).1 (hok ▸ h1)
        (ih hq' none d h2)

/-- the cofactors of a reduced tree are reduced one position lower — for every reduction rule
    (an identity-skipped position yields the tree itself on the diagonal, the transparent
    terminal off it) -/
theorem Red_cofactor (p : Nat) (fi fj : Option Nat)
    (d : DD α) (hr : Red S zero (p+1) fi d = true) (i : Nat) (hi : i < S.size (p+1)) :
    Red S zero p (some i) (cofactor S zero (p+1) fj d i) = true := by
  rcases storedAt_cases (p+1) d with ⟨cs, rfl⟩ | hd
  · obtain ⟨_, hlen, _, _, hch⟩ := (Red_succ_node S zero p fi cs).mp hr
    rw [cofactor_node]
    exact hch i (by rw [hlen]; exact hi)
  · obtain ⟨_, h2⟩ := Red_succ_skip S zero p fi hd hr
    rcases cofactor_skip_cases S zero (p+1) fj i hd with h | h <;> rw [h]
    · exact Red_none_some S zero p i d h2
    · exact Red_leaf_zero S zero p (some i)

end

theorem mkNode_map_range_congr {S : Shape} {zero : α} {k : Nat} {fi : Option Nat} {n : Nat}
    {g h : Nat → DD α} (H : ∀ i, i < n → g i = h i) :
    mkNode S zero k fi ((List.range n).map g) = mkNode S zero k fi ((List.range n).map h) :=
  congrArg _ (List.map_congr_left fun i hi => H i (List.mem_range.mp hi))

section
variable (Sa Sb Sc : Shape) (za : α) (zb : β) (zc : γ) (f : α → β → γ)

theorem apply2_zero (fi : Option Nat) (a : DD α) (b : DD β) :
    apply2 Sa Sb Sc za zb zc f 0 fi a b = .leaf (f (leafVal za a) (leafVal zb b)) := by
  rw [apply2]

theorem apply2_succ (k : Nat) (fi : Option Nat) (a : DD α) (b : DD β) :
    apply2 Sa Sb Sc za zb zc f (k+1) fi a b =
      mkNode Sc zc (k+1) fi
        ((List.range (Sc.size (k+1))).map fun i =>
          apply2 Sa Sb Sc za zb zc f k (some i)
            (cofactor Sa za (k+1) fi a i) (cofactor Sb zb (k+1) fi b i)) := by
  rw [apply2]

theorem apply2_Below_WFTree (k : Nat) (fi : Option Nat) (a : DD α) (b : DD β) :
    Below k (apply2 Sa Sb Sc za zb zc f k fi a b) ∧
    WFTree (apply2 Sa Sb Sc za zb zc f k fi a b) := by
  induction k generalizing fi a b with
  | zero =>
    rw [apply2_zero]
    exact ⟨Below_leaf _ _, WFTree.leaf _⟩
  | succ k ih =>
    rw [apply2_succ]
    exact mkNode_map_ok Sc zc k fi _ _ fun i => ih _ _ _

end

/-- `apply2 f` denotes the pointwise `f` of the operands' denotations.
    (No hypothesis on the operand trees or on `Sa`, `Sb` is needed: `cofactor`
    mirrors `eval` on arbitrary trees.) -/
theorem apply2_eval (Sa Sb Sc : Shape) (za : α) (zb : β) (zc : γ) (f : α → β → γ) :
    ∀ (k : Nat) (fi : Option Nat) (a : DD α) (b : DD β) (x : Assign),
      k ≤ Sc.top → Assign.Valid Sc x →
      (Sa.mode k = .ident → fi = some (x (k+1))) →
      (Sb.mode k = .ident → fi = some (x (k+1))) →
      (Sc.mode k = .ident → fi = some (x (k+1))) →
      eval Sc zc k (apply2 Sa Sb Sc za zb zc f k fi a b) x
        = f (eval Sa za k a x) (eval Sb zb k b x) := by
  intro k
  induction k with
  | zero =>
    intro fi a b x _ _ _ _ _
    rw [apply2_zero, eval_zero_leaf, eval_zero_eq_leafVal, eval_zero_eq_leafVal]
  | succ k ih =>
    intro fi a b x hk hx ha hb hc
    have hxk : x (k+1) < Sc.size (k+1) := hx (k+1) (by omega) hk
    rw [apply2_succ,
      mkNode_map_eval Sc zc k fi _ _ x rfl hxk
        (fun i => (apply2_Below_WFTree Sa Sb Sc za zb zc f k _ _ _).1) hc,
      ih (some (x (k+1))) _ _ x (by omega) hx (fun _ => rfl) (fun _ => rfl) (fun _ => rfl),
      ← cofactor_eval Sa za k fi a x ha, ← cofactor_eval Sb zb k fi b x hb]

theorem _root_.Meddly.Shape.WF.top_not_ident {S : Shape} (hS : S.WF) {k : Nat} (hk : S.top ≤ k) :
    S.mode k ≠ .ident := by
  intro h
  have := (hS.ident_below_red k h).2.1
  omega

theorem apply2_eval_top (Sa Sb Sc : Shape) (za : α) (zb : β) (zc : γ) (f : α → β → γ)
    (hSa : Sa.WF) (hSb : Sb.WF) (hSc : Sc.WF) (hac : SameVars Sa Sc) (hbc : SameVars Sb Sc)
    (a : DD α) (b : DD β) (x : Assign) (hx : Assign.Valid Sc x) :
    eval Sc zc Sc.top (apply2 Sa Sb Sc za zb zc f Sc.top none a b) x
      = f (eval Sa za Sa.top a x) (eval Sb zb Sb.top b x) := by
  rw [hac.top, hbc.top]
  exact apply2_eval Sa Sb Sc za zb zc f Sc.top none a b x (Nat.le_refl _) hx
    (fun h => absurd h (hSa.top_not_ident (Nat.le_of_eq hac.top)))
    (fun h => absurd h (hSb.top_not_ident (Nat.le_of_eq hbc.top)))
    (fun h => absurd h (hSc.top_not_ident (Nat.le_refl _)))

theorem apply2_red (Sa Sb Sc : Shape) (za : α) (zb : β) (zc : γ) (f : α → β → γ) (hSc : Sc.WF) :
    ∀ (k : Nat) (fi : Option Nat) (a : DD α) (b : DD β),
      (fi = none → Sc.mode k ≠ .ident) →
      Red Sc zc k fi (apply2 Sa Sb Sc za zb zc f k fi a b) = true := by
  intro k
  induction k with
  | zero =>
    intro fi a b _
    rw [apply2_zero]; rfl
  | succ k ih =>
    intro fi a b hfi
    rw [apply2_succ]
    exact mkNode_map_red Sc zc hSc k fi _ _ rfl (fun i _ => ih (some i) _ _ nofun) hfi

theorem apply2_red_top (Sa Sb Sc : Shape) (za : α) (zb : β) (zc : γ) (f : α → β → γ)
    (hSc : Sc.WF) (a : DD α) (b : DD β) :
    Red Sc zc Sc.top none (apply2 Sa Sb Sc za zb zc f Sc.top none a b) = true :=
  apply2_red Sa Sb Sc za zb zc f hSc Sc.top none a b
    (fun _ => hSc.top_not_ident (Nat.le_refl _))

/-- `apply2` computes *the* reduced tree of the pointwise function. -/
theorem apply2_unique (Sa Sb Sc : Shape) (za : α) (zb : β) (zc : γ) (f : α → β → γ)
    (hSa : Sa.WF) (hSb : Sb.WF) (hSc : Sc.WF) (hac : SameVars Sa Sc) (hbc : SameVars Sb Sc)
    (a : DD α) (b : DD β) (r : DD γ)
    (hr : Red Sc zc Sc.top none r = true)
    (hd : ∀ x, Assign.Valid Sc x →
      eval Sc zc Sc.top r x = f (eval Sa za Sa.top a x) (eval Sb zb Sb.top b x)) :
    r = apply2 Sa Sb Sc za zb zc f Sc.top none a b := by
  apply (canon Sc zc hSc r _ hr (apply2_red_top Sa Sb Sc za zb zc f hSc a b)).mp
  intro x hx
  rw [hd x hx, apply2_eval_top Sa Sb Sc za zb zc f hSa hSb hSc hac hbc a b x hx]

/-! ## `apply1` -/

section
variable (Sa Sc : Shape) (za : α) (zc : γ) (f : α → γ)

theorem apply1_zero (fi : Option Nat) (a : DD α) :
    apply1 Sa Sc za zc f 0 fi a = .leaf (f (leafVal za a)) := by
  rw [apply1]

theorem apply1_succ (k : Nat) (fi : Option Nat) (a : DD α) :
    apply1 Sa Sc za zc f (k+1) fi a =
      mkNode Sc zc (k+1) fi
        ((List.range (Sc.size (k+1))).map fun i =>
          apply1 Sa Sc za zc f k (some i) (cofactor Sa za (k+1) fi a i)) := by
  rw [apply1]

/-- the unary recursion is the binary one on the diagonal, the second operand ignored -/
theorem apply1_eq_apply2 (k : Nat) (fi : Option Nat) (a : DD α) :
    apply1 Sa Sc za zc f k fi a = apply2 Sa Sa Sc za za zc (fun v _ => f v) k fi a a := by
  induction k generalizing fi a with
  | zero => rw [apply1_zero, apply2_zero]
  | succ k ih =>
    rw [apply1_succ, apply2_succ]
    exact mkNode_map_range_congr fun i _ => ih _ _

theorem apply1_eval (k : Nat) (fi : Option Nat) (a : DD α) (x : Assign)
    (hk : k ≤ Sc.top) (hx : Assign.Valid Sc x)
    (ha : Sa.mode k = .ident → fi = some (x (k+1)))
    (hc : Sc.mode k = .ident → fi = some (x (k+1))) :
    eval Sc zc k (apply1 Sa Sc za zc f k fi a) x = f (eval Sa za k a x) := by
  rw [apply1_eq_apply2]; exact apply2_eval Sa Sa Sc za za zc _ k fi a a x hk hx ha ha hc

end

theorem apply1_eval_top (Sa Sc : Shape) (za : α) (zc : γ) (f : α → γ)
    (hSa : Sa.WF) (hSc : Sc.WF) (hac : SameVars Sa Sc)
    (a : DD α) (x : Assign) (hx : Assign.Valid Sc x) :
    eval Sc zc Sc.top (apply1 Sa Sc za zc f Sc.top none a) x = f (eval Sa za Sa.top a x) := by
  rw [apply1_eq_apply2]
  exact apply2_eval_top Sa Sa Sc za za zc _ hSa hSa hSc hac hac a a x hx

theorem apply1_red (Sa Sc : Shape) (za : α) (zc : γ) (f : α → γ) (hSc : Sc.WF)
    (k : Nat) (fi : Option Nat) (a : DD α) (hfi : fi = none → Sc.mode k ≠ .ident) :
    Red Sc zc k fi (apply1 Sa Sc za zc f k fi a) = true := by
  rw [apply1_eq_apply2]; exact apply2_red Sa Sa Sc za za zc _ hSc k fi a a hfi

theorem apply1_red_top (Sa Sc : Shape) (za : α) (zc : γ) (f : α → γ) (hSc : Sc.WF) (a : DD α) :
    Red Sc zc Sc.top none (apply1 Sa Sc za zc f Sc.top none a) = true :=
  apply1_red Sa Sc za zc f hSc Sc.top none a (fun _ => hSc.top_not_ident (Nat.le_refl _))

theorem apply1_unique (Sa Sc : Shape) (za : α) (zc : γ) (f : α → γ)
    (hSa : Sa.WF) (hSc : Sc.WF) (hac : SameVars Sa Sc) (a : DD α) (r : DD γ)
    (hr : Red Sc zc Sc.top none r = true)
    (hd : ∀ x, Assign.Valid Sc x → eval Sc zc Sc.top r x = f (eval Sa za Sa.top a x)) :
    r = apply1 Sa Sc za zc f Sc.top none a := by
  rw [apply1_eq_apply2]
  exact apply2_unique Sa Sa Sc za za zc _ hSa hSa hSc hac hac a a r hr hd

/-! ## Set algebra -/

section SetAlgebra
variable (Sa Sb Sc : Shape)

/-- union of two sets / relations (operands in forests `Sa`, `Sb`; result in `Sc`) -/
def union (a b : DD Bool) : DD Bool :=
  apply2 Sa Sb Sc false false false (fun p q => p || q) Sc.top none a b
def inter (a b : DD Bool) : DD Bool :=
  apply2 Sa Sb Sc false false false (fun p q => p && q) Sc.top none a b
def diff (a b : DD Bool) : DD Bool :=
  apply2 Sa Sb Sc false false false (fun p q => p && !q) Sc.top none a b
def compl (a : DD Bool) : DD Bool :=
  apply1 Sa Sc false false (fun p => !p) Sc.top none a

variable {Sa Sb Sc}

theorem union_eval (hSa : Sa.WF) (hSb : Sb.WF) (hSc : Sc.WF) (hac : SameVars Sa Sc)
    (hbc : SameVars Sb Sc) (a b : DD Bool) (x : Assign) (hx : Assign.Valid Sc x) :
    eval Sc false Sc.top (union Sa Sb Sc a b) x
      = (eval Sa false Sa.top a x || eval Sb false Sb.top b x) :=
  apply2_eval_top Sa Sb Sc false false false _ hSa hSb hSc hac hbc a b x hx

theorem inter_eval (hSa : Sa.WF) (hSb : Sb.WF) (hSc : Sc.WF) (hac : SameVars Sa Sc)
    (hbc : SameVars Sb Sc) (a b : DD Bool) (x : Assign) (hx : Assign.Valid Sc x) :
    eval Sc false Sc.top (inter Sa Sb Sc a b) x
      = (eval Sa false Sa.top a x && eval Sb false Sb.top b x) :=
  apply2_eval_top Sa Sb Sc false false false _ hSa hSb hSc hac hbc a b x hx

theorem diff_eval (hSa : Sa.WF) (hSb : Sb.WF) (hSc : Sc.WF) (hac : SameVars Sa Sc)
    (hbc : SameVars Sb Sc) (a b : DD Bool) (x : Assign) (hx : Assign.Valid Sc x) :
    eval Sc false Sc.top (diff Sa Sb Sc a b) x
      = (eval Sa false Sa.top a x && !eval Sb false Sb.top b x) :=
  apply2_eval_top Sa Sb Sc false false false _ hSa hSb hSc hac hbc a b x hx

theorem compl_eval (hSa : Sa.WF) (hSc : Sc.WF) (hac : SameVars Sa Sc)
    (a : DD Bool) (x : Assign) (hx : Assign.Valid Sc x) :
    eval Sc false Sc.top (compl Sa Sc a) x = !eval Sa false Sa.top a x :=
  apply1_eval_top Sa Sc false false _ hSa hSc hac a x hx

theorem union_red (hSc : Sc.WF) (a b : DD Bool) :
    Red Sc false Sc.top none (union Sa Sb Sc a b) = true :=
  apply2_red_top Sa Sb Sc false false false _ hSc a b

theorem inter_red (hSc : Sc.WF) (a b : DD Bool) :
    Red Sc false Sc.top none (inter Sa Sb Sc a b) = true :=
  apply2_red_top Sa Sb Sc false false false _ hSc a b

theorem diff_red (hSc : Sc.WF) (a b : DD Bool) :
    Red Sc false Sc.top none (diff Sa Sb Sc a b) = true :=
  apply2_red_top Sa Sb Sc false false false _ hSc a b

theorem compl_red (hSc : Sc.WF) (a : DD Bool) :
    Red Sc false Sc.top none (compl Sa Sc a) = true :=
  apply1_red_top Sa Sc false false _ hSc a

end SetAlgebra

end DD

namespace ApplyExamples
open DD CanonExamples

/-! ## Non-vacuity: concrete instances -/

/-! (a) fully reduced, three positions of sizes 2, 3, 2 (`CanonExamples.SA`) -/

def xA : DD Bool := .node 1 [.leaf false, .leaf true]
def yA : DD Bool := .node 1 [.leaf true, .leaf false]
/-- child 1 skips position 2 -/
def aA : DD Bool := .node 3 [.node 2 [xA, yA, .leaf false], xA]
def bA : DD Bool := .node 3 [.node 2 [yA, .leaf false, xA], .leaf false]

example : Red SA false 3 none aA = true := by decide +kernel
example : Red SA false 3 none bA = true := by decide +kernel
/-- `xA ∪ yA` is the redundant node `[true, true]`, eliminated to `leaf true` -/
example : union SA SA SA aA bA = .node 3 [.node 2 [.leaf true, yA, xA], xA] := by decide +kernel
example : Red SA false 3 none (.node 3 [.node 2 [.leaf true, yA, xA], xA]) = true := by decide +kernel
example : inter SA SA SA aA bA = .leaf false := by decide +kernel
example : compl SA SA aA = .node 3 [.node 2 [yA, xA, .leaf true], yA] := by decide +kernel

/-! (b) operands identity-reduced (`CanonExamples.SB`: positions 4, 2 `red`;
    3, 1 `ident`; sizes 2), result fully reduced over the same variables -/

def SF : Shape where
  top := 4
  size := fun _ => 2
  mode := fun _ => .red

theorem SF_WF : SF.WF where
  size_ge := fun _ _ _ => Nat.le_refl 2
  ident_below_red := fun _ h => nomatch h

theorem SB_SF : SameVars SB SF := ⟨rfl, fun _ => rfl⟩

/-- the identity relation on both variables: skips every position -/
def aB : DD Bool := .leaf true
/-- `x₂ = 0 → x₂' = 1`, `x₁' = x₁`: the `leaf true` skips the `ident` position 1 -/
def bB : DD Bool := .node 4 [.node 3 [.leaf false, .leaf true], .leaf false]
/-- the identity on variable 1, spelled out in a fully reduced forest -/
def i1 : DD Bool := .node 2 [.node 1 [.leaf true, .leaf false], .node 1 [.leaf false, .leaf true]]

example : Red SB false 4 none aB = true := by decide +kernel
example : Red SB false 4 none bB = true := by decide +kernel
/-- identity expansion of both operands; below index 0 of position 4 the node
    `[i1, i1]` at position 3 is redundant in the fully reduced result -/
example : union SB SB SF aB bB = .node 4 [i1, .node 3 [.leaf false, i1]] := by decide +kernel
example : Red SF false 4 none (.node 4 [i1, .node 3 [.leaf false, i1]]) = true := by decide +kernel
/-- same operands, identity-reduced result: below index 1 the 1-singleton at
    position 3 is eliminated again -/
example : union SB SB SB aB bB = .node 4 [.node 3 [.leaf true, .leaf true], .leaf true] := by
  decide +kernel
example : diff SB SB SB aB bB = .leaf true := by decide +kernel
example : diff SB SB SF aB bB =
    .node 4 [.node 3 [i1, .leaf false], .node 3 [.leaf false, i1]] := by decide +kernel
/-- the complement of a relation in an identity-reduced forest: "everything"
    below a skipped `red` position is the stored node `[true, true]` -/
example : compl SB SB bB =
    .node 4 [.node 3 [.node 1 [.leaf true, .leaf true],
                      .node 2 [.node 1 [.leaf false, .leaf true], .node 1 [.leaf true, .leaf false]]],
             .node 3 [.node 1 [.leaf true, .leaf true], .node 1 [.leaf true, .leaf true]]] := by
  decide +kernel

/-- the general theorems apply to the concrete instance -/
example (x : Assign) (hx : Assign.Valid SF x) :
    eval SF false 4 (.node 4 [i1, .node 3 [.leaf false, i1]]) x
      = (eval SB false 4 aB x || eval SB false 4 bB x) := by
  have h := union_eval SB_WF SB_WF SF_WF SB_SF SB_SF aB bB x hx
  have e : union SB SB SF aB bB = .node 4 [i1, .node 3 [.leaf false, i1]] := by decide +kernel
  rw [e] at h
  exact h

end ApplyExamples

#print axioms DD.apply2_eval_top
#print axioms DD.apply2_red_top
#print axioms DD.apply2_unique
#print axioms DD.apply1_eval_top
#print axioms DD.apply1_unique
#print axioms DD.union_eval
/- Output (Lean 4.33.0):
'Meddly.DD.apply2_eval_top' depends on axioms: [propext, Quot.sound]
'Meddly.DD.apply2_red_top' depends on axioms: [propext, Classical.choice, Quot.sound]
'Meddly.DD.apply2_unique' depends on axioms: [propext, Classical.choice, Quot.sound]
'Meddly.DD.apply1_eval_top' depends on axioms: [propext, Quot.sound]
'Meddly.DD.apply1_unique' depends on axioms: [propext, Classical.choice, Quot.sound]
'Meddly.DD.union_eval' depends on axioms: [propext, Quot.sound]
-/

end Meddly
