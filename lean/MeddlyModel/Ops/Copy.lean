/-
  C10, Layer 2: `COPY` between multi-terminal forests as an instance of the
  generic unary apply (`Ops/Apply.lean`):

      copy Sa Sc za zc f e  =  apply1 Sa Sc za zc f Sc.top none e

  `Sa`/`Sc` are the shapes of the source and target forest (same variables, any
  of the three reduction rules on either side), `za`/`zc` their transparent
  values and `f` the scalar conversion (`Spec.conv ka kb` for the instance
  `copyMT`).  `copy_MT::_compute` (src/operations/copy.cc) is an optimisation of
  this recursion: it walks the STORED nodes of the source only and rebuilds the
  skipped positions afterwards (`makeRedundantsTo`, `makeIdentitiesTo`,
  `redirectSingleton`; for relations with the same rule on both sides through
  `rel_node` rows), with a compute table keyed by the source node.  By
  `copy_unique` ANY procedure whose result is reduced for the target forest and
  denotes `f ∘ ⟦e⟧` returns exactly this tree — and a reduced result with the
  right denotation is what the correspondence run observes (Dump.check on the
  target forest's node store + the result's table).

  MT ↔ EV+ copies are modelled on edge-valued trees in Ops/EVApply.lean
  (`copyMTtoEV`, `copyEVtoMT`); for EV* and index sets the property is stated at
  the table level only: `Spec.conv`, `Spec.copyImpl`, `Spec.convExact`
  (Spec/Conv.lean) are the oracle of the differential run (Driver/P_Copy.lean).
-/
import MeddlyModel.Ops.ApplyProofs
import MeddlyModel.Spec.Conv

namespace Meddly


namespace DD
variable {α γ : Type} [DecidableEq α] [DecidableEq γ]

/-- `COPY` of `e` from a forest of shape `Sa` into a forest of shape `Sc`,
    converting every value with `f`. -/
def copy (Sa Sc : Shape) (za : α) (zc : γ) (f : α → γ) (e : DD α) : DD γ :=
  apply1 Sa Sc za zc f Sc.top none e

theorem SameVars.symm {S T : Shape} (h : SameVars S T) : SameVars T S :=
  ⟨h.top.symm, fun p => (h.size p).symm⟩

theorem SameVars.valid {S T : Shape} (h : SameVars S T) (x : Assign) :
    Assign.Valid S x ↔ Assign.Valid T x := by
  have fwd : ∀ {S T : Shape}, SameVars S T → Assign.Valid S x → Assign.Valid T x :=
    fun h hx p h1 h2 => h.size p ▸ hx p h1 (h.top ▸ h2)
  exact ⟨fwd h, fwd h.symm⟩

end DD

/-! ## Non-vacuity material: concrete shapes and edges -/

namespace CopyExamples
open DD CanonExamples ApplyExamples Spec

/-- quasi reduced relation over two variables (positions 4..1, sizes 2) -/
def SQ : Shape where
  top := 4
  size := fun _ => 2
  mode := fun _ => .none

theorem SQ_WF : SQ.WF where
  size_ge := by intro p _ _; exact Nat.le_refl 2
  ident_below_red := by intro p h; cases h

theorem SB_SQ : SameVars SB SQ := ⟨rfl, fun _ => rfl⟩

def kIntI : Kind := ⟨true, .int, .mt, .ident⟩
def kRealF : Kind := ⟨true, .real, .mt, .fully⟩
def kRealQ : Kind := ⟨true, .real, .mt, .quasi⟩
def kBoolQ : Kind := ⟨true, .bool, .mt, .quasi⟩

/-- identity-reduced integer relation: `x₂=0 ∧ x₂'=1 ∧ x₁'=x₁ ↦ 3`, `x₂=1 ∧ x₂'=1 ∧ x₁'=x₁ ↦ 2`
    (child 1 of the root skips the `ident` position 3 below index 1, and both skip variable 1) -/
def eI : DD Val := .node 4 [.node 3 [.leaf (.i 0), .leaf (.i 3)], .leaf (.i 2)]

/-- the identity on variable 1 with value `v`, spelled out -/
def idv (v z : Val) : DD Val := .node 2 [.node 1 [.leaf v, .leaf z], .node 1 [.leaf z, .leaf v]]

/-- a real-valued function that is not integral: 3/2 at one place -/
def eR : DD Val := .node 4 [.leaf (.r 3 1), .leaf (.r 1 0)]

end CopyExamples

namespace DD
variable {α γ : Type} [DecidableEq α] [DecidableEq γ]

/-- C10 (evaluation): the copy evaluates, at every assignment, to the converted source value —
    whatever the reduction rules of the two forests are. -/
theorem copy_eval (Sa Sc : Shape) (za : α) (zc : γ) (f : α → γ)
    (hSa : Sa.WF) (hSc : Sc.WF) (hac : SameVars Sa Sc) (e : DD α) (x : Assign)
    (hx : Assign.Valid Sc x) :
    eval Sc zc Sc.top (copy Sa Sc za zc f e) x = f (eval Sa za Sa.top e x) :=
  apply1_eval_top Sa Sc za zc f hSa hSc hac e x hx

open CopyExamples CanonExamples ApplyExamples in
/-- instance: identity-reduced integer relation `eI` into a fully reduced real forest -/
example (x : Assign) (hx : Assign.Valid SF x) :
    eval SF (Val.r 0 0) 4 (copy SB SF (Val.i 0) (Val.r 0 0) Spec.toRealC eI) x
      = Spec.toRealC (eval SB (Val.i 0) 4 eI x) :=
  copy_eval SB SF (Val.i 0) (Val.r 0 0) Spec.toRealC SB_WF SF_WF SB_SF eI x hx

/-- The copy is in the reduced form of the TARGET forest (so it is a legal, canonical edge there). -/
theorem copy_red (Sa Sc : Shape) (za : α) (zc : γ) (f : α → γ) (hSc : Sc.WF) (e : DD α) :
    Red Sc zc Sc.top none (copy Sa Sc za zc f e) = true :=
  apply1_red_top Sa Sc za zc f hSc e

open CopyExamples CanonExamples ApplyExamples in
example : Red SF (Val.r 0 0) 4 none (copy SB SF (Val.i 0) (Val.r 0 0) Spec.toRealC eI) = true ∧
    copy SB SF (Val.i 0) (Val.r 0 0) Spec.toRealC eI ≠ .leaf (Val.r 0 0) := by decide +kernel

/-- Whatever traversal the code uses: a result that is reduced for the target forest and denotes
    the converted function IS the model's copy (so e.g. the relation-node path and the plain path
    of `copy_MT`, cold or warm caches, must return the same edge). -/
theorem copy_unique (Sa Sc : Shape) (za : α) (zc : γ) (f : α → γ)
    (hSa : Sa.WF) (hSc : Sc.WF) (hac : SameVars Sa Sc) (e : DD α) (r : DD γ)
    (hr : Red Sc zc Sc.top none r = true)
    (hd : ∀ x, Assign.Valid Sc x → eval Sc zc Sc.top r x = f (eval Sa za Sa.top e x)) :
    r = copy Sa Sc za zc f e :=
  apply1_unique Sa Sc za zc f hSa hSc hac e r hr hd

open CopyExamples CanonExamples ApplyExamples in
/-- the hypotheses are satisfiable: the explicit tree below is reduced for the fully reduced target
    and (being the model's copy) denotes the converted function, so it is THE copy -/
example : (.node 4 [.node 3 [.leaf (.r 0 0), idv (.r 3 0) (.r 0 0)],
                    .node 3 [.leaf (.r 0 0), idv (.r 2 0) (.r 0 0)]] : DD Val)
    = copy SB SF (Val.i 0) (Val.r 0 0) Spec.toRealC eI := by
  have e : copy SB SF (Val.i 0) (Val.r 0 0) Spec.toRealC eI =
      .node 4 [.node 3 [.leaf (.r 0 0), idv (.r 3 0) (.r 0 0)],
               .node 3 [.leaf (.r 0 0), idv (.r 2 0) (.r 0 0)]] := by decide +kernel
  apply copy_unique SB SF (Val.i 0) (Val.r 0 0) Spec.toRealC SB_WF SF_WF SB_SF eI _ (by decide +kernel)
  intro x hx
  rw [← e]
  exact copy_eval SB SF (Val.i 0) (Val.r 0 0) Spec.toRealC SB_WF SF_WF SB_SF eI x hx

/-- C10 (round trip): copying a reduced edge there (`f`) and back (`g`) returns the IDENTICAL
    edge iff no value in the range of its function is changed by `g ∘ f` — in particular it does
    when the conversion is injective on that range.  (Identical tree; by `Dump.unfold_inj` two
    edges of a certified node store with the same tree are the same node handle.) -/
theorem copy_roundtrip_iff (Sa Sc : Shape) (za : α) (zc : γ) (f : α → γ) (g : γ → α)
    (hSa : Sa.WF) (hSc : Sc.WF) (hac : SameVars Sa Sc) (e : DD α)
    (he : Red Sa za Sa.top none e = true) :
    copy Sc Sa zc za g (copy Sa Sc za zc f e) = e ↔
      ∀ x, Assign.Valid Sa x → g (f (eval Sa za Sa.top e x)) = eval Sa za Sa.top e x := by
  rw [← canon Sa za hSa _ e (copy_red Sc Sa zc za g hSa _) he]
  refine forall_congr' fun x => imp_congr_right fun hx => ?_
  rw [copy_eval Sc Sa zc za g hSc hSa hac.symm _ x hx,
    copy_eval Sa Sc za zc f hSa hSc hac e x ((hac.valid x).mp hx)]

open CopyExamples CanonExamples ApplyExamples in
/-- both sides of the equivalence occur: int→real→int is the identical edge, int→bool→int is not -/
example : copy SF SB (Val.r 0 0) (Val.i 0) Spec.toIntC (copy SB SF (Val.i 0) (Val.r 0 0) Spec.toRealC eI) = eI ∧
    copy SQ SB (Val.b false) (Val.i 0) Spec.toIntC (copy SB SQ (Val.i 0) (Val.b false) Spec.toBoolC eI) ≠ eI := by
  decide +kernel

/-- C10 (round trip, the direction stated in the property). -/
theorem copy_roundtrip (Sa Sc : Shape) (za : α) (zc : γ) (f : α → γ) (g : γ → α)
    (hSa : Sa.WF) (hSc : Sc.WF) (hac : SameVars Sa Sc) (e : DD α)
    (he : Red Sa za Sa.top none e = true)
    (hfg : ∀ x, Assign.Valid Sa x → g (f (eval Sa za Sa.top e x)) = eval Sa za Sa.top e x) :
    copy Sc Sa zc za g (copy Sa Sc za zc f e) = e :=
  (copy_roundtrip_iff Sa Sc za zc f g hSa hSc hac e he).mpr hfg

open CopyExamples CanonExamples ApplyExamples in
/-- instance with an injective conversion (`toRealC` on integers, undone by `toIntC`): the
    hypothesis holds for `eI` (obtained here from the computed equality through the equivalence) -/
example : copy SF SB (Val.r 0 0) (Val.i 0) Spec.toIntC (copy SB SF (Val.i 0) (Val.r 0 0) Spec.toRealC eI) = eI :=
  copy_roundtrip SB SF (Val.i 0) (Val.r 0 0) Spec.toRealC Spec.toIntC SB_WF SF_WF SB_SF eI (by decide +kernel)
    ((copy_roundtrip_iff SB SF (Val.i 0) (Val.r 0 0) Spec.toRealC Spec.toIntC SB_WF SF_WF SB_SF eI
      (by decide +kernel)).mp (by decide +kernel))

end DD

namespace Copy
open DD Spec

/-- `COPY` between two multi-terminal forests of kinds `ka`, `kb` (shapes `Sa`, `Sc`). -/
def copyMT (ka kb : Kind) (Sa Sc : Shape) (e : DD Val) : DD Val :=
  DD.copy Sa Sc ka.zero kb.zero (conv ka kb) e

/-- C10 for multi-terminal forests: the copy evaluates to `Spec.conv ka kb` of the source value at
    every assignment (bool→0/1, int→real, real→int truncated, non-zero→true). -/
theorem copyMT_eval (ka kb : Kind) (Sa Sc : Shape) (hSa : Sa.WF) (hSc : Sc.WF)
    (hac : SameVars Sa Sc) (e : DD Val) (x : Assign) (hx : Assign.Valid Sc x) :
    eval Sc kb.zero Sc.top (copyMT ka kb Sa Sc e) x = conv ka kb (eval Sa ka.zero Sa.top e x) :=
  copy_eval Sa Sc ka.zero kb.zero (conv ka kb) hSa hSc hac e x hx

open CopyExamples CanonExamples ApplyExamples in
/-- identity-reduced integer relation → fully reduced real relation: identities are spelled out -/
example : copyMT kIntI kRealF SB SF eI =
    .node 4 [.node 3 [.leaf (.r 0 0), idv (.r 3 0) (.r 0 0)], .node 3 [.leaf (.r 0 0), idv (.r 2 0) (.r 0 0)]] := by
  decide +kernel

theorem copyMT_red (ka kb : Kind) (Sa Sc : Shape) (hSc : Sc.WF) (e : DD Val) :
    Red Sc kb.zero Sc.top none (copyMT ka kb Sa Sc e) = true :=
  copy_red Sa Sc ka.zero kb.zero (conv ka kb) hSc e

open CopyExamples CanonExamples in
example : Red SQ (Kind.zero kRealQ) 4 none (copyMT kIntI kRealQ SB SQ eI) = true := by decide +kernel

theorem copyMT_unique (ka kb : Kind) (Sa Sc : Shape) (hSa : Sa.WF) (hSc : Sc.WF)
    (hac : SameVars Sa Sc) (e r : DD Val)
    (hr : Red Sc kb.zero Sc.top none r = true)
    (hd : ∀ x, Assign.Valid Sc x →
      eval Sc kb.zero Sc.top r x = conv ka kb (eval Sa ka.zero Sa.top e x)) :
    r = copyMT ka kb Sa Sc e :=
  copy_unique Sa Sc ka.zero kb.zero (conv ka kb) hSa hSc hac e r hr hd

/-- C10 round trip for multi-terminal forests: there and back is the identical edge iff
    `conv kb ka ∘ conv ka kb` fixes every value the function takes. -/
theorem copyMT_roundtrip_iff (ka kb : Kind) (Sa Sc : Shape) (hSa : Sa.WF) (hSc : Sc.WF)
    (hac : SameVars Sa Sc) (e : DD Val) (he : Red Sa ka.zero Sa.top none e = true) :
    copyMT kb ka Sc Sa (copyMT ka kb Sa Sc e) = e ↔
      ∀ x, Assign.Valid Sa x →
        conv kb ka (conv ka kb (eval Sa ka.zero Sa.top e x)) = eval Sa ka.zero Sa.top e x :=
  copy_roundtrip_iff Sa Sc ka.zero kb.zero (conv ka kb) (conv kb ka) hSa hSc hac e he

/-- C10 round trip, lossless pairs (bool→anything, int→int/real, real→real; any rules): for a
    reduced edge whose values have the source's range type, copy there and back is the identical edge. -/
theorem copyMT_roundtrip (ka kb : Kind) (hl : lossless ka kb = true) (Sa Sc : Shape)
    (hSa : Sa.WF) (hSc : Sc.WF) (hac : SameVars Sa Sc) (e : DD Val)
    (he : Red Sa ka.zero Sa.top none e = true)
    (ht : ∀ x, Assign.Valid Sa x → hasKind ka (eval Sa ka.zero Sa.top e x) = true) :
    copyMT kb ka Sc Sa (copyMT ka kb Sa Sc e) = e :=
  (copyMT_roundtrip_iff ka kb Sa Sc hSa hSc hac e he).mpr
    (fun x hx => conv_roundtrip ka kb hl _ (ht x hx))

open CopyExamples CanonExamples ApplyExamples in
/-- int (identity reduced) → real (fully reduced) → back: the identical edge -/
example : Red SB (Kind.zero kIntI) 4 none eI = true ∧
    copyMT kRealF kIntI SF SB (copyMT kIntI kRealF SB SF eI) = eI := by decide +kernel

open CopyExamples CanonExamples ApplyExamples in
/-- int (identity reduced) → bool (quasi reduced) → back is lossy: 3 and 2 come back as 1 -/
example : copyMT kBoolQ kIntI SQ SB (copyMT kIntI kBoolQ SB SQ eI) =
    .node 4 [.node 3 [.leaf (.i 0), .leaf (.i 1)], .leaf (.i 1)] := by decide +kernel

open CopyExamples CanonExamples ApplyExamples in
/-- real → int → real is lossy at 3/2 (truncated to 1) -/
example : copyMT kIntI kRealF SB SF (copyMT kRealF kIntI SF SB eR) ≠ eR := by decide +kernel

end Copy

#print axioms Meddly.DD.copy_eval
#print axioms Meddly.DD.copy_red
#print axioms Meddly.DD.copy_unique
#print axioms Meddly.DD.copy_roundtrip_iff
#print axioms Meddly.DD.copy_roundtrip
#print axioms Meddly.Copy.copyMT_eval
#print axioms Meddly.Copy.copyMT_red
#print axioms Meddly.Copy.copyMT_unique
#print axioms Meddly.Copy.copyMT_roundtrip_iff
#print axioms Meddly.Copy.copyMT_roundtrip
/- Output (Lean 4.33.0): no axioms beyond `propext`, `Classical.choice` and `Quot.sound`. -/

end Meddly
