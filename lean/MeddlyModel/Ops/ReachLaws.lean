/-
  C08 — algebraic laws of the reachable set, as identities between the canonical
  lists the loops of `reach_trad.cc` (and, by `Satur.satur_eq_reach_lfp`,
  saturation) return.

  A user of REACHABLE_STATES_* relies on these without ever checking them: asking
  again from the answer changes nothing (`lfp_idem`), a larger initial set or a
  larger relation never loses states (`lfp_mono_init`, `lfp_mono_rel`), the answer
  from a union is the union of the answers (`lfp_union`), and the answer is closed
  under one more POST_IMAGE (`post_lfp_sub`).  Because a set is the canonical list
  `states.filter p`, equal membership is list equality — the analogue of two
  dd_edges being the same node (`Reach.canon_ext`).

  Nothing new is modelled here: every statement is a corollary of
  `Reach.lfp_mem_iff` (the list `lfp` holds exactly the reflexive-transitive
  closure) and of `Reach.lfpIter_is_filter` (every iterate is a filter of `states`).
-/
import MeddlyModel.Ops.Reach

set_option linter.unusedSectionVars false

namespace Meddly
namespace Reach

variable {σ : Type} [DecidableEq σ]

section
variable {states : List σ} {R R' : σ → σ → Bool} {init init' : List σ}

theorem Reachable.mono_init (h : ∀ s, s ∈ init → s ∈ init') {s : σ}
    (hr : Reachable R init s) : Reachable R init' s := by
  induction hr with
  | base hs => exact .base (h _ hs)
  | step _ hst ih => exact .step ih hst

theorem Reachable.mono_rel (h : ∀ a b, R a b = true → R' a b = true) {s : σ}
    (hr : Reachable R init s) : Reachable R' init s := by
  induction hr with
  | base hs => exact .base hs
  | step _ hst ih => exact .step ih (h _ _ hst)

theorem Reachable.of_or {I : List σ} (h : ∀ x, x ∈ I → x ∈ init ∨ x ∈ init') {s : σ}
    (hr : Reachable R I s) : Reachable R init s ∨ Reachable R init' s := by
  induction hr with
  | base hs => exact (h _ hs).imp .base .base
  | step _ hst ih => exact ih.imp (.step · hst) (.step · hst)

theorem lfp_is_filter : ∃ p : σ → Bool, lfp states R init = states.filter p :=
  lfpIter_is_filter states.length

/-- two results with the same members are equal lists -/
theorem lfp_ext {R₁ R₂ : σ → σ → Bool} {i₁ i₂ : List σ}
    (h : ∀ s, s ∈ lfp states R₁ i₁ ↔ s ∈ lfp states R₂ i₂) :
    lfp states R₁ i₁ = lfp states R₂ i₂ :=
  canon_ext lfp_is_filter lfp_is_filter h

/-- extensive: the initial states are in the answer -/
theorem init_sub_lfp (hc : Complete states) {s : σ} (h : s ∈ init) : s ∈ lfp states R init :=
  (lfp_mem_iff hc s).mpr (.base h)

/-- closed: one more POST_IMAGE of the answer stays inside the answer -/
theorem post_lfp_sub (hc : Complete states) {t : σ}
    (h : t ∈ post states R (lfp states R init)) : t ∈ lfp states R init := by
  obtain ⟨_, s, hs, hst⟩ := mem_post.mp h
  exact (lfp_mem_iff hc t).mpr (.step ((lfp_mem_iff hc s).mp hs) hst)

/-- the answer is the LEAST set containing `init` and closed under the relation -/
theorem lfp_least (hc : Complete states) {S : List σ} (hi : ∀ s, s ∈ init → s ∈ S)
    (hcl : ∀ s t, s ∈ S → R s t = true → t ∈ S) {s : σ} (h : s ∈ lfp states R init) : s ∈ S := by
  have hr := (lfp_mem_iff hc s).mp h
  clear h
  induction hr with
  | base hs => exact hi _ hs
  | step _ hst ih => exact hcl _ _ ih hst

theorem lfp_mono_init (hc : Complete states) (h : ∀ s, s ∈ init → s ∈ init') {s : σ}
    (hs : s ∈ lfp states R init) : s ∈ lfp states R init' :=
  (lfp_mem_iff hc s).mpr (((lfp_mem_iff hc s).mp hs).mono_init h)

/-- monotone in the relation: adding transitions never loses states -/
theorem lfp_mono_rel (hc : Complete states) (h : ∀ a b, R a b = true → R' a b = true) {s : σ}
    (hs : s ∈ lfp states R init) : s ∈ lfp states R' init :=
  (lfp_mem_iff hc s).mpr (((lfp_mem_iff hc s).mp hs).mono_rel h)

/-- idempotent: reachability from the answer returns the same edge -/
theorem lfp_idem (hc : Complete states) :
    lfp states R (lfp states R init) = lfp states R init :=
  lfp_ext fun _ => ⟨lfp_least hc (fun _ h => h) fun s t hs hst =>
    post_lfp_sub hc (mem_post.mpr ⟨hc t, s, hs, hst⟩), init_sub_lfp hc⟩

/-- the answer depends on the initial set only through its members (any two edges
    for the same initial set give the same answer) -/
theorem lfp_congr_init (hc : Complete states) (h : ∀ s, s ∈ init ↔ s ∈ init') :
    lfp states R init = lfp states R init' :=
  lfp_ext fun _ => ⟨lfp_mono_init hc fun x => (h x).mp, lfp_mono_init hc fun x => (h x).mpr⟩

/-- distributes over UNION of the initial sets -/
theorem lfp_union (hc : Complete states) :
    lfp states R (union states init init')
      = union states (lfp states R init) (lfp states R init') := by
  refine canon_ext lfp_is_filter ⟨_, rfl⟩ fun s => ?_
  rw [lfp_mem_iff hc, mem_union, lfp_mem_iff hc, lfp_mem_iff hc]
  constructor
  · exact fun hr => ⟨hc s, hr.of_or fun x hx => (mem_union.mp hx).2⟩
  · rintro ⟨_, h | h⟩
    · exact h.mono_init (fun x hx => mem_union.mpr ⟨hc x, .inl hx⟩)
    · exact h.mono_init (fun x hx => mem_union.mpr ⟨hc x, .inr hx⟩)

/-- forward and backward agree on symmetric relations -/
theorem lfp_conv_of_symm (hsym : ∀ a b, R a b = R b a) :
    lfp states (conv R) init = lfp states R init := by
  rw [show conv R = R from funext fun a => funext fun b => hsym b a]

/-! ### The distance variants against the boolean answer -/

/-- a finite distance exactly on the boolean answer: the support of the distance
    function returned by the distance variants IS the set the boolean variants return -/
theorem dist_isSome_iff_mem_lfp (hc : Complete states) (s : σ) :
    (dist states R init s).isSome = true ↔ s ∈ lfp states R init := by
  rw [lfp_mem_iff hc, Option.isSome_iff_ne_none, Ne, dist_none_iff hc, Classical.not_not]

theorem dist_zero_iff (hc : Complete states) (s : σ) :
    dist states R init s = some 0 ↔ s ∈ init :=
  dist_eq_zero_iff hc s

/-- a larger initial set never increases a distance -/
theorem dist_mono_init (hc : Complete states) (h : ∀ s, s ∈ init → s ∈ init') {s : σ} {n : Nat}
    (hd : dist states R init s = some n) : ∃ m, m ≤ n ∧ dist states R init' s = some m := by
  have hp := ((dist_eq_shortest hc s n).mp hd).1
  have hp' : PathLen R init' n s := by
    clear hd
    induction hp with
    | base hs => exact .base (h _ hs)
    | step _ hst ih => exact .step ih hst
  exact dist_le_of_path hc hp'

end

/-! ## Non-vacuity: a concrete three-state space meets every hypothesis -/

example : Complete [(0 : Fin 3), 1, 2] := by unfold Complete; decide
example : lfp [(0 : Fin 3), 1, 2] (fun a b => decide (a.val + 1 = b.val)) [1] = [1, 2] := by decide +kernel
example : lfp [(0 : Fin 3), 1, 2] (fun a b => decide (a.val + 1 = b.val))
    (lfp [(0 : Fin 3), 1, 2] (fun a b => decide (a.val + 1 = b.val)) [1]) = [1, 2] := by decide +kernel

end Reach
end Meddly
