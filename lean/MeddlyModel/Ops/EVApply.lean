/-
  The generic element-wise "apply" on EV+ trees (`EDD`) — the edge-valued
  counterpart of `Ops/Apply.lean` + `Ops/ApplyProofs.lean`.

  MEDDLY's EV+ arithmetic (`operations/arith_templ.h`) recurses on EDGES:
    * `arith_compat` (plus, minus): the edge values of the two operand entries are
      combined and added to the value returned for the children;
    * `arith_factor` / `arith_pushdn` (min, max): the incoming edge values are
      pushed down to the children.
  On trees both are the same function: the value of the operation on an
  assignment only depends on the SUMS of the edge values along the two paths.
  The model therefore pushes the incoming value down uniformly (`cofactorE`),
  combines the accumulated values at the terminals (`applyE2`, `none` = +∞) and
  rebuilds the result bottom-up through `mkNodeEV` (`normalize_evplus` +
  `createReducedNode`), which pulls the minimum up again.

    * `cofactorE_eval`            the pushed-down child edge denotes the cofactor;
    * `applyE2_eval`              pointwise correctness, any three shapes;
    * `applyE2_red`               the result is a reduced edge of the result forest;
    * `applyE2_unique`            hence, by `EDD.canon`, it is THE reduced edge;
    * `plusE`, `minE`, `maxE`     instances; `minusE` is partial (SUBTRACT_INFINITY);
    * `copyMTtoEV`, `copyEVtoMT`  the MT ↔ EV+ copies on trees.
-/
import MeddlyModel.Core.EVNode
import MeddlyModel.Ops.ApplyProofs
import MeddlyModel.Ops.Arith

namespace Meddly

set_option linter.unusedVariables false

namespace EDD

/-! ## `cofactorE`: child edges with the incoming value pushed down -/

/-- what a skipped position `k` yields for index `i`: the edge itself at `red`/`none`
    positions; at `ident` positions the edge itself on the diagonal (`i` = the index `fi`
    of the position above; also when that index is unknown), the transparent edge off it -/
def skipE (S : Shape) (k : Nat) (fi : Option Nat) (e : Int × EDD) (i : Nat) : Int × EDD :=
  if S.mode k = .ident then
    (match fi with
     | some j => if i = j then e else dflt
     | none => e)
  else e

/-- child edge `i` of the edge `e` seen from position `k`, when the edge arrived through
    index `fi` of position `k+1`; the incoming edge value is PUSHED DOWN:
    value of the child edge = `e.1` + stored value -/
def cofactorE (S : Shape) (k : Nat) (fi : Option Nat) (e : Int × EDD) (i : Nat) : Int × EDD :=
  match e.2 with
  | .node p cs =>
    if p = k then (e.1 + (cs.getD i dflt).1, (cs.getD i dflt).2)
    else skipE S k fi e i
  | _ => skipE S k fi e i

section
variable (S : Shape) (k : Nat) (fi : Option Nat)

theorem cofactorE_node (v : Int) (cs : List (Int × EDD)) (i : Nat) :
    cofactorE S k fi (v, .node k cs) i = (v + (cs.getD i dflt).1, (cs.getD i dflt).2) :=
  if_pos rfl

theorem cofactorE_skip (e : Int × EDD) (i : Nat)
    (hd : e.2.isNodeAt k = false) : cofactorE S k fi e i = skipE S k fi e i := by
  obtain ⟨v, d⟩ := e
  cases d with
  | inf => rfl
  | omega => rfl
  | node p cs => exact if_neg (of_decide_eq_false hd)

theorem skipE_cases (e : Int × EDD) (i : Nat) :
    skipE S k fi e i = e ∨ skipE S k fi e i = dflt := by
  unfold skipE
  split
  · split
    · split
      · exact .inl rfl
      · exact .inr rfl
    · exact .inl rfl
  · exact .inl rfl

theorem evalEdge_pair (v : Int) (d : EDD) (x : Assign) :
    evalEdge S k (v, d) x = (eval S k d x).map (· + v) := rfl

theorem evalEdge_push (v : Int) (c : Int × EDD) (x : Assign) :
    evalEdge S k (v + c.1, c.2) x = (evalEdge S k c x).map (· + v) := by
  unfold evalEdge
  cases eval S k c.2 x with
  | none => rfl
  | some n =>
    show some (n + (v + c.1)) = some (n + c.1 + v)
    rw [Int.add_comm v, Int.add_assoc]

/-- `cofactorE` mirrors `evalEdge` (on arbitrary edges): reading the edge from `k+1` is
    reading its pushed-down child edge `x (k+1)` from `k`. -/
theorem cofactorE_eval (e : Int × EDD) (x : Assign)
    (hfi : S.mode (k+1) = .ident → fi = some (x (k+2))) :
    evalEdge S (k+1) e x = evalEdge S k (cofactorE S (k+1) fi e (x (k+1))) x := by
  obtain ⟨v, d⟩ := e
  rcases storedAt_cases (k+1) d with ⟨cs, rfl⟩ | hd
  · rw [cofactorE_node, evalEdge_push, evalEdge_pair, eval_succ_node]
  · rw [cofactorE_skip S (k+1) fi (v, d) _ hd, evalEdge_pair, eval_succ_skip S k x hd]
    unfold skipE
    -- both sides are decided by the same two tests
    by_cases hm : S.mode (k+1) = .ident
    · rw [hfi hm]
      by_cases he : x (k+1) = x (k+2)
      · simp only [hm, he, ne_eq, not_true_eq_false, and_false, ↓reduceIte]; rfl
      · simp only [hm, he, ne_eq, not_false_eq_true, and_self, ↓reduceIte, evalEdge_dflt]; rfl
    · simp only [hm, false_and, ↓reduceIte]; rfl

end

/-! ## `applyE2` -/

/-- the value of an edge read at position 0: finite iff the target is `omega` -/
def leafValE (e : Int × EDD) : Option Int :=
  match e.2 with
  | .omega => some e.1
  | _ => none

/-- the terminal edge of a value: `+∞ ↦ (0, inf)`, `v ↦ (v, omega)` -/
def ofOpt : Option Int → Int × EDD
  | none => (0, .inf)
  | some v => (v, .omega)

/-- binary element-wise apply on EV+ edges, read from position `k` downwards: values are
    pushed down (`cofactorE`), the accumulated values are combined by `f` at the terminals,
    the result is rebuilt with `mkNodeEV` of the result shape -/
def applyE2 (Sa Sb Sc : Shape) (f : Option Int → Option Int → Option Int) :
    Nat → Option Nat → (Int × EDD) → (Int × EDD) → (Int × EDD)
  | 0, _, a, b => ofOpt (f (leafValE a) (leafValE b))
  | k+1, fi, a, b =>
    mkNodeEV Sc (k+1) fi
      ((List.range (Sc.size (k+1))).map fun i =>
        applyE2 Sa Sb Sc f k (some i)
          (cofactorE Sa (k+1) fi a i) (cofactorE Sb (k+1) fi b i))

theorem evalEdge_zero_eq_leafValE (S : Shape) (e : Int × EDD) (x : Assign) :
    evalEdge S 0 e x = leafValE e := by
  obtain ⟨v, d⟩ := e
  cases d with
  | inf => rfl
  | omega => exact congrArg some (Int.zero_add v)
  | node p cs => rfl

theorem evalEdge_ofOpt (S : Shape) (o : Option Int) (x : Assign) :
    evalEdge S 0 (ofOpt o) x = o := by
  cases o with
  | none => rfl
  | some v => exact congrArg some (Int.zero_add v)

theorem RedEdge_ofOpt (S : Shape) (fi : Option Nat) (o : Option Int) :
    RedEdge S 0 fi (ofOpt o) = true := by
  cases o <;> rfl

theorem Below_omega (k : Nat) : Below k .omega := Nat.zero_le k

theorem Below_ofOpt (k : Nat) (o : Option Int) : Below k (ofOpt o).2 := by
  cases o
  · exact Below_inf k
  · exact Below_omega k

theorem mkNodeEV_Below (S : Shape) (k : Nat) (fi : Option Nat) (cs : List (Int × EDD))
    (hb : ∀ e, e ∈ cs → Below k e.2) : Below (k+1) (mkNodeEV S (k+1) fi cs).2 := by
  have hbn : ∀ m j, Below (k+1) ((evNorm m cs).getD j dflt).2 := by
    intro m j
    rw [getD_evNorm_snd]
    by_cases hjl : j < cs.length
    · exact (hb _ (getD_mem cs j dflt hjl)).mono (Nat.le_succ k)
    · rw [List.getD_eq_getElem?_getD, List.getElem?_eq_none (by omega)]; exact Below_inf _
  rcases mkNodeEV_cases S (k+1) fi cs with ⟨_, hr⟩ | ⟨m, _, hcase⟩
  · rw [hr]; exact Below_inf _
  · rcases hcase with ⟨_, _, hr⟩ | ⟨_, i, _, _, hr⟩ | ⟨hr, _, _⟩ <;> rw [hr]
    · rw [headD_eq_getD']; exact hbn m 0
    · exact hbn m i
    · exact Nat.le_refl (k+1)

/-! ### `mkNodeEV` of the children `g 0, …, g (n-1)`: the step of every recursion below -/

section range
variable {S : Shape} {k : Nat} {fi : Option Nat} {g : Nat → Int × EDD}

theorem mkNodeEV_range_Below {n : Nat} (hg : ∀ i, Below k (g i).2) :
    Below (k+1) (mkNodeEV S (k+1) fi ((List.range n).map g)).2 :=
  mkNodeEV_Below S k fi _ (List.forall_mem_map.mpr fun i _ => hg i)

theorem mkNodeEV_range_eval {x : Assign} (hk : k+1 ≤ S.top) (hx : Assign.Valid S x)
    (hg : ∀ i, Below k (g i).2) (hfi : S.mode (k+1) = .ident → fi = some (x (k+2))) :
    evalEdge S (k+1) (mkNodeEV S (k+1) fi ((List.range (S.size (k+1))).map g)) x
      = evalEdge S k (g (x (k+1))) x := by
  rw [mkNodeEV_eval_child S k fi _ x hk (DD.length_map_range _ _) hx
      (List.forall_mem_map.mpr fun i _ => hg i) hfi,
    DD.getD_map_range _ _ _ (hx (k+1) (by omega) hk)]

theorem mkNodeEV_range_red (hS : S.WF)
    (hg : ∀ i, i < S.size (k+1) → RedEdge S k (some i) (g i) = true)
    (hfi : fi = none → S.mode (k+1) ≠ .ident) :
    RedEdge S (k+1) fi (mkNodeEV S (k+1) fi ((List.range (S.size (k+1))).map g)) = true := by
  apply mkNodeEV_red S hS k fi _ (DD.length_map_range _ _) _ hfi
  intro i hi
  rw [DD.length_map_range] at hi
  rw [DD.getD_map_range _ _ _ hi]
  exact hg i hi

end range

section
variable {Sa Sb Sc : Shape} {f : Option Int → Option Int → Option Int} {k : Nat}
  {fi : Option Nat} {a b : Int × EDD}

theorem applyE2_zero : applyE2 Sa Sb Sc f 0 fi a b = ofOpt (f (leafValE a) (leafValE b)) := rfl

theorem applyE2_succ :
    applyE2 Sa Sb Sc f (k+1) fi a b =
      mkNodeEV Sc (k+1) fi
        ((List.range (Sc.size (k+1))).map fun i =>
          applyE2 Sa Sb Sc f k (some i)
            (cofactorE Sa (k+1) fi a i) (cofactorE Sb (k+1) fi b i)) := rfl

theorem applyE2_Below : Below k (applyE2 Sa Sb Sc f k fi a b).2 := by
  induction k generalizing fi a b with
  | zero => exact Below_ofOpt 0 _
  | succ k ih => exact mkNodeEV_range_Below (fun i => ih)

/-- `applyE2 f` denotes the pointwise `f` of the operands' denotations (`none` = +∞).
    No hypothesis on the operand edges or on `Sa`, `Sb` is needed: `cofactorE` mirrors
    `evalEdge` on arbitrary edges. -/
theorem applyE2_eval {x : Assign} (hk : k ≤ Sc.top) (hx : Assign.Valid Sc x)
    (ha : Sa.mode k = .ident → fi = some (x (k+1)))
    (hb : Sb.mode k = .ident → fi = some (x (k+1)))
    (hc : Sc.mode k = .ident → fi = some (x (k+1))) :
    evalEdge Sc k (applyE2 Sa Sb Sc f k fi a b) x = f (evalEdge Sa k a x) (evalEdge Sb k b x) := by
  induction k generalizing fi a b with
  | zero =>
    rw [applyE2_zero, evalEdge_ofOpt, evalEdge_zero_eq_leafValE, evalEdge_zero_eq_leafValE]
  | succ k ih =>
    rw [applyE2_succ, mkNodeEV_range_eval hk hx (fun i => applyE2_Below) hc,
      ih (by omega) (fun _ => rfl) (fun _ => rfl) (fun _ => rfl),
      ← cofactorE_eval Sa k fi a x ha, ← cofactorE_eval Sb k fi b x hb]

theorem applyE2_red (hSc : Sc.WF) (hfi : fi = none → Sc.mode k ≠ .ident) :
    RedEdge Sc k fi (applyE2 Sa Sb Sc f k fi a b) = true := by
  induction k generalizing fi a b with
  | zero => exact RedEdge_ofOpt Sc fi _
  | succ k ih => exact mkNodeEV_range_red hSc (fun i _ => ih nofun) hfi

end

/-! ## Total instances: plus, min, max -/

/-- `+` on values with `+∞` (`none`): `+∞` is absorbing -/
def plusO : Option Int → Option Int → Option Int
  | some p, some q => some (p + q)
  | _, _ => none

/-- `min` on values with `+∞`: `+∞` is the neutral element -/
def minO : Option Int → Option Int → Option Int
  | some p, some q => some (min p q)
  | some p, none => some p
  | none, some q => some q
  | none, none => none

/-- `max` on values with `+∞`: `+∞` is the top -/
def maxO : Option Int → Option Int → Option Int
  | some p, some q => some (max p q)
  | _, _ => none

section Instances
variable (Sa Sb Sc : Shape)

/-- EV+ `PLUS` (`arith_compat<EdgeOp_plus, evplus_plus>`) -/
def plusE (a b : Int × EDD) : Int × EDD := applyE2 Sa Sb Sc plusO Sc.top none a b
/-- EV+ `MINIMUM` (`arith_factor<EdgeOp_plus, evplus_min>`) -/
def minE (a b : Int × EDD) : Int × EDD := applyE2 Sa Sb Sc minO Sc.top none a b
/-- EV+ `MAXIMUM` (`arith_factor<EdgeOp_plus, evplus_max>`) -/
def maxE (a b : Int × EDD) : Int × EDD := applyE2 Sa Sb Sc maxO Sc.top none a b

end Instances

/-! ## The partial instance: minus -/

/-- all results, or the first error -/
def seqE {β : Type} : List (Except String β) → Except String (List β)
  | [] => .ok []
  | .error s :: _ => .error s
  | .ok v :: rest =>
    match seqE rest with
    | .ok vs => .ok (v :: vs)
    | .error s => .error s

/-- on a mapped list `seqE` is `DD.mapE`, whose lemmas serve for both -/
theorem seqE_map {β : Type} (g : Nat → Except String β) (l : List Nat) :
    seqE (l.map g) = DD.mapE g l := by
  induction l with
  | nil => rfl
  | cons i is ih =>
    rw [List.map_cons, DD.mapE, ← ih]
    cases g i with
    | error s => rfl
    | ok v => rw [seqE]; cases seqE (is.map g) <;> rfl

/-- `-` on values with `+∞`, where it is defined (finite subtrahend); `+∞ - q = +∞` -/
def minusO : Option Int → Option Int → Option Int
  | p, some q => p.map (· - q)
  | _, none => none

/-- `evplus_minus::apply` on accumulated terminal values -/
def minusLeaf (a b : Int × EDD) : Except String (Int × EDD) :=
  match leafValE b with
  | none => .error "SUBTRACT_INFINITY"
  | some q => .ok (ofOpt ((leafValE a).map (· - q)))

/-- EV+ `MINUS` (`arith_compat<EdgeOp_plus, evplus_minus>`), without the shortcuts:
    fails when a terminal pair with an infinite subtrahend is reached -/
def minusRec (Sa Sb Sc : Shape) :
    Nat → Option Nat → (Int × EDD) → (Int × EDD) → Except String (Int × EDD)
  | 0, _, a, b => minusLeaf a b
  | k+1, fi, a, b =>
    match seqE ((List.range (Sc.size (k+1))).map fun i =>
        minusRec Sa Sb Sc k (some i)
          (cofactorE Sa (k+1) fi a i) (cofactorE Sb (k+1) fi b i)) with
    | .ok cs => .ok (mkNodeEV Sc (k+1) fi cs)
    | .error s => .error s

/-- the pairs of accumulated terminal values visited by the recursion from position `k`
    (`sz` = the sizes of the result forest) -/
def leafPairsE (Sa Sb : Shape) (sz : Nat → Nat) :
    Nat → Option Nat → (Int × EDD) → (Int × EDD) → List (Option Int × Option Int)
  | 0, _, a, b => [(leafValE a, leafValE b)]
  | k+1, fi, a, b =>
    (List.range (sz (k+1))).flatMap fun i =>
      leafPairsE Sa Sb sz k (some i)
        (cofactorE Sa (k+1) fi a i) (cofactorE Sb (k+1) fi b i)

section
variable {Sa Sb Sc : Shape} {k : Nat} {fi : Option Nat} {a b r : Int × EDD} {s : String}

theorem minusRec_zero : minusRec Sa Sb Sc 0 fi a b = minusLeaf a b := rfl

theorem minusRec_succ :
    minusRec Sa Sb Sc (k+1) fi a b =
      match seqE ((List.range (Sc.size (k+1))).map fun i =>
          minusRec Sa Sb Sc k (some i)
            (cofactorE Sa (k+1) fi a i) (cofactorE Sb (k+1) fi b i)) with
      | .ok cs => .ok (mkNodeEV Sc (k+1) fi cs)
      | .error s => .error s := rfl

theorem minusRec_succ_ok (h : minusRec Sa Sb Sc (k+1) fi a b = .ok r) :
    ∃ cs, DD.mapE (fun i => minusRec Sa Sb Sc k (some i)
              (cofactorE Sa (k+1) fi a i) (cofactorE Sb (k+1) fi b i))
            (List.range (Sc.size (k+1))) = .ok cs ∧ r = mkNodeEV Sc (k+1) fi cs := by
  rw [minusRec_succ, seqE_map] at h
  split at h
  · next cs hcs => cases h; exact ⟨cs, hcs, rfl⟩
  · cases h

theorem minusRec_succ_error (h : minusRec Sa Sb Sc (k+1) fi a b = .error s) :
    DD.mapE (fun i => minusRec Sa Sb Sc k (some i)
        (cofactorE Sa (k+1) fi a i) (cofactorE Sb (k+1) fi b i))
      (List.range (Sc.size (k+1))) = .error s := by
  rw [minusRec_succ, seqE_map] at h
  split at h
  · cases h
  · next s' hs' => cases h; exact hs'

theorem minusLeaf_ok (h : minusLeaf a b = .ok r) :
    r = ofOpt (minusO (leafValE a) (leafValE b)) := by
  unfold minusLeaf at h
  cases hb : leafValE b with
  | none => rw [hb] at h; cases h
  | some q => rw [hb] at h; cases h; rfl

theorem minusLeaf_error_iff :
    minusLeaf a b = .error s ↔ leafValE b = none ∧ s = "SUBTRACT_INFINITY" := by
  unfold minusLeaf
  cases leafValE b with
  | none => exact ⟨fun h => ⟨rfl, by cases h; rfl⟩, fun h => by rw [h.2]⟩
  | some q => exact ⟨nofun, fun h => nomatch h.1⟩

theorem minusRec_ok (h : minusRec Sa Sb Sc k fi a b = .ok r) :
    r = applyE2 Sa Sb Sc minusO k fi a b := by
  induction k generalizing fi a b r with
  | zero => exact minusLeaf_ok h
  | succ k ih =>
    obtain ⟨cs, hm, rfl⟩ := minusRec_succ_ok h
    rw [applyE2_succ]
    exact congrArg (mkNodeEV Sc (k+1) fi) (DD.mapE_ok hm fun i _ r hr => ih hr)

theorem minusRec_error_msg (h : minusRec Sa Sb Sc k fi a b = .error s) :
    s = "SUBTRACT_INFINITY" := by
  induction k generalizing fi a b with
  | zero => exact (minusLeaf_error_iff.mp h).2
  | succ k ih =>
    obtain ⟨i, _, hi⟩ := DD.mapE_error (minusRec_succ_error h)
    exact ih hi

theorem minusRec_error_iff :
    minusRec Sa Sb Sc k fi a b = .error "SUBTRACT_INFINITY" ↔
      ∃ p, p ∈ leafPairsE Sa Sb Sc.size k fi a b ∧ p.2 = none := by
  induction k generalizing fi a b with
  | zero =>
    simp only [minusRec_zero, minusLeaf_error_iff, leafPairsE, List.mem_singleton, exists_eq_left,
      and_true]
  | succ k ih =>
    rw [leafPairsE]
    constructor
    · intro h
      obtain ⟨i, hi, hei⟩ := DD.mapE_error (minusRec_succ_error h)
      obtain ⟨p, hp, hp2⟩ := ih.mp hei
      exact ⟨p, List.mem_flatMap.mpr ⟨i, hi, hp⟩, hp2⟩
    · rintro ⟨p, hp, hp2⟩
      obtain ⟨i, hi, hpi⟩ := List.mem_flatMap.mp hp
      have hei := ih.mpr ⟨p, hpi, hp2⟩
      -- a success would have succeeded at index `i` too
      cases h : minusRec Sa Sb Sc (k+1) fi a b with
      | error s => rw [minusRec_error_msg h]
      | ok r =>
        obtain ⟨cs, hm, _⟩ := minusRec_succ_ok h
        obtain ⟨v, hv⟩ := DD.mapE_ok_mem hm hi
        rw [hv] at hei; cases hei

/-- The subtrahends of the visited terminal pairs are exactly the values of `b` on the valid
    assignments (that agree with `y`, through which the recursion arrived, above `k`); nothing is
    asked of the minuend or its forest. -/
theorem leafPairsE_snd_iff {v : Option Int} {y : Assign} (hk : k ≤ Sc.top)
    (hy : Assign.Valid Sc y) (hb : Sb.mode k = .ident → fi = some (y (k+1))) :
    (∃ p, p ∈ leafPairsE Sa Sb Sc.size k fi a b ∧ p.2 = v) ↔
      ∃ x, Assign.Valid Sc x ∧ (∀ q, k < q → x q = y q) ∧ evalEdge Sb k b x = v := by
  induction k generalizing fi a b y with
  | zero =>
    simp only [leafPairsE, List.mem_singleton, exists_eq_left, evalEdge_zero_eq_leafValE]
    exact ⟨fun hv => ⟨y, hy, fun _ _ => rfl, hv⟩, fun ⟨_, _, _, hv⟩ => hv⟩
  | succ k ih =>
    rw [leafPairsE]
    constructor
    · rintro ⟨p, hp, hv⟩
      obtain ⟨i, hi, hpi⟩ := List.mem_flatMap.mp hp
      obtain ⟨x, hx, hxa, he⟩ := (ih (by omega) (hy.upd (List.mem_range.mp hi))
        (fun _ => congrArg some (Assign.upd_same y (k+1) i).symm)).mp ⟨p, hpi, hv⟩
      obtain ⟨hx1, hx2⟩ := DD.agree_upd hxa
      refine ⟨x, hx, hx2, ?_⟩
      rw [cofactorE_eval Sb k fi b x (fun hm => by rw [hx2 (k+2) (by omega)]; exact hb hm), hx1]
      exact he
    · rintro ⟨x, hx, hxa, he⟩
      -- the recursion below index `x (k+1)` is entered through `x` itself
      obtain ⟨p, hp, hv⟩ := (ih (y := x) (by omega) hx (fun _ => rfl)).mpr ⟨x, hx, fun _ _ => rfl,
        by rw [← he, cofactorE_eval Sb k fi b x
          (fun hm => by rw [hxa (k+2) (by omega)]; exact hb hm)]⟩
      exact ⟨p, List.mem_flatMap.mpr
        ⟨x (k+1), List.mem_range.mpr (hx (k+1) (by omega) hk), hp⟩, hv⟩

end

/-- EV+ `MINUS` on whole forest edges -/
def minusE (Sa Sb Sc : Shape) (a b : Int × EDD) : Except String (Int × EDD) :=
  minusRec Sa Sb Sc Sc.top none a b

/-! ## MT ↔ EV+ copies on trees -/

/-- copy of a multi-terminal integer tree into an EV+ forest (`copy_MT` with an EV+ target):
    the terminal value `v` becomes the FINITE value `v` (also the transparent 0) -/
def copyMTtoEV (Sa Sc : Shape) (za : Int) : Nat → Option Nat → DD Int → Int × EDD
  | 0, _, a => (DD.leafVal za a, .omega)
  | k+1, fi, a =>
    mkNodeEV Sc (k+1) fi
      ((List.range (Sc.size (k+1))).map fun i =>
        copyMTtoEV Sa Sc za k (some i) (DD.cofactor Sa za (k+1) fi a i))

/-- copy of an EV+ edge into a multi-terminal integer forest (`copy_EV<EdgeOp_plus>`, the
    push-down copy): a finite value `v` becomes the terminal `v`; `+∞` becomes the chosen
    value `infv` (the source has no case for it) -/
def copyEVtoMT (Sa Sc : Shape) (zc infv : Int) : Nat → Option Nat → (Int × EDD) → DD Int
  | 0, _, a => .leaf ((leafValE a).getD infv)
  | k+1, fi, a =>
    DD.mkNode Sc zc (k+1) fi
      ((List.range (Sc.size (k+1))).map fun i =>
        copyEVtoMT Sa Sc zc infv k (some i) (cofactorE Sa (k+1) fi a i))

section
variable {Sa Sc : Shape} {za zc infv : Int} {k : Nat} {fi : Option Nat}

theorem copyMTtoEV_succ {a : DD Int} :
    copyMTtoEV Sa Sc za (k+1) fi a =
      mkNodeEV Sc (k+1) fi
        ((List.range (Sc.size (k+1))).map fun i =>
          copyMTtoEV Sa Sc za k (some i) (DD.cofactor Sa za (k+1) fi a i)) := rfl

theorem copyEVtoMT_succ {a : Int × EDD} :
    copyEVtoMT Sa Sc zc infv (k+1) fi a =
      DD.mkNode Sc zc (k+1) fi
        ((List.range (Sc.size (k+1))).map fun i =>
          copyEVtoMT Sa Sc zc infv k (some i) (cofactorE Sa (k+1) fi a i)) := rfl

theorem copyMTtoEV_Below {a : DD Int} : Below k (copyMTtoEV Sa Sc za k fi a).2 := by
  induction k generalizing fi a with
  | zero => exact Below_omega 0
  | succ k ih => exact mkNodeEV_range_Below (fun i => ih)

theorem copyEVtoMT_Below_WFTree {a : Int × EDD} :
    DD.Below k (copyEVtoMT Sa Sc zc infv k fi a) ∧ DD.WFTree (copyEVtoMT Sa Sc zc infv k fi a) := by
  induction k generalizing fi a with
  | zero => exact ⟨DD.Below_leaf 0 _, DD.WFTree.leaf _⟩
  | succ k ih => exact DD.mkNode_map_ok Sc zc k fi _ _ (fun i => ih)

theorem copyMTtoEV_eval {a : DD Int} {x : Assign} (hk : k ≤ Sc.top) (hx : Assign.Valid Sc x)
    (ha : Sa.mode k = .ident → fi = some (x (k+1)))
    (hc : Sc.mode k = .ident → fi = some (x (k+1))) :
    evalEdge Sc k (copyMTtoEV Sa Sc za k fi a) x = some (DD.eval Sa za k a x) := by
  induction k generalizing fi a with
  | zero =>
    rw [DD.eval_zero_eq_leafVal]
    exact congrArg some (Int.zero_add _)
  | succ k ih =>
    rw [copyMTtoEV_succ, mkNodeEV_range_eval hk hx (fun i => copyMTtoEV_Below) hc,
      ih (by omega) (fun _ => rfl) (fun _ => rfl), ← DD.cofactor_eval Sa za k fi a x ha]

theorem copyEVtoMT_eval {a : Int × EDD} {x : Assign} (hk : k ≤ Sc.top) (hx : Assign.Valid Sc x)
    (ha : Sa.mode k = .ident → fi = some (x (k+1)))
    (hc : Sc.mode k = .ident → fi = some (x (k+1))) :
    DD.eval Sc zc k (copyEVtoMT Sa Sc zc infv k fi a) x = (evalEdge Sa k a x).getD infv := by
  induction k generalizing fi a with
  | zero => rw [evalEdge_zero_eq_leafValE]; rfl
  | succ k ih =>
    rw [copyEVtoMT_succ, DD.mkNode_map_eval Sc zc k fi _ _ x rfl (hx (k+1) (by omega) hk)
        (fun i => copyEVtoMT_Below_WFTree.1) hc,
      ih (by omega) (fun _ => rfl) (fun _ => rfl), ← cofactorE_eval Sa k fi a x ha]

theorem copyMTtoEV_red {a : DD Int} (hSc : Sc.WF) (hfi : fi = none → Sc.mode k ≠ .ident) :
    RedEdge Sc k fi (copyMTtoEV Sa Sc za k fi a) = true := by
  induction k generalizing fi a with
  | zero => rfl
  | succ k ih => exact mkNodeEV_range_red hSc (fun i _ => ih nofun) hfi

theorem copyEVtoMT_red {a : Int × EDD} (hSc : Sc.WF) (hfi : fi = none → Sc.mode k ≠ .ident) :
    DD.Red Sc zc k fi (copyEVtoMT Sa Sc zc infv k fi a) = true := by
  induction k generalizing fi a with
  | zero => rfl
  | succ k ih => exact DD.mkNode_map_red Sc zc hSc k fi _ _ rfl (fun i _ => ih nofun) hfi

end

end EDD

/-! ## Non-vacuity: concrete shapes and operands -/

namespace EVApplyExamples
open EDD CanonExamples ApplyExamples

/-! (a) fully reduced, three positions of sizes 2, 3, 2 (`CanonExamples.SA`) -/

def xE : EDD := .node 1 [(0, .omega), (2, .omega)]
def yE : EDD := .node 1 [(3, .omega), (0, .omega)]
/-- an ∞ entry -/
def zE : EDD := .node 1 [(0, .omega), (0, .inf)]
/-- `xE` is shared; child 1 skips position 2; an ∞ entry at position 2; root value 1 -/
def aE : Int × EDD := (1, .node 3 [(0, .node 2 [(0, xE), (1, yE), (0, .inf)]), (2, xE)])
/-- negative root value; child 1 is the terminal: skips positions 2 and 1 -/
def bE : Int × EDD := (-2, .node 3 [(0, .node 2 [(1, yE), (0, zE), (0, xE)]), (4, .omega)])
/-- a finite-everywhere subtrahend -/
def cE : Int × EDD := (1, .node 3 [(0, .node 2 [(0, xE), (1, yE), (0, yE)]), (2, xE)])

/-- `aE + bE`, written out -/
def plusAB : Int × EDD :=
  (2, .node 3 [(0, .node 2 [(0, .node 1 [(1, .omega), (0, .omega)]), (1, zE), (0, .inf)]),
               (3, xE)])
/-- `min aE bE`, written out -/
def minAB : Int × EDD :=
  (-2, .node 3 [(0, .node 2 [(1, .node 1 [(2, .omega), (0, .omega)]),
                             (0, .node 1 [(0, .omega), (4, .omega)]),
                             (0, xE)]),
                (4, .omega)])
/-- `max aE bE`, written out -/
def maxAB : Int × EDD :=
  (2, .node 3 [(0, .node 2 [(0, .node 1 [(0, .omega), (1, .omega)]), (3, zE), (0, .inf)]),
               (1, xE)])
/-- `bE - cE`, written out -/
def minusBC : Int × EDD :=
  (-7, .node 3 [(0, .node 2 [(3, .node 1 [(5, .omega), (0, .omega)]),
                             (0, zE),
                             (1, .node 1 [(0, .omega), (5, .omega)])]),
                (4, .node 1 [(2, .omega), (0, .omega)])])

/-! (b) identity-reduced relation (`CanonExamples.SB`: top 4, sizes 2; positions 4, 2 `red`,
    positions 3, 1 `ident`); `ApplyExamples.SF`: the same variables, fully reduced -/

/-- the identity relation with value 2: skips every position, also the `ident` ones
    (value `+∞` off the diagonals) -/
def aI : Int × EDD := (2, .omega)
/-- `x₂ = 0 → x₂' = 1` (value 4), `x₂ = 1 → x₂' = 1` (value 1: child 1 skips the `ident`
    position 3), `x₁' = x₁` (the terminal skips the `ident` position 1) -/
def bI : Int × EDD := (1, .node 4 [(3, .node 3 [(0, .inf), (0, .omega)]), (0, .omega)])
/-- the identity on variable 1, spelled out in a fully reduced EV+ forest -/
def i1E : EDD := .node 2 [(0, .node 1 [(0, .omega), (0, .inf)]), (0, .node 1 [(0, .inf), (0, .omega)])]

end EVApplyExamples

namespace EDD

/-- (evaluation) For EVERY scalar function `f` on values with `+∞` and every three forests over
    the same variables — whatever their reduction rules — `applyE2 f` evaluates, at every valid
    assignment, to `f` of the operands' values. -/
theorem applyE2_eval_top (Sa Sb Sc : Shape) (f : Option Int → Option Int → Option Int)
    (hSa : Sa.WF) (hSb : Sb.WF) (hSc : Sc.WF) (hac : DD.SameVars Sa Sc) (hbc : DD.SameVars Sb Sc)
    (a b : Int × EDD) (x : Assign) (hx : Assign.Valid Sc x) :
    evalEdge Sc Sc.top (applyE2 Sa Sb Sc f Sc.top none a b) x
      = f (evalEdge Sa Sa.top a x) (evalEdge Sb Sb.top b x) := by
  rw [hac.top, hbc.top]
  exact applyE2_eval (Nat.le_refl _) hx
    (DD.top_fi hSa (Nat.le_of_eq hac.top))
    (DD.top_fi hSb (Nat.le_of_eq hbc.top))
    (DD.top_fi hSc (Nat.le_refl _))

/-- (normal form) The result of `applyE2` is a reduced edge of the RESULT forest: normalised
    edge values (minimum pulled up to the root edge, `+∞` entries with value 0) and the
    forest's reduction rule. -/
theorem applyE2_red_top (Sa Sb Sc : Shape) (f : Option Int → Option Int → Option Int)
    (hSc : Sc.WF) (a b : Int × EDD) :
    RedEdge Sc Sc.top none (applyE2 Sa Sb Sc f Sc.top none a b) = true :=
  applyE2_red hSc (fun _ => hSc.top_not_ident (Nat.le_refl _))

/-- (uniqueness) Whatever traversal the code uses (`arith_compat` combining edge values on the
    way back, `arith_factor`/`arith_pushdn` pushing them down): a reduced edge of the result
    forest that denotes the pointwise function IS the model's result (by `EDD.canon`). -/
theorem applyE2_unique (Sa Sb Sc : Shape) (f : Option Int → Option Int → Option Int)
    (hSa : Sa.WF) (hSb : Sb.WF) (hSc : Sc.WF) (hac : DD.SameVars Sa Sc) (hbc : DD.SameVars Sb Sc)
    (a b r : Int × EDD)
    (hr : RedEdge Sc Sc.top none r = true)
    (hd : ∀ x, Assign.Valid Sc x →
      evalEdge Sc Sc.top r x = f (evalEdge Sa Sa.top a x) (evalEdge Sb Sb.top b x)) :
    r = applyE2 Sa Sb Sc f Sc.top none a b := by
  apply (canon Sc hSc r _ hr (applyE2_red_top Sa Sb Sc f hSc a b)).mp
  intro x hx
  rw [hd x hx, applyE2_eval_top Sa Sb Sc f hSa hSb hSc hac hbc a b x hx]

section Instances
variable {Sa Sb Sc : Shape}

/-- EV+ `PLUS` is pointwise `+`, `+∞` absorbing. -/
theorem evplus_plus_eval (hSa : Sa.WF) (hSb : Sb.WF) (hSc : Sc.WF) (hac : DD.SameVars Sa Sc)
    (hbc : DD.SameVars Sb Sc) (a b : Int × EDD) (x : Assign) (hx : Assign.Valid Sc x) :
    evalEdge Sc Sc.top (plusE Sa Sb Sc a b) x
      = plusO (evalEdge Sa Sa.top a x) (evalEdge Sb Sb.top b x) :=
  applyE2_eval_top Sa Sb Sc plusO hSa hSb hSc hac hbc a b x hx

/-- EV+ `MINIMUM` is pointwise `min`, `+∞` neutral. -/
theorem evplus_min_eval (hSa : Sa.WF) (hSb : Sb.WF) (hSc : Sc.WF) (hac : DD.SameVars Sa Sc)
    (hbc : DD.SameVars Sb Sc) (a b : Int × EDD) (x : Assign) (hx : Assign.Valid Sc x) :
    evalEdge Sc Sc.top (minE Sa Sb Sc a b) x
      = minO (evalEdge Sa Sa.top a x) (evalEdge Sb Sb.top b x) :=
  applyE2_eval_top Sa Sb Sc minO hSa hSb hSc hac hbc a b x hx

/-- EV+ `MAXIMUM` is pointwise `max`, `+∞` the top. -/
theorem evplus_max_eval (hSa : Sa.WF) (hSb : Sb.WF) (hSc : Sc.WF) (hac : DD.SameVars Sa Sc)
    (hbc : DD.SameVars Sb Sc) (a b : Int × EDD) (x : Assign) (hx : Assign.Valid Sc x) :
    evalEdge Sc Sc.top (maxE Sa Sb Sc a b) x
      = maxO (evalEdge Sa Sa.top a x) (evalEdge Sb Sb.top b x) :=
  applyE2_eval_top Sa Sb Sc maxO hSa hSb hSc hac hbc a b x hx

/-- the results of `PLUS`, `MINIMUM`, `MAXIMUM` are reduced edges of the result forest -/
theorem evplus_plus_red (hSc : Sc.WF) (a b : Int × EDD) :
    RedEdge Sc Sc.top none (plusE Sa Sb Sc a b) = true :=
  applyE2_red_top Sa Sb Sc plusO hSc a b

theorem evplus_min_red (hSc : Sc.WF) (a b : Int × EDD) :
    RedEdge Sc Sc.top none (minE Sa Sb Sc a b) = true :=
  applyE2_red_top Sa Sb Sc minO hSc a b

theorem evplus_max_red (hSc : Sc.WF) (a b : Int × EDD) :
    RedEdge Sc Sc.top none (maxE Sa Sb Sc a b) = true :=
  applyE2_red_top Sa Sb Sc maxO hSc a b

end Instances

section ExamplesA
open EVApplyExamples CanonExamples

/-! instances (a): operands are reduced edges; results written out and reduced -/
example : RedEdge SA 3 none aE = true := by decide +kernel
example : RedEdge SA 3 none bE = true := by decide +kernel
/-- `xE + yE` under `x₃ = 0, x₂ = 0`: values `{1+2, 3-1}`, the minimum 2 is pulled up to the
    root; `yE + zE` keeps the ∞ entry; an ∞ child stays ∞ -/
example : plusE SA SA SA aE bE = plusAB := by decide +kernel
example : RedEdge SA 3 none plusAB = true := by decide +kernel
/-- `min`: the ∞ entries of `aE` (child 2 of position 2) and of `zE` disappear -/
theorem minE_aE_bE : minE SA SA SA aE bE = minAB := by decide +kernel
example : minE SA SA SA aE bE = minAB := minE_aE_bE
example : RedEdge SA 3 none minAB = true := by decide +kernel
example : maxE SA SA SA aE bE = maxAB := by decide +kernel
example : RedEdge SA 3 none maxAB = true := by decide +kernel
/-- an un-normalised operand (root value spread differently) gives the same result -/
example : plusE SA SA SA (0, .node 3 [(1, .node 2 [(0, xE), (1, yE), (5, .inf)]), (3, xE)]) bE
    = plusAB := by decide +kernel
/-- values: `x = (x₁, x₂, x₃) = (1, 1, 0)`: `aE = 1+0+1+0 = 2`, `bE = ∞` -/
example : evalEdge SA 3 aE (fun p => if p = 3 then 0 else 1) = some 2 := by decide +kernel
example : evalEdge SA 3 bE (fun p => if p = 3 then 0 else 1) = none := by decide +kernel
example : evalEdge SA 3 plusAB (fun p => if p = 3 then 0 else 1) = none := by decide +kernel
example : evalEdge SA 3 minAB (fun p => if p = 3 then 0 else 1) = some 2 := by decide +kernel

/-- the general theorem applies to the written-out result -/
example (x : Assign) (hx : Assign.Valid SA x) :
    evalEdge SA 3 minAB x = minO (evalEdge SA 3 aE x) (evalEdge SA 3 bE x) := by
  rw [← minE_aE_bE]
  exact evplus_min_eval SA_WF SA_WF SA_WF ⟨rfl, fun _ => rfl⟩ ⟨rfl, fun _ => rfl⟩ aE bE x hx

end ExamplesA

section ExamplesB
open EVApplyExamples CanonExamples ApplyExamples

/-! instances (b): identity-reduced operands; `aI` skips the `ident` positions 3 and 1,
    `bI` skips the `ident` position 3 below index 1 and the `ident` position 1 -/
example : RedEdge SB 4 none aI = true := by decide +kernel
example : RedEdge SB 4 none bI = true := by decide +kernel
/-- `+`: finite only where both are: `x₂ = x₂' = 1`, `x₁' = x₁`; below index 1 of position 4
    the 1-singleton at the `ident` position 3 is eliminated again -/
example : plusE SB SB SB aI bI = (3, .node 4 [(0, .inf), (0, .omega)]) := by decide +kernel
example : RedEdge SB 4 none (3, .node 4 [(0, .inf), (0, .omega)]) = true := by decide +kernel
/-- `min`: the identity expansion of `aI` at position 3 (`[2, ∞]` below index 0) meets the
    stored node `[∞, 4]` of `bI` -/
example : minE SB SB SB aI bI =
    (1, .node 4 [(1, .node 3 [(0, .omega), (2, .omega)]), (0, .omega)]) := by decide +kernel
example : RedEdge SB 4 none
    (1, .node 4 [(1, .node 3 [(0, .omega), (2, .omega)]), (0, .omega)]) = true := by decide +kernel
/-- same operands, fully reduced result: every identity is spelled out -/
example : minE SB SB SF aI bI =
    (1, .node 4 [(1, .node 3 [(0, i1E), (2, i1E)]), (0, .node 3 [(0, .inf), (0, i1E)])]) := by
  decide +kernel
example : RedEdge SF 4 none
    (1, .node 4 [(1, .node 3 [(0, i1E), (2, i1E)]), (0, .node 3 [(0, .inf), (0, i1E)])])
    = true := by decide +kernel

end ExamplesB

section Minus
variable {Sa Sb Sc : Shape}

/-- A successful EV+ `MINUS` is pointwise `-` (`+∞ - q = +∞`). -/
theorem evplus_minus_eval (hSa : Sa.WF) (hSb : Sb.WF) (hSc : Sc.WF) (hac : DD.SameVars Sa Sc)
    (hbc : DD.SameVars Sb Sc) (a b r : Int × EDD)
    (h : minusE Sa Sb Sc a b = .ok r) (x : Assign) (hx : Assign.Valid Sc x) :
    evalEdge Sc Sc.top r x = minusO (evalEdge Sa Sa.top a x) (evalEdge Sb Sb.top b x) := by
  rw [minusRec_ok h]
  exact applyE2_eval_top Sa Sb Sc minusO hSa hSb hSc hac hbc a b x hx

theorem evplus_minus_red (hSc : Sc.WF) (a b r : Int × EDD)
    (h : minusE Sa Sb Sc a b = .ok r) : RedEdge Sc Sc.top none r = true := by
  rw [minusRec_ok h]
  exact applyE2_red_top Sa Sb Sc minusO hSc a b

/-- EV+ `MINUS` fails, with `SUBTRACT_INFINITY`, iff some visited terminal pair has an
    infinite subtrahend; there is no other failure. -/
theorem evplus_minus_error_iff (a b : Int × EDD) :
    (minusE Sa Sb Sc a b = .error "SUBTRACT_INFINITY" ↔
      ∃ p, p ∈ leafPairsE Sa Sb Sc.size Sc.top none a b ∧ p.2 = none) ∧
    (∀ s, minusE Sa Sb Sc a b = .error s → s = "SUBTRACT_INFINITY") :=
  ⟨minusRec_error_iff, fun _ => minusRec_error_msg⟩

/-- In terms of the denotation: EV+ `MINUS` fails iff the subtrahend is `+∞` on some valid
    assignment (in an identity-reduced forest this includes every off-diagonal assignment of a
    skipped primed level). -/
theorem evplus_minus_error_iff_denot (hSa : Sa.WF) (hSb : Sb.WF) (hSc : Sc.WF)
    (hac : DD.SameVars Sa Sc) (hbc : DD.SameVars Sb Sc) (a b : Int × EDD) :
    minusE Sa Sb Sc a b = .error "SUBTRACT_INFINITY" ↔
      ∃ x, Assign.Valid Sc x ∧ evalEdge Sb Sb.top b x = none := by
  unfold minusE
  rw [minusRec_error_iff, hbc.top]
  constructor
  · intro h
    obtain ⟨x, hx, _, he⟩ := (leafPairsE_snd_iff (Nat.le_refl _) (Assign.valid_const_zero hSc)
      (DD.top_fi hSb (Nat.le_of_eq hbc.top))).mp h
    exact ⟨x, hx, he⟩
  · rintro ⟨x, hx, he⟩
    exact (leafPairsE_snd_iff (Nat.le_refl _) hx (DD.top_fi hSb (Nat.le_of_eq hbc.top))).mpr
      ⟨x, hx, fun _ _ => rfl, he⟩

/-- EV+ `MINUS` succeeds iff the subtrahend is finite on every valid assignment. -/
theorem evplus_minus_ok_iff_denot (hSa : Sa.WF) (hSb : Sb.WF) (hSc : Sc.WF)
    (hac : DD.SameVars Sa Sc) (hbc : DD.SameVars Sb Sc) (a b : Int × EDD) :
    (∃ r, minusE Sa Sb Sc a b = .ok r) ↔
      ∀ x, Assign.Valid Sc x → evalEdge Sb Sb.top b x ≠ none := by
  have hiff := evplus_minus_error_iff_denot hSa hSb hSc hac hbc a b
  constructor
  · rintro ⟨r, hr⟩ x hx hb
    have := hiff.mpr ⟨x, hx, hb⟩
    rw [hr] at this; cases this
  · intro hall
    cases h : minusE Sa Sb Sc a b with
    | ok r => exact ⟨r, rfl⟩
    | error s =>
      rw [minusRec_error_msg h] at h
      obtain ⟨x, hx, hb⟩ := hiff.mp h
      exact absurd hb (hall x hx)

end Minus

section ExamplesMinus
open EVApplyExamples CanonExamples ApplyExamples

/-- finite subtrahend: succeeds; the ∞ entry of the minuend stays -/
example : minusE SA SA SA bE cE = .ok minusBC := by decide +kernel
example : RedEdge SA 3 none minusBC = true := by decide +kernel
/-- `bE` is ∞ at `(x₃, x₂, x₁) = (0, 1, 1)`: a visited pair with an infinite subtrahend -/
example : minusE SA SA SA aE bE = .error "SUBTRACT_INFINITY" := by decide +kernel
example : (some 2, none) ∈ leafPairsE SA SA SA.size 3 none aE bE := by decide +kernel
/-- `∞ - ∞` is an error too (no `x - x = 0` shortcut in the model) -/
example : minusE SA SA SA aE aE = .error "SUBTRACT_INFINITY" := by decide +kernel
/-- identity-reduced subtrahend: ∞ off the diagonal of the skipped primed levels -/
example : minusE SB SB SB bI aI = .error "SUBTRACT_INFINITY" := by decide +kernel

end ExamplesMinus

section CopyTop
variable {Sa Sc : Shape}

/-- MT → EV+ copy (`conv` pair MT-integer → EV+): the copy evaluates to the FINITE value of
    the source at every valid assignment (the multi-terminal 0 becomes the EV+ value 0,
    not `+∞`), whatever the reduction rules of the two forests. -/
theorem copyMTtoEV_eval_top (za : Int) (hSa : Sa.WF) (hSc : Sc.WF) (hac : DD.SameVars Sa Sc)
    (a : DD Int) (x : Assign) (hx : Assign.Valid Sc x) :
    evalEdge Sc Sc.top (copyMTtoEV Sa Sc za Sc.top none a) x
      = some (DD.eval Sa za Sa.top a x) := by
  rw [hac.top]
  exact copyMTtoEV_eval (Nat.le_refl _) hx
    (DD.top_fi hSa (Nat.le_of_eq hac.top))
    (DD.top_fi hSc (Nat.le_refl _))

/-- EV+ → MT copy (`conv` pair EV+ → MT-integer): the copy evaluates to the source value,
    `+∞ ↦ infv`, ONE image of `+∞` given as a parameter (the code has no case for `+∞`;
    `KnownFindings`, F-C10-1: what it produces there is a context-dependent value, not of this
    form). -/
theorem copyEVtoMT_eval_top (zc infv : Int) (hSa : Sa.WF) (hSc : Sc.WF)
    (hac : DD.SameVars Sa Sc) (a : Int × EDD) (x : Assign) (hx : Assign.Valid Sc x) :
    DD.eval Sc zc Sc.top (copyEVtoMT Sa Sc zc infv Sc.top none a) x
      = (evalEdge Sa Sa.top a x).getD infv := by
  rw [hac.top]
  exact copyEVtoMT_eval (Nat.le_refl _) hx
    (DD.top_fi hSa (Nat.le_of_eq hac.top))
    (DD.top_fi hSc (Nat.le_refl _))

/-- the copies are in the reduced form of the TARGET forest -/
theorem copyMTtoEV_red_top (za : Int) (hSc : Sc.WF) (a : DD Int) :
    RedEdge Sc Sc.top none (copyMTtoEV Sa Sc za Sc.top none a) = true :=
  copyMTtoEV_red hSc (fun _ => hSc.top_not_ident (Nat.le_refl _))

theorem copyEVtoMT_red_top (zc infv : Int) (hSc : Sc.WF) (a : Int × EDD) :
    DD.Red Sc zc Sc.top none (copyEVtoMT Sa Sc zc infv Sc.top none a) = true :=
  copyEVtoMT_red hSc (fun _ => hSc.top_not_ident (Nat.le_refl _))

/-- a reduced EV+ edge with the (finite) values of the MT source IS the model's copy -/
theorem copyMTtoEV_unique (za : Int) (hSa : Sa.WF) (hSc : Sc.WF) (hac : DD.SameVars Sa Sc)
    (a : DD Int) (r : Int × EDD) (hr : RedEdge Sc Sc.top none r = true)
    (hd : ∀ x, Assign.Valid Sc x → evalEdge Sc Sc.top r x = some (DD.eval Sa za Sa.top a x)) :
    r = copyMTtoEV Sa Sc za Sc.top none a := by
  apply (canon Sc hSc r _ hr (copyMTtoEV_red_top za hSc a)).mp
  intro x hx
  rw [hd x hx, copyMTtoEV_eval_top za hSa hSc hac a x hx]

/-- a reduced MT tree with the values of the EV+ source (`+∞ ↦ infv`) IS the model's copy -/
theorem copyEVtoMT_unique (zc infv : Int) (hSa : Sa.WF) (hSc : Sc.WF) (hac : DD.SameVars Sa Sc)
    (a : Int × EDD) (r : DD Int) (hr : DD.Red Sc zc Sc.top none r = true)
    (hd : ∀ x, Assign.Valid Sc x →
      DD.eval Sc zc Sc.top r x = (evalEdge Sa Sa.top a x).getD infv) :
    r = copyEVtoMT Sa Sc zc infv Sc.top none a := by
  apply (DD.canon Sc zc hSc r _ hr (copyEVtoMT_red_top zc infv hSc a)).mp
  intro x hx
  rw [hd x hx, copyEVtoMT_eval_top zc infv hSa hSc hac a x hx]

/-- MT → EV+ → MT (back into the source forest) gives the reduced tree back, whatever `infv`:
    the EV+ copy of a multi-terminal function is finite everywhere. -/
theorem copy_roundtrip (za infv : Int) (hSa : Sa.WF) (hSc : Sc.WF) (hac : DD.SameVars Sa Sc)
    (hca : DD.SameVars Sc Sa) (a : DD Int) (hr : DD.Red Sa za Sa.top none a = true) :
    copyEVtoMT Sc Sa za infv Sa.top none (copyMTtoEV Sa Sc za Sc.top none a) = a := by
  apply (DD.canon Sa za hSa _ a (copyEVtoMT_red_top za infv hSa _) hr).mp
  intro x hx
  have hx' : Assign.Valid Sc x := by
    intro p h1 h2
    rw [← hac.size p]; exact hx p h1 (by rw [hac.top]; exact h2)
  rw [copyEVtoMT_eval_top za infv hSc hSa hca _ x hx,
    copyMTtoEV_eval_top za hSa hSc hac a x hx']
  rfl

end CopyTop

section ExamplesCopy
open EVApplyExamples CanonExamples ApplyExamples

/-- EV+ → MT: values accumulated along the paths; `+∞ ↦ -1` here -/
example : copyEVtoMT SA SA 0 (-1) 3 none aE =
    .node 3 [.node 2 [.node 1 [.leaf 1, .leaf 3], .node 1 [.leaf 5, .leaf 2], .leaf (-1)],
             .node 1 [.leaf 3, .leaf 5]] := by decide +kernel
/-- MT → EV+: the minimum -4 is pulled up; the MT 0 is the finite 0 (edge value 4) -/
example : copyMTtoEV SA SA 0 3 none
      (.node 3 [.node 2 [.node 1 [.leaf 1, .leaf 3], .leaf 0, .leaf (-4)], .leaf 7]) =
    (-4, .node 3 [(0, .node 2 [(5, xE), (4, .omega), (0, .omega)]), (11, .omega)]) := by decide +kernel
/-- identity-reduced EV+ relation into a fully reduced MT forest: the identities are spelled
    out, `+∞ ↦ -1` off the diagonals -/
example : copyEVtoMT SB SF 0 (-1) 4 none bI =
    .node 4 [.node 3 [.leaf (-1), .node 2 [.node 1 [.leaf 4, .leaf (-1)],
                                           .node 1 [.leaf (-1), .leaf 4]]],
             .node 3 [.leaf (-1), .node 2 [.node 1 [.leaf 1, .leaf (-1)],
                                           .node 1 [.leaf (-1), .leaf 1]]]] := by decide +kernel
/-- identity-reduced into identity-reduced, `+∞ ↦ 0` (the MT transparent value) keeps the shape -/
example : copyEVtoMT SB SB 0 0 4 none bI =
    .node 4 [.node 3 [.leaf 0, .leaf 4], .leaf 1] := by decide +kernel

end ExamplesCopy

end EDD

#print axioms EDD.cofactorE_eval
#print axioms EDD.applyE2_eval
#print axioms EDD.applyE2_red
#print axioms EDD.applyE2_eval_top
#print axioms EDD.applyE2_red_top
#print axioms EDD.applyE2_unique
#print axioms EDD.evplus_plus_eval
#print axioms EDD.evplus_min_eval
#print axioms EDD.evplus_max_eval
#print axioms EDD.evplus_minus_eval
#print axioms EDD.evplus_minus_red
#print axioms EDD.evplus_minus_error_iff
#print axioms EDD.evplus_minus_error_iff_denot
#print axioms EDD.evplus_minus_ok_iff_denot
#print axioms EDD.copyMTtoEV_eval_top
#print axioms EDD.copyEVtoMT_eval_top
#print axioms EDD.copyMTtoEV_unique
#print axioms EDD.copyEVtoMT_unique
#print axioms EDD.copy_roundtrip
/- Output (Lean 4.33.0):
'Meddly.EDD.cofactorE_eval' depends on axioms: [propext, Quot.sound]
'Meddly.EDD.applyE2_eval' depends on axioms: [propext, Quot.sound]
'Meddly.EDD.applyE2_red' depends on axioms: [propext, Classical.choice, Quot.sound]
'Meddly.EDD.applyE2_eval_top' depends on axioms: [propext, Quot.sound]
'Meddly.EDD.applyE2_red_top' depends on axioms: [propext, Classical.choice, Quot.sound]
'Meddly.EDD.applyE2_unique' depends on axioms: [propext, Classical.choice, Quot.sound]
'Meddly.EDD.evplus_plus_eval' depends on axioms: [propext, Quot.sound]
'Meddly.EDD.evplus_min_eval' depends on axioms: [propext, Quot.sound]
'Meddly.EDD.evplus_max_eval' depends on axioms: [propext, Quot.sound]
'Meddly.EDD.evplus_minus_eval' depends on axioms: [propext, Quot.sound]
'Meddly.EDD.evplus_minus_red' depends on axioms: [propext, Classical.choice, Quot.sound]
'Meddly.EDD.evplus_minus_error_iff' depends on axioms: [propext, Quot.sound]
'Meddly.EDD.evplus_minus_error_iff_denot' depends on axioms: [propext, Quot.sound]
'Meddly.EDD.evplus_minus_ok_iff_denot' depends on axioms: [propext, Quot.sound]
'Meddly.EDD.copyMTtoEV_eval_top' depends on axioms: [propext, Quot.sound]
'Meddly.EDD.copyEVtoMT_eval_top' depends on axioms: [propext, Quot.sound]
'Meddly.EDD.copyMTtoEV_unique' depends on axioms: [propext, Classical.choice, Quot.sound]
'Meddly.EDD.copyEVtoMT_unique' depends on axioms: [propext, Classical.choice, Quot.sound]
'Meddly.EDD.copy_roundtrip' depends on axioms: [propext, Classical.choice, Quot.sound]
-/

end Meddly
