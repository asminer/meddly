/-
  C14 (EV+ part) — the exchange file for EV+ forests, at the TREE level (no node store).

  `Ops/ExchangeFile.lean` models `mdd_writer` / `mdd_reader` (src/io_mdds.cc) for multi-terminal
  forests on the node store and leaves "edge values (EV+/EV*)" as not modelled.  This file adds the
  edge-valued part of the format on trees:

  * `FileE`   — what a file says: one record per written node (position and the FULL vector of
    (edge value, child) entries; a child is the terminal `w 0` = `OMEGA_INFINITY`, the terminal
    `w -1` = `OMEGA_NORMAL`, or `n i` = the 1-based index of an EARLIER record), and the root
    edge `(value, child)` (`dd_edge::write`: `edgeval.write(s)` then the node).
  * `writeFE` — the writer on a tree: the distinct stored nodes below the root are numbered
    children-first (`emit`: a node already written is not written again — the tree-level image of
    `node_marker` on a store with a unique table, so SHARED sub-trees are written once), each is
    emitted with its children renumbered, then the root edge.  (`mdd_writer::finish` orders by
    level, bottom-up; the reader only needs "children before parents", which both orders have.)
  * `encodeE / decodeE` — tokens: `dd n`, per record `pos ±size [indexes…] children… values…`
    (`unpacked_node::write`: down pointers first, THEN the edge values; negative size: sparse =
    only the non-transparent entries, preceded by their indexes; non-negative: truncated full =
    the vector without its trailing transparent entries; transparent entry = `(0, ∞)`), `dd/`,
    `ptrs 1`, the root `value child`, `srtp`.  The form of each record is the storage policy of
    the writing forest: an arbitrary function `sp`.
  * `readFE`  — `mdd_reader::readAfterForest`: every record is rebuilt through
    `createReducedNode(nb, ev, map[i])` = `mkNodeEV … none` (no incoming index) and the returned
    edge value `ev` is DROPPED (the code only asserts `0 == ev`): only the target goes into `map`.
    The root edge is read as written (`dd_edge::read`: no normalisation).

  Theorem `readTE_writeTE`: for a reduced edge `e` (any reduction rule, any storage policy),
  `readTE S (writeTE sp e) = some e` — root edge value, edge values, ∞ children included
  (`read_write_file` is its file-level half, `decodeE_encodeE` its token-level half);
  `writeFE_shared`: the file holds exactly the distinct stored nodes below the root, each once.
  The lemmas on the generic vector codec (`dropTrail`, `sparsifyG`, `expandFromG`, `padG`) also
  serve `Ops/ExchangeFileProofs.lean`, whose codec is their instance at `.term zero`.
-/
import MeddlyModel.Ops.EVApply

namespace Meddly

namespace EVX
open EDD

/-- a child as written in a file -/
inductive FChildE where
  | inf                -- `w 0`
  | omega              -- `w -1`
  | ref (i : Nat)      -- `n i`, 1-based index of an earlier record
  deriving DecidableEq, Repr, Inhabited

/-- an entry of a record: (edge value, child) -/
abbrev FEnt := Int × FChildE

/-- the transparent entry -/
abbrev tz : FEnt := (0, .inf)

structure FRecE where
  pos  : Nat
  ents : List FEnt      -- full vector
  deriving DecidableEq, Repr, Inhabited

structure FileE where
  recs : List FRecE
  root : FEnt
  deriving DecidableEq, Repr, Inhabited

def isNode : EDD → Bool
  | .node _ _ => true
  | _ => false

/-- targets of the entries of a stored node -/
def kids : EDD → List EDD
  | .node _ cs => cs.map (·.2)
  | _ => []

mutual
/-- `emit d ord`: `ord` extended by the stored nodes below `d` that are not yet in it,
    children before parents -/
def emit : EDD → List EDD → List EDD
  | .inf, ord => ord
  | .omega, ord => ord
  | .node p cs, ord =>
    if ord.contains (.node p cs) then ord else emitL cs ord ++ [.node p cs]
def emitL : List (Int × EDD) → List EDD → List EDD
  | [], ord => ord
  | c :: cs, ord => emitL cs (emitP c ord)
def emitP : Int × EDD → List EDD → List EDD
  | (_, d), ord => emit d ord
end

/-- position of the first occurrence of `d` in `l` (`l.length` if absent) -/
def indexOfE : List EDD → EDD → Nat
  | [], _ => 0
  | x :: xs, d => if x = d then 0 else indexOfE xs d + 1

def encChildE (ord : List EDD) : EDD → FChildE
  | .inf => .inf
  | .omega => .omega
  | .node p cs => .ref (indexOfE ord (.node p cs) + 1)

def encRecE (ord : List EDD) : EDD → FRecE
  | .node p cs => ⟨p, cs.map (fun c => (c.1, encChildE ord c.2))⟩
  | _ => ⟨0, []⟩

/-- the writer down to the file -/
def writeFE (e : Int × EDD) : FileE :=
  let ord := emit e.2 []
  { recs := ord.map (encRecE ord), root := (e.1, encChildE ord e.2) }

/-- the reader's `map[i]` (targets only: the edge value returned by `createReducedNode` is not
    kept) -/
def resolveE (map : List EDD) : FChildE → Option EDD
  | .inf => some .inf
  | .omega => some .omega
  | .ref i => if i = 0 then none else map[i-1]?

def resolveEnts (map : List EDD) : List FEnt → Option (List (Int × EDD))
  | [] => some []
  | c :: cs =>
    match resolveE map c.2, resolveEnts map cs with
    | some d, some cs' => some ((c.1, d) :: cs')
    | _, _ => none

def readRecsE (S : Shape) : List FRecE → List EDD → Option (List EDD)
  | [], map => some map
  | r :: rs, map =>
    if r.pos = 0 ∨ S.top < r.pos then none      -- `isValidLevel`
    else match resolveEnts map r.ents with
      | none => none
      | some cs => readRecsE S rs (map ++ [(mkNodeEV S r.pos none cs).2])

/-- `mdd_reader::readAfterForest` + `dd_edge::read` -/
def readFE (S : Shape) (f : FileE) : Option (Int × EDD) :=
  match readRecsE S f.recs [] with
  | none => none
  | some map =>
    match resolveE map f.root.2 with
    | none => none
    | some d => some (f.root.1, d)

inductive TokE where
  | kw (s : String)
  | int (z : Int)       -- a plain integer (count, position, size, index)
  | ref (i : Nat)       -- `n i`
  | term (z : Int)      -- `w z`: 0 = `OMEGA_INFINITY`, -1 = `OMEGA_NORMAL`
  | val (v : Int)       -- `i v` / `l v`: an edge value
  deriving DecidableEq, Repr, Inhabited

def encKid : FChildE → TokE
  | .inf => .term 0
  | .omega => .term (-1)
  | .ref i => .ref i

section generic
variable {β : Type} [DecidableEq β]

/-- drop the trailing transparent entries (truncated-full storage) -/
def dropTrail (z : β) : List β → List β
  | [] => []
  | c :: cs =>
    match dropTrail z cs with
    | [] => if c = z then [] else [c]
    | r => c :: r

/-- (index, entry) for the non-transparent entries, indexes counted from `i` -/
def sparsifyG (z : β) : Nat → List β → List (Nat × β)
  | _, [] => []
  | i, c :: cs => if c = z then sparsifyG z (i+1) cs else (i, c) :: sparsifyG z (i+1) cs

def lookupG (i : Nat) : List (Nat × β) → Option β
  | [] => none
  | (j, c) :: ps => if j = i then some c else lookupG i ps

/-- entries `i, i+1, …, i+n-1` of the sparse vector `ps` -/
def expandFromG (z : β) (ps : List (Nat × β)) : Nat → Nat → List β
  | _, 0 => []
  | i, n+1 => (lookupG i ps).getD z :: expandFromG z ps (i+1) n

/-- truncated full → full -/
def padG (z : β) (size : Nat) (cs : List β) : List β :=
  cs ++ List.replicate (size - cs.length) z

end generic

/-- one record: `pos size children… values…` or `pos -nnz indexes… children… values…` -/
def encodeRecE (sp : FRecE → Bool) (r : FRecE) : List TokE :=
  if sp r then
    let ps := sparsifyG tz 0 r.ents
    [.int r.pos, .int (-(ps.length : Int))] ++ ps.map (fun p => TokE.int p.1) ++
      ps.map (fun p => encKid p.2.2) ++ ps.map (fun p => TokE.val p.2.1)
  else
    let cs := dropTrail tz r.ents
    [.int r.pos, .int cs.length] ++ cs.map (fun c => encKid c.2) ++ cs.map (fun c => TokE.val c.1)

def encodeE (sp : FRecE → Bool) (f : FileE) : List TokE :=
  [.kw "dd", .int f.recs.length] ++ f.recs.flatMap (encodeRecE sp) ++
  [.kw "dd/", .kw "ptrs", .int 1, .val f.root.1, encKid f.root.2, .kw "srtp"]

def takeKids : Nat → List TokE → Option (List FChildE × List TokE)
  | 0, ts => some ([], ts)
  | n+1, .ref i :: ts => (takeKids n ts).map (fun p => (.ref i :: p.1, p.2))
  | n+1, .term z :: ts =>
    if z = 0 then (takeKids n ts).map (fun p => (.inf :: p.1, p.2))
    else if z = -1 then (takeKids n ts).map (fun p => (.omega :: p.1, p.2))
    else none
  | _+1, _ => none

def takeVals : Nat → List TokE → Option (List Int × List TokE)
  | 0, ts => some ([], ts)
  | n+1, .val v :: ts => (takeVals n ts).map (fun p => (v :: p.1, p.2))
  | _+1, _ => none

def takeNatsE : Nat → List TokE → Option (List Nat × List TokE)
  | 0, ts => some ([], ts)
  | n+1, .int z :: ts => if z < 0 then none else (takeNatsE n ts).map (fun p => (z.toNat :: p.1, p.2))
  | _+1, _ => none

def decodeRecE (S : Shape) : List TokE → Option (FRecE × List TokE)
  | .int p :: .int z :: ts =>
    if p < 0 then none
    else if z < 0 then
      match takeNatsE z.natAbs ts with
      | none => none
      | some (idx, ts1) =>
        match takeKids z.natAbs ts1 with
        | none => none
        | some (ks, ts2) =>
          match takeVals z.natAbs ts2 with
          | none => none
          | some (vs, ts3) =>
            some (⟨p.toNat, expandFromG tz (idx.zip (vs.zip ks)) 0 (S.size p.toNat)⟩, ts3)
    else
      match takeKids z.toNat ts with
      | none => none
      | some (ks, ts1) =>
        match takeVals z.toNat ts1 with
        | none => none
        | some (vs, ts2) => some (⟨p.toNat, padG tz (S.size p.toNat) (vs.zip ks)⟩, ts2)
  | _ => none

def decodeRecsE (S : Shape) : Nat → List TokE → Option (List FRecE × List TokE)
  | 0, ts => some ([], ts)
  | n+1, ts =>
    match decodeRecE S ts with
    | none => none
    | some (r, ts1) => (decodeRecsE S n ts1).map (fun p => (r :: p.1, p.2))

def decodeE (S : Shape) : List TokE → Option FileE
  | .kw "dd" :: .int n :: ts =>
    if n < 0 then none
    else match decodeRecsE S n.toNat ts with
      | some (recs, [.kw "dd/", .kw "ptrs", .int 1, .val v, c, .kw "srtp"]) =>
        match takeKids 1 [c] with
        | some ([k], []) => some ⟨recs, (v, k)⟩
        | _ => none
      | _ => none
  | _ => none

/-- writer: an EV+ edge down to tokens.  `sp` = the writing forest's storage policy. -/
def writeTE (sp : FRecE → Bool) (e : Int × EDD) : List TokE := encodeE sp (writeFE e)

/-- reader: tokens → the edge, rebuilt in the forest of shape `S` -/
def readTE (S : Shape) (toks : List TokE) : Option (Int × EDD) :=
  match decodeE S toks with
  | none => none
  | some f => readFE S f

mutual
/-- the stored nodes below `d` (with repetitions), post-order -/
def nodesOf : EDD → List EDD
  | .inf => []
  | .omega => []
  | .node p cs => nodesOfL cs ++ [.node p cs]
def nodesOfL : List (Int × EDD) → List EDD
  | [] => []
  | c :: cs => nodesOfP c ++ nodesOfL cs
def nodesOfP : Int × EDD → List EDD
  | (_, d) => nodesOf d
end

/-- a list of nodes in which every node comes after its stored children -/
inductive ClosedL : List EDD → Prop where
  | nil : ClosedL []
  | snoc (l : List EDD) (d : EDD) : ClosedL l →
      (∀ c, c ∈ kids d → isNode c = true → c ∈ l) → ClosedL (l ++ [d])

/-- the facts about `emit` proved together by structural recursion -/
def EmitOK (F : List EDD → List EDD) (sub : List EDD) : Prop :=
  ∀ ord, (∀ x, x ∈ ord → x ∈ F ord) ∧
         (∀ x, x ∈ F ord → x ∈ ord ∨ x ∈ sub) ∧
         (ClosedL ord → ClosedL (F ord)) ∧
         ((∀ x, x ∈ ord → isNode x = true) → ∀ x, x ∈ F ord → isNode x = true)

theorem emitOK_id (sub : List EDD) : EmitOK (fun ord => ord) sub :=
  fun _ => ⟨fun _ h => h, fun _ h => Or.inl h, id, id⟩

mutual
theorem emit_ok : ∀ d : EDD, EmitOK (emit d) (nodesOf d) ∧ (isNode d = true → ∀ ord, d ∈ emit d ord)
  | .inf => ⟨emitOK_id _, nofun⟩
  | .omega => ⟨emitOK_id _, nofun⟩
  | .node p cs => by
    obtain ⟨hL, hLk⟩ := emitL_ok cs
    refine ⟨fun ord => ?_, fun _ ord => ?_⟩
    · obtain ⟨h1, h2, h3, h4⟩ := hL ord
      simp only [emit, nodesOf]
      by_cases hc : ord.contains (EDD.node p cs) = true
      · rw [if_pos hc]
        exact emitOK_id _ ord
      · rw [if_neg hc]
        refine ⟨fun x hx => List.mem_append_left _ (h1 x hx), fun x hx => ?_, fun hcl => ?_,
          fun hall x hx => ?_⟩
        · exact (List.mem_append.mp hx).elim
            (fun hx => (h2 x hx).imp_right (List.mem_append_left _))
            (fun hx => Or.inr (List.mem_append_right _ hx))
        · refine ClosedL.snoc _ _ (h3 hcl) fun c hc' hn => ?_
          obtain ⟨e, he, rfl⟩ := List.mem_map.mp hc'
          exact hLk e he hn ord
        · rcases List.mem_append.mp hx with hx | hx
          · exact h4 hall x hx
          · rw [List.mem_singleton.mp hx]; rfl
    · simp only [emit]
      by_cases hc : ord.contains (EDD.node p cs) = true
      · rw [if_pos hc]; exact List.contains_iff_mem.mp hc
      · rw [if_neg hc]; exact List.mem_concat_self
theorem emitL_ok : ∀ cs : List (Int × EDD), EmitOK (emitL cs) (nodesOfL cs) ∧
    (∀ c, c ∈ cs → isNode c.2 = true → ∀ ord, c.2 ∈ emitL cs ord)
  | [] => ⟨emitOK_id _, nofun⟩
  | c :: cs => by
    obtain ⟨hP, hPk⟩ := emitP_ok c
    obtain ⟨hL, hLk⟩ := emitL_ok cs
    refine ⟨fun ord => ?_, fun c' hc' hn ord => ?_⟩
    · obtain ⟨p1, p2, p3, p4⟩ := hP ord
      obtain ⟨l1, l2, l3, l4⟩ := hL (emitP c ord)
      simp only [emitL, nodesOfL]
      exact ⟨fun x hx => l1 x (p1 x hx), fun x hx => (l2 x hx).elim
        (fun h => (p2 x h).imp_right (List.mem_append_left _))
        (fun h => Or.inr (List.mem_append_right _ h)), fun h => l3 (p3 h), fun h => l4 (p4 h)⟩
    · simp only [emitL]
      rcases List.mem_cons.mp hc' with rfl | hc'
      · exact (hL (emitP c' ord)).1 _ (hPk hn ord)
      · exact hLk c' hc' hn _
theorem emitP_ok : ∀ c : Int × EDD, EmitOK (emitP c) (nodesOfP c) ∧
    (isNode c.2 = true → ∀ ord, c.2 ∈ emitP c ord)
  | (_, d) => emit_ok d
end

theorem mem_nodesOf_self (p : Nat) (cs : List (Int × EDD)) : EDD.node p cs ∈ nodesOf (.node p cs) := by
  simp only [nodesOf]
  exact List.mem_concat_self

theorem mem_nodesOfL {x : EDD} : ∀ {cs : List (Int × EDD)}, x ∈ nodesOfL cs →
    ∃ c, c ∈ cs ∧ x ∈ nodesOf c.2
  | [], h => nomatch h
  | (v, d) :: cs, h => by
    simp only [nodesOfL, nodesOfP] at h
    rcases List.mem_append.mp h with h | h
    · exact ⟨(v, d), List.mem_cons_self .., h⟩
    · obtain ⟨c, hc, hx⟩ := mem_nodesOfL h
      exact ⟨c, List.mem_cons_of_mem _ hc, hx⟩

mutual
theorem size_nodesOf : ∀ (d x : EDD), x ∈ nodesOf d → sizeOf x ≤ sizeOf d
  | .inf, _, h => nomatch h
  | .omega, _, h => nomatch h
  | .node p cs, x, h => by
    simp only [nodesOf] at h
    rcases List.mem_append.mp h with h | h
    · have := size_nodesOfL cs x h
      simp only [EDD.node.sizeOf_spec]
      omega
    · rw [List.mem_singleton.mp h]; exact Nat.le_refl _
theorem size_nodesOfL : ∀ (cs : List (Int × EDD)) (x : EDD), x ∈ nodesOfL cs →
    sizeOf x ≤ sizeOf cs
  | [], _, h => nomatch h
  | c :: cs, x, h => by
    simp only [nodesOfL] at h
    simp only [List.cons.sizeOf_spec]
    rcases List.mem_append.mp h with h | h
    · have := size_nodesOfP c x h; omega
    · have := size_nodesOfL cs x h; omega
theorem size_nodesOfP : ∀ (c : Int × EDD) (x : EDD), x ∈ nodesOfP c → sizeOf x ≤ sizeOf c
  | (v, d), x, h => by
    simp only [nodesOfP] at h
    have := size_nodesOf d x h
    simp only [Prod.mk.sizeOf_spec]
    omega
end

/-- `ord` contains, with every node, all stored nodes below it -/
def SubClosed (ord : List EDD) : Prop := ∀ y, y ∈ ord → ∀ x, x ∈ nodesOf y → x ∈ ord

def EmitOK2 (F : List EDD → List EDD) (sub : List EDD) : Prop :=
  ∀ ord, (ord.Nodup → (F ord).Nodup) ∧
         (SubClosed ord → SubClosed (F ord) ∧ ∀ x, x ∈ sub → x ∈ F ord)

theorem emitOK2_id : EmitOK2 (fun ord => ord) [] :=
  fun _ => ⟨id, fun h => ⟨h, nofun⟩⟩

mutual
theorem emit_ok2 : ∀ d : EDD, EmitOK2 (emit d) (nodesOf d)
  | .inf => emitOK2_id
  | .omega => emitOK2_id
  | .node p cs => by
    intro ord
    obtain ⟨l1, l2⟩ := emitL_ok2 cs ord
    obtain ⟨_, m2, _, _⟩ := (emitL_ok cs).1 ord
    simp only [emit, nodesOf]
    by_cases hc : ord.contains (EDD.node p cs) = true
    · rw [if_pos hc]
      exact ⟨id, fun h => ⟨h, h _ (List.contains_iff_mem.mp hc)⟩⟩
    · rw [if_neg hc]
      -- a node is larger than every node below its children
      have hnot : EDD.node p cs ∉ emitL cs ord := fun hm => (m2 _ hm).elim
        (fun h => hc (List.contains_iff_mem.mpr h)) fun h => by
          have := size_nodesOfL cs _ h
          simp only [EDD.node.sizeOf_spec] at this
          omega
      refine ⟨fun hnd => ?_, fun hsc => ?_⟩
      · rw [List.Nodup, List.pairwise_append]
        refine ⟨l1 hnd, List.pairwise_singleton _ _, fun a ha b hb hab => ?_⟩
        rw [List.mem_singleton.mp hb] at hab
        exact hnot (hab ▸ ha)
      · obtain ⟨s1, s2⟩ := l2 hsc
        have hall : ∀ x, x ∈ nodesOfL cs ++ [EDD.node p cs] →
            x ∈ emitL cs ord ++ [EDD.node p cs] := fun x hx =>
          (List.mem_append.mp hx).elim (fun hx => List.mem_append_left _ (s2 x hx))
            (List.mem_append_right _)
        refine ⟨fun y hy x hx => ?_, hall⟩
        rcases List.mem_append.mp hy with hy | hy
        · exact List.mem_append_left _ (s1 y hy x hx)
        · rw [List.mem_singleton.mp hy] at hx
          exact hall x hx
theorem emitL_ok2 : ∀ cs : List (Int × EDD), EmitOK2 (emitL cs) (nodesOfL cs)
  | [] => emitOK2_id
  | c :: cs => by
    intro ord
    obtain ⟨p1, p2⟩ := emitP_ok2 c ord
    obtain ⟨l1, l2⟩ := emitL_ok2 cs (emitP c ord)
    obtain ⟨m1, _, _, _⟩ := (emitL_ok cs).1 (emitP c ord)
    simp only [emitL, nodesOfL]
    refine ⟨fun h => l1 (p1 h), fun hsc => ?_⟩
    obtain ⟨s1, s2⟩ := p2 hsc
    obtain ⟨t1, t2⟩ := l2 s1
    exact ⟨t1, fun x hx => (List.mem_append.mp hx).elim (fun hx => m1 x (s2 x hx)) (t2 x)⟩
theorem emitP_ok2 : ∀ c : Int × EDD, EmitOK2 (emitP c) (nodesOfP c)
  | (_, d) => emit_ok2 d
end

/-- what the round trip needs of a stored node: a legal position and the node-local normal form
    (`normalize_evplus` leaves it alone, it is not redundant) -/
def NodeOK (S : Shape) : EDD → Prop
  | .node p cs => 1 ≤ p ∧ p ≤ S.top ∧
      evLocalOK isInf dflt (S.size p) (S.mode p == .red) cs = true
  | _ => False

/-- `createReducedNode` without an incoming index stores a locally normal vector unchanged and
    returns the edge value 0 -/
theorem mkNodeEV_local (S : Shape) (k : Nat) (cs : List (Int × EDD))
    (h : evLocalOK isInf dflt (S.size k) (S.mode k == .red) cs = true) :
    mkNodeEV S k none cs = (0, .node k cs) := by
  obtain ⟨_, hloc, ⟨e0, he0, hi0, hv0⟩, hred⟩ := (evLocalOK_iff _ _ _ _ _).mp h
  rcases mkNodeEV_cases S k none cs with ⟨hz, _⟩ | ⟨m, hm, hcase⟩
  · have := List.all_eq_true.mp hz e0 he0
    rw [hi0] at this; cases this
  · obtain ⟨⟨e1, he1, hi1, hv1⟩, hlb⟩ := evMin_some cs m hm
    obtain rfl : m = 0 := by
      have h1 := (hloc e1 he1).2 hi1
      have h2 := hlb e0 he0 hi0
      omega
    have hnorm : evNorm 0 cs = cs := by
      refine (List.map_congr_left fun e he => ?_).trans (List.map_id cs)
      unfold normE
      cases hi : isInf e.2 with
      | true =>
        obtain ⟨v, d⟩ := e
        rw [show v = 0 from (hloc _ he).1 hi, show d = EDD.inf from (isInf_iff _).mp hi]
        rfl
      | false => simp
    rw [hnorm] at hcase
    rcases hcase with ⟨hmode, hh, _⟩ | ⟨_, i, hi, _, _⟩ | ⟨hr, _, _⟩
    · exact absurd (fun e he => beq_iff_eq.mp (List.all_eq_true.mp hh e he)) (hred (by rw [hmode]; rfl))
    · cases hi
    · exact hr

theorem indexOfE_get {l : List EDD} (ext : List EDD) {d : EDD} (h : d ∈ l) :
    l[indexOfE (l ++ ext) d]? = some d := by
  induction l with
  | nil => cases h
  | cons x xs ih =>
    simp only [List.cons_append, indexOfE]
    split
    · next hx => rw [hx]; rfl
    · next hx =>
      rw [List.getElem?_cons_succ]
      exact ih ((List.mem_cons.mp h).resolve_left fun e => hx e.symm)

theorem indexOfE_lt {l : List EDD} {d : EDD} (h : d ∈ l) : indexOfE l d < l.length := by
  have := indexOfE_get [] h
  rw [List.append_nil] at this
  exact (List.getElem?_eq_some_iff.1 this).1

theorem resolveE_enc (l ext : List EDD) (d : EDD) (h : isNode d = true → d ∈ l) :
    resolveE l (encChildE (l ++ ext) d) = some d := by
  cases d with
  | inf => rfl
  | omega => rfl
  | node p cs =>
    simp only [encChildE, resolveE]
    rw [if_neg (by omega)]
    exact indexOfE_get ext (h rfl)

theorem resolveEnts_enc (l ext : List EDD) : ∀ (cs : List (Int × EDD)),
    (∀ c, c ∈ cs → isNode c.2 = true → c.2 ∈ l) →
    resolveEnts l (cs.map (fun c => (c.1, encChildE (l ++ ext) c.2))) = some cs
  | [], _ => rfl
  | c :: cs, h => by
    simp only [List.map_cons, resolveEnts]
    rw [resolveE_enc l ext c.2 (h c (List.mem_cons_self ..)),
      resolveEnts_enc l ext cs (fun c' hc' => h c' (List.mem_cons_of_mem _ hc'))]

theorem readRecsE_closed (S : Shape) {l : List EDD} (hcl : ClosedL l) :
    (∀ d, d ∈ l → NodeOK S d) → ∀ (ext : List EDD) (rest : List FRecE),
      readRecsE S (l.map (encRecE (l ++ ext)) ++ rest) [] = readRecsE S rest l := by
  induction hcl with
  | nil => intro _ ext rest; rfl
  | snoc l d _ hk ih =>
    intro hok ext rest
    have hd := hok d List.mem_concat_self
    rw [List.map_append, List.append_assoc, List.append_assoc,
      ih (fun x hx => hok x (List.mem_append_left _ hx)) ([d] ++ ext)
        ([d].map (encRecE (l ++ ([d] ++ ext))) ++ rest)]
    cases d with
    | inf => exact False.elim hd
    | omega => exact False.elim hd
    | node p cs =>
      obtain ⟨hp1, hp2, hloc⟩ := hd
      have hpos : ¬ (p = 0 ∨ S.top < p) := by omega
      have hres := resolveEnts_enc l (EDD.node p cs :: ext) cs
        fun c hc hn => hk c.2 (List.mem_map.mpr ⟨c, hc, rfl⟩) hn
      simp only [List.map_cons, List.map_nil, List.cons_append, List.nil_append, encRecE, readRecsE]
      rw [if_neg hpos, hres]
      simp only
      rw [mkNodeEV_local S p cs hloc]

/-- Every written record refers only to EARLIER records (the reader never meets an unresolved
    index), every record is a stored node below the root, and the root's node has a record (that
    EVERY stored node below the root has one is `writeFE_shared`). -/
theorem writeFE_closed (e : Int × EDD) :
    ClosedL (emit e.2 []) ∧ (∀ d, d ∈ emit e.2 [] → d ∈ nodesOf e.2) ∧
    (isNode e.2 = true → e.2 ∈ emit e.2 []) := by
  obtain ⟨hE, hself⟩ := emit_ok e.2
  obtain ⟨_, h2, h3, _⟩ := hE []
  exact ⟨h3 ClosedL.nil, fun d hd => (h2 d hd).resolve_left nofun, fun hn => hself hn []⟩

theorem readFE_writeFE (S : Shape) (e : Int × EDD)
    (hok : ∀ d, d ∈ nodesOf e.2 → NodeOK S d) : readFE S (writeFE e) = some e := by
  obtain ⟨hcl, hsub, hself⟩ := writeFE_closed e
  have hrd := readRecsE_closed S hcl (fun d hd => hok d (hsub d hd)) [] []
  rw [List.append_nil, List.append_nil] at hrd
  unfold readFE writeFE
  simp only [hrd, readRecsE]
  have hres := resolveE_enc (emit e.2 []) [] e.2 hself
  rw [List.append_nil] at hres
  rw [hres]

theorem takeKids_enc : ∀ (cs : List FChildE) (rest : List TokE),
    takeKids cs.length (cs.map encKid ++ rest) = some (cs, rest)
  | [], _ => rfl
  | c :: cs, rest => by
    have h1 : ¬ ((-1 : Int) = 0) := by omega
    cases c <;>
      simp only [List.length_cons, List.map_cons, encKid, List.cons_append, takeKids, if_neg h1,
        if_true, takeKids_enc cs rest, Option.map_some]

/- the `take…` readers undo `map`: stated for a projection `g` of the list's entries, the form in
   which a record presents its fields -/
theorem takeKids_map {γ : Type} (g : γ → FChildE) (l : List γ) (rest : List TokE) :
    takeKids l.length (l.map (fun p => encKid (g p)) ++ rest) = some (l.map g, rest) := by
  have := takeKids_enc (l.map g) rest
  rwa [List.length_map, List.map_map] at this

theorem takeVals_map {γ : Type} (g : γ → Int) : ∀ (l : List γ) (rest : List TokE),
    takeVals l.length (l.map (fun p => TokE.val (g p)) ++ rest) = some (l.map g, rest)
  | [], _ => rfl
  | _ :: l, rest => congrArg (Option.map _) (takeVals_map g l rest)

theorem takeNatsE_map {γ : Type} (g : γ → Nat) : ∀ (l : List γ) (rest : List TokE),
    takeNatsE l.length (l.map (fun p => TokE.int (g p : Int)) ++ rest) = some (l.map g, rest)
  | [], _ => rfl
  | b :: l, rest =>
    (if_neg (t := none) (by omega : ¬ ((g b : Int) < 0))).trans
      (congrArg (Option.map _) (takeNatsE_map g l rest))

section generic
variable {β : Type} [DecidableEq β]

theorem dropTrail_append (z : β) : ∀ (cs : List β), ∃ n, dropTrail z cs ++ List.replicate n z = cs
  | [] => ⟨0, rfl⟩
  | c :: cs => by
    obtain ⟨n, ih⟩ := dropTrail_append z cs
    unfold dropTrail
    cases hr : dropTrail z cs with
    | nil =>
      rw [hr] at ih
      by_cases hc : c = z
      · exact ⟨n+1, by rw [if_pos hc, ← ih, hc]; rfl⟩
      · exact ⟨n, by rw [if_neg hc, ← ih]; rfl⟩
    | cons x r => exact ⟨n, by rw [← ih, hr]; rfl⟩

theorem dropTrail_length_le (z : β) (cs : List β) : (dropTrail z cs).length ≤ cs.length := by
  obtain ⟨n, h⟩ := dropTrail_append z cs
  have hl := congrArg List.length h
  rw [List.length_append] at hl
  omega

theorem pad_dropTrail (z : β) (cs : List β) : padG z cs.length (dropTrail z cs) = cs := by
  obtain ⟨n, h⟩ := dropTrail_append z cs
  have hl := congrArg List.length h
  rw [List.length_append, List.length_replicate] at hl
  rw [padG, show cs.length - (dropTrail z cs).length = n by omega, h]

theorem lookupG_lt (z : β) : ∀ (cs : List β) (i j : Nat), j < i →
    lookupG j (sparsifyG z i cs) = none
  | [], _, _, _ => rfl
  | c :: cs, i, j, hj => by
    unfold sparsifyG
    split
    · exact lookupG_lt z cs (i+1) j (by omega)
    · simp only [lookupG]
      rw [if_neg (by omega)]
      exact lookupG_lt z cs (i+1) j (by omega)

omit [DecidableEq β] in
theorem expandFromG_skip (z : β) (i : Nat) (c : β) (ps : List (Nat × β)) :
    ∀ (n k : Nat), i < k → expandFromG z ((i, c) :: ps) k n = expandFromG z ps k n
  | 0, _, _ => rfl
  | n+1, k, hk => by
    simp only [expandFromG, lookupG]
    rw [if_neg (by omega), expandFromG_skip z i c ps n (k+1) (by omega)]

theorem expand_sparsifyG (z : β) : ∀ (cs : List β) (i : Nat),
    expandFromG z (sparsifyG z i cs) i cs.length = cs
  | [], _ => rfl
  | c :: cs, i => by
    unfold sparsifyG
    by_cases hc : c = z
    · rw [if_pos hc]
      simp only [List.length_cons, expandFromG, lookupG_lt z cs (i+1) i (by omega),
        Option.getD_none, expand_sparsifyG z cs (i+1)]
      rw [hc]
    · rw [if_neg hc]
      simp only [List.length_cons, expandFromG, lookupG, if_true, Option.getD_some]
      rw [expandFromG_skip z i c _ cs.length (i+1) (by omega), expand_sparsifyG z cs (i+1)]

theorem sparsifyG_nil (z : β) : ∀ (cs : List β) (i : Nat), sparsifyG z i cs = [] →
    cs = List.replicate cs.length z
  | [], _, _ => rfl
  | c :: cs, i, h => by
    unfold sparsifyG at h
    by_cases hc : c = z
    · rw [if_pos hc] at h
      rw [List.length_cons, List.replicate_succ, ← sparsifyG_nil z cs (i+1) h, hc]
    · rw [if_neg hc] at h; cases h

end generic

theorem zip3 {A B C : Type} (ps : List (A × B × C)) :
    (ps.map Prod.fst).zip ((ps.map (fun p => p.2.1)).zip (ps.map (fun p => p.2.2))) = ps :=
  (List.zip_of_prod rfl (List.zip_of_prod List.map_map List.map_map)).symm

section records
variable (S : Shape) (sp : FRecE → Bool)

/-- one record survives encoding, whatever form the writer's storage policy picks -/
theorem decodeRecE_encodeRecE (r : FRecE)
    (hlen : r.ents.length = S.size r.pos) (rest : List TokE) :
    decodeRecE S (encodeRecE sp r ++ rest) = some (r, rest) := by
  have hp : ¬ ((r.pos : Int) < 0) := by omega
  unfold encodeRecE
  -- `decodeRecE` is unfolded by unification with its first `if` (as a simp lemma it would have the
  -- equations of its token patterns generated first), the matches on results by `dsimp`
  cases sp r with
  | true =>
    cases hps : sparsifyG tz 0 r.ents with
    | nil =>
      -- `-0`: read as a full node of size 0
      have hz : padG tz (S.size r.pos) [] = r.ents := by
        rw [padG, List.nil_append, List.length_nil, Nat.sub_zero, ← hlen]
        exact (sparsifyG_nil tz r.ents 0 hps).symm
      simp only [if_true, List.length_nil, List.map_nil, List.append_nil, List.cons_append,
        List.nil_append, Int.natCast_zero, Int.neg_zero]
      refine Eq.trans (if_neg (t := none) hp) ?_
      exact congrArg (fun e => some (FRecE.mk r.pos e, rest)) hz
    | cons q ps =>
      have hneg : -(((q :: ps).length : Nat) : Int) < 0 := by simp only [List.length_cons]; omega
      simp only [if_true, List.cons_append, List.nil_append, List.append_assoc]
      refine Eq.trans (if_neg (t := none) hp) (Eq.trans (if_pos hneg) ?_)
      rw [Int.natAbs_neg, Int.natAbs_natCast, takeNatsE_map]
      dsimp only
      rw [takeKids_map]
      dsimp only
      rw [takeVals_map]
      dsimp only
      rw [zip3, Int.toNat_natCast, ← hlen, ← hps, expand_sparsifyG]
  | false =>
    simp only [Bool.false_eq_true, if_false, List.cons_append, List.nil_append, List.append_assoc]
    refine Eq.trans (if_neg (t := none) hp) ?_
    rw [Int.toNat_natCast, takeKids_map]
    dsimp only
    rw [takeVals_map]
    dsimp only
    rw [← List.zip_of_prod rfl rfl, Int.toNat_natCast, ← hlen, pad_dropTrail]

theorem decodeRecsE_encode :
    ∀ (recs : List FRecE), (∀ r ∈ recs, r.ents.length = S.size r.pos) → ∀ (rest : List TokE),
      decodeRecsE S recs.length (recs.flatMap (encodeRecE sp) ++ rest) = some (recs, rest)
  | [], _, _ => rfl
  | r :: recs, h, rest => by
    simp only [List.length_cons, List.flatMap_cons, List.append_assoc, decodeRecsE]
    rw [decodeRecE_encodeRecE S sp r (h r (List.mem_cons_self ..))]
    simp only
    rw [decodeRecsE_encode recs (fun x hx => h x (List.mem_cons_of_mem _ hx))]
    rfl

end records

/-- the token level is lossless for files whose records have the reader's variable sizes -/
theorem decodeE_encodeE (S : Shape) (sp : FRecE → Bool) (f : FileE)
    (h : ∀ r ∈ f.recs, r.ents.length = S.size r.pos) :
    decodeE S (encodeE sp f) = some f := by
  obtain ⟨recs, v, k⟩ := f
  have h1 : ¬ ((recs.length : Int) < 0) := by omega
  simp only [encodeE, List.cons_append, List.nil_append]
  -- `decodeE` is unfolded by unification with its `if`: as a simp lemma it would first have the
  -- equations of its matches on keyword strings generated, which is slow
  refine Eq.trans (if_neg (t := none) h1) ?_
  rw [Int.toNat_natCast, decodeRecsE_encode S sp recs h]
  cases k <;> rfl

theorem getD_of_mem {β : Type} {l : List β} (d : β) {c : β} (hc : c ∈ l) :
    ∃ j, j < l.length ∧ l.getD j d = c := by
  obtain ⟨j, hj, rfl⟩ := List.getElem_of_mem hc
  exact ⟨j, hj, by rw [List.getD_eq_getElem?_getD, List.getElem?_eq_getElem hj]; rfl⟩

theorem Red_nodesOf (S : Shape) :
    ∀ (k : Nat) (fi : Option Nat) (d : EDD), k ≤ S.top → Red S k fi d = true →
      ∀ x, x ∈ nodesOf d → NodeOK S x := by
  intro k
  induction k with
  | zero =>
    intro fi d _ hr x hx
    rcases (Red_zero_iff S fi d).mp hr with rfl | rfl <;> simp [nodesOf] at hx
  | succ k ih =>
    intro fi d hk hr x hx
    rcases storedAt_cases (k+1) d with ⟨cs, rfl⟩ | hd
    · obtain ⟨_, hloc, hch⟩ := (Red_succ_node S k fi cs).mp hr
      simp only [nodesOf] at hx
      rcases List.mem_append.mp hx with hx | hx
      · obtain ⟨c, hc, hxc⟩ := mem_nodesOfL hx
        obtain ⟨j, hj, rfl⟩ := getD_of_mem dflt hc
        exact ih (some j) _ (by omega) (hch j hj) x hxc
      · rw [List.mem_singleton.mp hx]
        exact ⟨by omega, hk, hloc⟩
    · exact ih none d (by omega) (Red_succ_skip S k fi hd hr).2 x hx

end EVX

namespace EVXExamples
open EDD EVX CanonExamples ApplyExamples EVApplyExamples

/-- `aE` (3 positions, the sub-tree `xE` used twice, an ∞ entry, root value 1): FOUR records —
    `xE` is written once and referenced twice (`n 1`), the ∞ entry is `w 0` with value 0 -/
def aE_file : FileE :=
  { recs := [⟨1, [(0, .omega), (2, .omega)]⟩,              -- 1: xE
             ⟨1, [(3, .omega), (0, .omega)]⟩,              -- 2: yE
             ⟨2, [(0, .ref 1), (1, .ref 2), (0, .inf)]⟩,   -- 3
             ⟨3, [(0, .ref 3), (2, .ref 1)]⟩],             -- 4: the root node
    root := (1, .ref 4) }

/-- the tokens with the records at position 2 written sparse, the others truncated full:
    record 3 is `2 -2  0 1  n 1 n 2  i 0 i 1` (the ∞ entry is not written at all) -/
def aE_toks : List TokE :=
  [.kw "dd", .int 4,
   .int 1, .int 2, .term (-1), .term (-1), .val 0, .val 2,
   .int 1, .int 2, .term (-1), .term (-1), .val 3, .val 0,
   .int 2, .int (-2), .int 0, .int 1, .ref 1, .ref 2, .val 0, .val 1,
   .int 3, .int 2, .ref 3, .ref 1, .val 0, .val 2,
   .kw "dd/", .kw "ptrs", .int 1, .val 1, .ref 4, .kw "srtp"]

end EVXExamples

namespace EVX
open EDD

/-- File level: for every tree whose stored nodes are locally normal (value normalisation and no
    redundant node where the rule forbids one) and at legal positions, reading the written file
    gives the edge back — the root edge value and every edge value included.  The reader's
    `createReducedNode` finds nothing to normalise, so dropping its returned edge value (as
    `mdd_reader` does) loses nothing. -/
theorem read_write_file (S : Shape) (e : Int × EDD)
    (hok : ∀ d, d ∈ nodesOf e.2 → NodeOK S d) : readFE S (writeFE e) = some e :=
  readFE_writeFE S e hok

/-- Token level, general position: a target reduced for position `k ≤ top` (arriving through any
    index), any root value, any storage policy (sparse / truncated full per record). -/
theorem readTE_writeTE_gen (S : Shape) (sp : FRecE → Bool) (e : Int × EDD) (k : Nat)
    (fi : Option Nat) (hk : k ≤ S.top) (h : Red S k fi e.2 = true) :
    readTE S (writeTE sp e) = some e := by
  have hok := Red_nodesOf S k fi e.2 hk h
  unfold readTE writeTE
  rw [decodeE_encodeE S sp (writeFE e)]
  · exact readFE_writeFE S e hok
  · intro r hr
    obtain ⟨d, hd, rfl⟩ := List.mem_map.mp hr
    have := hok d ((writeFE_closed e).2.1 d hd)
    cases d with
    | inf => exact False.elim this
    | omega => exact False.elim this
    | node p cs =>
      obtain ⟨_, _, hloc⟩ := this
      simp only [encRecE, List.length_map]
      exact ((evLocalOK_iff _ _ _ _ _).mp hloc).1

/-- C14 for EV+ (tree level).  Writing a reduced EV+ edge and reading the tokens back into a
    forest of the same shape returns exactly that edge: `readTE (writeTE e) = some e` — for every
    reduction rule (fully / quasi / identity reduced), every storage policy of the writer,
    including the root edge value, all edge values, and ∞ children (written as `w 0` with value
    0 in full records, not written at all in sparse records). -/
theorem readTE_writeTE (S : Shape) (sp : FRecE → Bool) (e : Int × EDD)
    (h : RedEdge S S.top none e = true) : readTE S (writeTE sp e) = some e :=
  readTE_writeTE_gen S sp e S.top none (Nat.le_refl _) ((RedEdge_iff _ _ _ _).mp h).1

/-- Sharing.  The file contains EXACTLY the distinct stored nodes below the root, each ONCE
    (however often a sub-tree is used): what `node_marker` + the unique table give the real
    writer. -/
theorem writeFE_shared (e : Int × EDD) :
    (emit e.2 []).Nodup ∧ (∀ d, d ∈ emit e.2 [] ↔ d ∈ nodesOf e.2) ∧
    (writeFE e).recs.length = (emit e.2 []).length := by
  obtain ⟨h1, h2⟩ := emit_ok2 e.2 []
  obtain ⟨_, hall⟩ := h2 (fun y hy => nomatch hy)
  refine ⟨h1 List.nodup_nil, fun d => ⟨(writeFE_closed e).2.1 d, hall d⟩, ?_⟩
  simp only [writeFE, List.length_map]

section Examples
open EVXExamples CanonExamples ApplyExamples EVApplyExamples

/-- sharing: `xE` occurs twice in `aE` and once in the file -/
example : writeFE aE = aE_file := by decide +kernel
example : (nodesOf aE.2).length = 5 ∧ (writeFE aE).recs.length = 4 := by decide +kernel
example : writeTE (fun r => r.pos == 2) aE = aE_toks := by decide +kernel
example : readTE SA aE_toks = some aE := by decide +kernel
/-- all records sparse / all truncated full -/
example : readTE SA (writeTE (fun _ => true) aE) = some aE := by decide +kernel
example : readTE SA (writeTE (fun _ => false) aE) = some aE := by decide +kernel
/-- negative root value, an ∞ entry in the LAST slot of `zE` (dropped by the truncated-full form
    and restored by the reader's padding) -/
example : readTE SA (writeTE (fun _ => false) bE) = some bE := by decide +kernel
/-- terminal edges: no records at all -/
example : writeTE (fun _ => false) (0, .inf) =
    [.kw "dd", .int 0, .kw "dd/", .kw "ptrs", .int 1, .val 0, .term 0, .kw "srtp"] := by decide +kernel
example : readTE SA (writeTE (fun _ => false) (7, .omega)) = some (7, .omega) := by decide +kernel
/-- identity-reduced relation forest -/
example : readTE SB (writeTE (fun r => r.pos == 3) bI) = some bI := by decide +kernel
/-- the general theorem on a concrete edge -/
example : readTE SA (writeTE (fun r => r.pos == 2) aE) = some aE :=
  readTE_writeTE SA _ aE (by decide +kernel)
/-- NOT a round trip for an un-normalised node: the reader's `createReducedNode` normalises the
    vector `[1, 3]` to `[0, 2]` and the pulled-up value 1 is dropped (the C++ code asserts it
    is 0): the hypothesis "reduced" is necessary -/
example : readTE SA (writeTE (fun _ => false) (0, .node 1 [(1, .omega), (3, .omega)]))
    = some (0, .node 1 [(0, .omega), (2, .omega)]) := by decide +kernel
/-- a malformed file (forward reference) is rejected -/
example : readFE SA ⟨[⟨1, [(0, .ref 1), (0, .omega)]⟩], (0, .ref 1)⟩ = none := by decide +kernel

end Examples

end EVX

#print axioms EVX.emit_ok
#print axioms EVX.mkNodeEV_local
#print axioms EVX.readFE_writeFE
#print axioms EVX.decodeE_encodeE
#print axioms EVX.Red_nodesOf
#print axioms EVX.read_write_file
#print axioms EVX.readTE_writeTE_gen
#print axioms EVX.readTE_writeTE
#print axioms EVX.writeFE_closed
#print axioms EVX.writeFE_shared

/- Output (Lean 4.33.0):
'Meddly.EVX.emit_ok' depends on axioms: [propext, Quot.sound]
'Meddly.EVX.mkNodeEV_local' depends on axioms: [propext, Quot.sound]
'Meddly.EVX.readFE_writeFE' depends on axioms: [propext, Quot.sound]
'Meddly.EVX.decodeE_encodeE' depends on axioms: [propext, Quot.sound]
'Meddly.EVX.Red_nodesOf' depends on axioms: [propext, Quot.sound]
'Meddly.EVX.read_write_file' depends on axioms: [propext, Quot.sound]
'Meddly.EVX.readTE_writeTE_gen' depends on axioms: [propext, Quot.sound]
'Meddly.EVX.readTE_writeTE' depends on axioms: [propext, Quot.sound]
'Meddly.EVX.writeFE_closed' depends on axioms: [propext, Quot.sound]
'Meddly.EVX.writeFE_shared' depends on axioms: [propext, Quot.sound]
-/

end Meddly
