/-
  C16 — misuse is rejected with the documented error and leaves all functions intact.
  This file: vocabulary, the decision table (`precheck`), the documented requirements (`compatible`), the
  unenforced requirements (`lax`) and the finite table: ≈ 13 000 rows are evaluated in the kernel (all
  forests in one domain, one representative per constructor shape, `famGood_*`), every other row over
  legal kinds is derived from them (`goodA_norm`, `goodA_anyForest`, `goodA_anyDoms`; together
  `goodA_all`).  The property theorems are at the end of `MeddlyModel/Ops/Errors.lean`, which imports
  this file.

  `precheck` is transcribed from `/repo/src/operations/*.cc` in the ORDER in which the code performs its
  tests (so the reported code is the code of the first failing test).  `compatible` is an independent,
  declarative statement of each operation's documented requirements (the `_setup(...)` doc strings of
  the factories and the comment block on image/reachability operations in `ops_builtin.h`).
-/
import MeddlyModel.Core.Dump

namespace Meddly
namespace Errors

/-! ## Vocabulary -/

inductive ErrCode where
  | DOMAIN_MISMATCH | TYPE_MISMATCH | NOT_IMPLEMENTED | INVALID_OPERATION | FOREST_MISMATCH
  | VALUE_OVERFLOW | DIVIDE_BY_ZERO | SUBTRACT_INFINITY | INFINITY_DIV_INFINITY | INVALID_ITERATOR
  | INVALID_VARIABLE | INVALID_ASSIGNMENT | INVALID_ARGUMENT | INVALID_LEVEL
  deriving DecidableEq, Repr, Inhabited

def ErrCode.name : ErrCode → String
  | .DOMAIN_MISMATCH => "DOMAIN_MISMATCH" | .TYPE_MISMATCH => "TYPE_MISMATCH"
  | .NOT_IMPLEMENTED => "NOT_IMPLEMENTED" | .INVALID_OPERATION => "INVALID_OPERATION"
  | .FOREST_MISMATCH => "FOREST_MISMATCH" | .VALUE_OVERFLOW => "VALUE_OVERFLOW"
  | .DIVIDE_BY_ZERO => "DIVIDE_BY_ZERO" | .SUBTRACT_INFINITY => "SUBTRACT_INFINITY"
  | .INFINITY_DIV_INFINITY => "INFINITY_DIV_INFINITY" | .INVALID_ITERATOR => "INVALID_ITERATOR"
  | .INVALID_VARIABLE => "INVALID_VARIABLE" | .INVALID_ASSIGNMENT => "INVALID_ASSIGNMENT"
  | .INVALID_ARGUMENT => "INVALID_ARGUMENT" | .INVALID_LEVEL => "INVALID_LEVEL"

inductive Range where | bool | int | real
  deriving DecidableEq, Repr, Inhabited
inductive Lab where | mt | evp | idx | evt
  deriving DecidableEq, Repr, Inhabited
inductive Rule where | fully | quasi | ident
  deriving DecidableEq, Repr, Inhabited

/-- A forest kind as `forest::create` sees it. -/
structure ForestKind where
  rel : Bool
  range : Range
  lab : Lab
  rule : Rule
  deriving DecidableEq, Repr, Inhabited

/-- the combinations `forest::create` (forest.cc) accepts; identity reduction needs a relation -/
def ForestKind.legal (k : ForestKind) : Bool :=
  (match k.lab with
   | .mt => true
   | .evp => k.range == .int
   | .idx => k.range == .int && !k.rel
   | .evt => k.range == .real && k.rel) &&
  (k.rule != .ident || k.rel)

/-- What the constructors can see of a forest: the reduction rule only through `isFullyReduced()`. -/
structure AKind where
  rel : Bool
  range : Range
  lab : Lab
  fully : Bool
  deriving DecidableEq, Repr, Inhabited

def ForestKind.abs (k : ForestKind) : AKind := ⟨k.rel, k.range, k.lab, k.rule == .fully⟩

/-- How the forests of a call are spread over domains, as far as any constructor can tell: all in one
    domain; only the FIRST operand elsewhere (second operand and result share a domain); any other split.
    Only the traditional reachability factories distinguish the last two (they build the image operation
    over (result, relation, result) before the first operand is looked at). -/
inductive Doms where | same | firstOnly | split
  deriving DecidableEq, Repr, Inhabited

/-- all forests of the call share one `domain` object -/
def Doms.allSame : Doms → Bool
  | .same => true
  | _ => false

/-- the second operand and the result share one `domain` object -/
def Doms.bcSame : Doms → Bool
  | .split => false
  | _ => true

def Doms.ofTok : String → Option Doms
  | "1" => some .same
  | "a" => some .firstOnly
  | "0" => some .split
  | _ => none

def AKind.legal (k : AKind) : Bool :=
  match k.lab with
  | .mt => true
  | .evp => k.range == .int
  | .idx => k.range == .int && !k.rel
  | .evt => k.range == .real && k.rel

/-- The catalogue (`builtin_init` in ops_builtin.cc).  Unary operations with a scalar result are
    split by the C++ type of the result. -/
inductive OpKind where
  | UNION | INTERSECTION | DIFFERENCE | CROSS
  | PLUS | MINUS | MULTIPLY | DIVIDE | MODULO | MAXIMUM | MINIMUM | DIST_MIN
  | EQUAL | NOT_EQUAL | LESS_THAN | LESS_THAN_EQUAL | GREATER_THAN | GREATER_THAN_EQUAL
  | PRE_IMAGE | POST_IMAGE | VM_MULTIPLY | MV_MULTIPLY
  | REACHABLE_SATUR_FWD | REACHABLE_SATUR_BWD
  | REACHABLE_TRAD_FS_FWD | REACHABLE_TRAD_FS_BWD
  | REACHABLE_TRAD_NOFS_FWD | REACHABLE_TRAD_NOFS_BWD
  | COPY | COMPLEMENT | CONVERT_TO_INDEX_SET | DIST_INC | CYCLE
  | CARDINALITY_INT | CARDINALITY_REAL | MAX_RANGE_INT | MAX_RANGE_REAL | MIN_RANGE_INT | MIN_RANGE_REAL
  deriving DecidableEq, Repr, Inhabited

def OpKind.all : List OpKind :=
  [.UNION, .INTERSECTION, .DIFFERENCE, .CROSS, .PLUS, .MINUS, .MULTIPLY, .DIVIDE, .MODULO, .MAXIMUM,
   .MINIMUM, .DIST_MIN, .EQUAL, .NOT_EQUAL, .LESS_THAN, .LESS_THAN_EQUAL, .GREATER_THAN,
   .GREATER_THAN_EQUAL, .PRE_IMAGE, .POST_IMAGE, .VM_MULTIPLY, .MV_MULTIPLY, .REACHABLE_SATUR_FWD,
   .REACHABLE_SATUR_BWD, .REACHABLE_TRAD_FS_FWD, .REACHABLE_TRAD_FS_BWD, .REACHABLE_TRAD_NOFS_FWD,
   .REACHABLE_TRAD_NOFS_BWD, .COPY, .COMPLEMENT, .CONVERT_TO_INDEX_SET, .DIST_INC, .CYCLE,
   .CARDINALITY_INT, .CARDINALITY_REAL, .MAX_RANGE_INT, .MAX_RANGE_REAL, .MIN_RANGE_INT, .MIN_RANGE_REAL]

def OpKind.name : OpKind → String
  | .UNION => "UNION" | .INTERSECTION => "INTERSECTION" | .DIFFERENCE => "DIFFERENCE" | .CROSS => "CROSS"
  | .PLUS => "PLUS" | .MINUS => "MINUS" | .MULTIPLY => "MULTIPLY" | .DIVIDE => "DIVIDE" | .MODULO => "MODULO"
  | .MAXIMUM => "MAXIMUM" | .MINIMUM => "MINIMUM" | .DIST_MIN => "DIST_MIN"
  | .EQUAL => "EQUAL" | .NOT_EQUAL => "NOT_EQUAL" | .LESS_THAN => "LESS_THAN"
  | .LESS_THAN_EQUAL => "LESS_THAN_EQUAL" | .GREATER_THAN => "GREATER_THAN"
  | .GREATER_THAN_EQUAL => "GREATER_THAN_EQUAL"
  | .PRE_IMAGE => "PRE_IMAGE" | .POST_IMAGE => "POST_IMAGE" | .VM_MULTIPLY => "VM_MULTIPLY"
  | .MV_MULTIPLY => "MV_MULTIPLY"
  | .REACHABLE_SATUR_FWD => "REACHABLE_SATUR_FWD" | .REACHABLE_SATUR_BWD => "REACHABLE_SATUR_BWD"
  | .REACHABLE_TRAD_FS_FWD => "REACHABLE_TRAD_FS_FWD" | .REACHABLE_TRAD_FS_BWD => "REACHABLE_TRAD_FS_BWD"
  | .REACHABLE_TRAD_NOFS_FWD => "REACHABLE_TRAD_NOFS_FWD" | .REACHABLE_TRAD_NOFS_BWD => "REACHABLE_TRAD_NOFS_BWD"
  | .COPY => "COPY" | .COMPLEMENT => "COMPLEMENT" | .CONVERT_TO_INDEX_SET => "CONVERT_TO_INDEX_SET"
  | .DIST_INC => "DIST_INC" | .CYCLE => "CYCLE"
  | .CARDINALITY_INT => "CARDINALITY_INT" | .CARDINALITY_REAL => "CARDINALITY_REAL"
  | .MAX_RANGE_INT => "MAX_RANGE_INT" | .MAX_RANGE_REAL => "MAX_RANGE_REAL"
  | .MIN_RANGE_INT => "MIN_RANGE_INT" | .MIN_RANGE_REAL => "MIN_RANGE_REAL"

def OpKind.ofName (s : String) : Option OpKind := OpKind.all.find? (fun o => o.name == s)

/-- how many forests an operation involves: 3 (binary), 2 (unary with DD result), 1 (unary, scalar result) -/
def OpKind.forests : OpKind → Nat
  | .COPY | .COMPLEMENT | .CONVERT_TO_INDEX_SET | .DIST_INC | .CYCLE => 2
  | .CARDINALITY_INT | .CARDINALITY_REAL | .MAX_RANGE_INT | .MAX_RANGE_REAL | .MIN_RANGE_INT | .MIN_RANGE_REAL => 1
  | _ => 3

def OpKind.isReach : OpKind → Bool
  | .REACHABLE_SATUR_FWD | .REACHABLE_SATUR_BWD | .REACHABLE_TRAD_FS_FWD | .REACHABLE_TRAD_FS_BWD
  | .REACHABLE_TRAD_NOFS_FWD | .REACHABLE_TRAD_NOFS_BWD => true
  | _ => false

def OpKind.isSatur : OpKind → Bool
  | .REACHABLE_SATUR_FWD | .REACHABLE_SATUR_BWD => true
  | _ => false

/-! ## Part 1a: the decision table, in the order of the code -/

/-- first failing test of a list of tests performed in sequence -/
def firstOf : List (Option ErrCode) → Option ErrCode
  | [] => none
  | some e :: _ => some e
  | none :: rest => firstOf rest

def failIf (c : Bool) (e : ErrCode) : Option ErrCode := if c then some e else none

/-- `checkDomains` (oper_binary.h / oper_unary.h) -/
def chkDomains (sameDom : Bool) : Option ErrCode := failIf (!sameDom) .DOMAIN_MISMATCH
/-- `checkAllRelations(file, line)`: both operands must agree with the result -/
def chkAllRel (a b c : AKind) : Option ErrCode := failIf (a.rel != c.rel || b.rel != c.rel) .TYPE_MISMATCH
/-- `checkAllRelations(file, line, r)` / `checkRelations(file, line, ra, rb, rc)` -/
def chkRels (a b c : AKind) (ra rb rc : Bool) : Option ErrCode :=
  failIf (a.rel != ra || b.rel != rb || c.rel != rc) .TYPE_MISMATCH
/-- `checkLabelings(file, line, la, lb, lc)` -/
def chkLabs (a b c : AKind) (la lb lc : Lab) : Option ErrCode :=
  failIf (a.lab != la || b.lab != lb || c.lab != lc) .TYPE_MISMATCH
/-- `checkAllRanges(file, line, r)` -/
def chkRanges (a b c : AKind) (r : Range) : Option ErrCode :=
  failIf (a.range != r || b.range != r || c.range != r) .TYPE_MISMATCH

/-- union_mt / inter_mt / diffr_mt constructors -/
def preSetOp (a b c : AKind) (sd : Bool) : Option ErrCode :=
  firstOf [chkDomains sd, chkAllRel a b c, chkLabs a b c .mt .mt .mt]

/-- arith_compat / arith_factor / arith_pushdn constructors (arith_templ.h) -/
def preArithCtor (a b c : AKind) (sd : Bool) : Option ErrCode :=
  firstOf [chkDomains sd, chkRels a b c c.rel c.rel c.rel, chkLabs a b c c.lab c.lab c.lab,
           chkRanges a b c c.range]

/-- PLUS / MINUS / MULTIPLY / DIVIDE / MAXIMUM / MINIMUM factories: MT, EV+, EV* result forests have an
    implementation, anything else (index sets) makes the factory return null -/
def preArith (a b c : AKind) (sd : Bool) : Option ErrCode :=
  match c.lab with
  | .mt | .evp | .evt => preArithCtor a b c sd
  | .idx => some .NOT_IMPLEMENTED

/-- MODULO factory (arith_mod.cc) -/
def preModulo (a b c : AKind) (sd : Bool) : Option ErrCode :=
  match c.lab with
  | .mt => if a.range == .real || b.range == .real then some .NOT_IMPLEMENTED else preArithCtor a b c sd
  | .evp => preArithCtor a b c sd
  | _ => some .NOT_IMPLEMENTED

/-- DIST_MIN factory (arith_distmin.cc) -/
def preDistMin (a b c : AKind) (sd : Bool) : Option ErrCode :=
  match c.lab with
  | .mt => preArithCtor a b c sd
  | _ => some .NOT_IMPLEMENTED

/-- the six comparison factories (compare.cc): dispatch on the FIRST operand's labeling -/
def preCompare (a b c : AKind) (sd : Bool) : Option ErrCode :=
  match a.lab with
  | .mt =>
    firstOf [chkDomains sd, chkRels a b c c.rel c.rel c.rel, chkLabs a b c .mt .mt .mt,
             failIf (a.range != b.range) .TYPE_MISMATCH]
  | _ =>
    firstOf [chkDomains sd, chkRels a b c c.rel c.rel c.rel,
             failIf (a.range != b.range) .TYPE_MISMATCH,
             failIf (a.lab != b.lab) .TYPE_MISMATCH,
             failIf (c.lab != .mt) .TYPE_MISMATCH]

/-- result of building an operation through a factory that may return null -/
inductive Built where
  | ok | null | threw (e : ErrCode)
  deriving DecidableEq, Repr

def Built.ofCheck : Option ErrCode → Built
  | none => .ok
  | some e => .threw e

/-- `prepost_set_mtrel` constructor; `vec`,`mat`: the operands in the role of vector and matrix -/
def prePrepostCtor (vec mat c : AKind) (sd : Bool) : Option ErrCode :=
  firstOf [chkDomains sd, chkRels vec mat c false true false, chkLabs vec mat c c.lab .mt c.lab,
           failIf (vec.range != c.range) .TYPE_MISMATCH]

/-- `_IMAGE_factory::build_new` (prepost_sets.cc), also the shape of `reachset_satur_factory` -/
def buildImage (a b c : AKind) (sd : Bool) : Built :=
  match a.lab with
  | .mt =>
    match c.range with
    | .bool => .ofCheck (prePrepostCtor a b c sd)
    | .int => if c.fully then .ofCheck (prePrepostCtor a b c sd) else .null
    | .real => .null
  | .evp => .ofCheck (prePrepostCtor a b c sd)
  | _ => .null

def Built.toPre : Built → Option ErrCode
  | .ok => none
  | .null => some .NOT_IMPLEMENTED          -- `if (!bop) throw error(NOT_IMPLEMENTED)` in `apply`
  | .threw e => some e

/-- VM_MULTIPLY / MV_MULTIPLY factories: all three forests must be multi-terminal (tested first, since /repo
    fix 41a8b5e), then the result range is examined -/
def preVecMat (vec mat c : AKind) (sd : Bool) : Option ErrCode :=
  if vec.lab != .mt || mat.lab != .mt || c.lab != .mt then some .TYPE_MISMATCH
  else match c.range with
  | .bool => some .TYPE_MISMATCH
  | _ => prePrepostCtor vec mat c sd

/-- `reachset_frontier` / `reachset_no_frontier` (reach_trad.cc, since the repair of finding F2): the factory
    builds the image operation over (result, relation, result) — the loops apply it to edges of the result
    forest — then the accumulate / difference operations over the result forest (they cannot fail once the
    image operation exists), then the constructor repeats the image constructor's tests with the FIRST
    operand and builds COPY(first operand, result) (which cannot fail after these tests).
    `sbc`: second operand and result share a domain; `sd`: all three do. -/
def viaImage (a b c : AKind) (sd sbc : Bool) : Option ErrCode :=
  firstOf [(buildImage c b c sbc).toPre, prePrepostCtor a b c sd]

/-- REACHABLE_TRAD_FS factory (reach_trad.cc) -/
def preTradFS (a b c : AKind) (sd sbc : Bool) : Option ErrCode :=
  if a.lab == .mt && c.range == .bool then viaImage a b c sd sbc else some .NOT_IMPLEMENTED

/-- REACHABLE_TRAD_NOFS factory: dispatch on the RESULT forest; a null image or accumulate operation makes
    the factory return null (since the repair of finding F1; it used to be dereferenced) -/
def preTradNoFS (a b c : AKind) (sd sbc : Bool) : Option ErrCode :=
  match c.lab with
  | .mt => (match c.range with
            | .bool | .int => viaImage a b c sd sbc
            | .real => some .NOT_IMPLEMENTED)
  | .evp => if c.range == .int then viaImage a b c sd sbc else some .NOT_IMPLEMENTED
  | _ => some .NOT_IMPLEMENTED

/-- COPY factory and the four copy constructors (copy.cc): the set/relation test of the factory precedes
    every constructor, hence precedes the domain test -/
def preCopy (a c : AKind) (sd : Bool) : Option ErrCode :=
  firstOf [failIf (a.rel != c.rel) .TYPE_MISMATCH, chkDomains sd]

def precheckA (op : OpKind) (a b c : AKind) (dp : Doms) : Option ErrCode :=
  let sd := dp.allSame
  match op with
  | .UNION | .INTERSECTION | .DIFFERENCE => preSetOp a b c sd
  | .CROSS =>
    firstOf [chkDomains sd, chkRanges a b c .bool, chkLabs a b c .mt .mt .mt, chkRels a b c false false true]
  | .PLUS | .MINUS | .MULTIPLY | .DIVIDE | .MAXIMUM | .MINIMUM => preArith a b c sd
  | .MODULO => preModulo a b c sd
  | .DIST_MIN => preDistMin a b c sd
  | .EQUAL | .NOT_EQUAL | .LESS_THAN | .LESS_THAN_EQUAL | .GREATER_THAN | .GREATER_THAN_EQUAL =>
    preCompare a b c sd
  | .PRE_IMAGE | .POST_IMAGE | .REACHABLE_SATUR_FWD | .REACHABLE_SATUR_BWD => (buildImage a b c sd).toPre
  | .VM_MULTIPLY => preVecMat a b c sd
  | .MV_MULTIPLY => preVecMat b a c sd
  | .REACHABLE_TRAD_FS_FWD | .REACHABLE_TRAD_FS_BWD => preTradFS a b c sd dp.bcSame
  | .REACHABLE_TRAD_NOFS_FWD | .REACHABLE_TRAD_NOFS_BWD => preTradNoFS a b c sd dp.bcSame
  | .COPY => preCopy a c sd
  | .COMPLEMENT =>
    firstOf [chkDomains sd, failIf (a.rel != c.rel) .TYPE_MISMATCH,
             failIf (a.range != .bool || c.range != .bool) .TYPE_MISMATCH,
             failIf (a.lab != .mt || c.lab != .mt) .TYPE_MISMATCH]
  | .CONVERT_TO_INDEX_SET =>
    firstOf [chkDomains sd, failIf (a.rel || c.rel) .TYPE_MISMATCH,
             failIf (a.range != .bool || c.range != .int) .TYPE_MISMATCH,
             failIf (a.lab != .mt || c.lab != .idx) .TYPE_MISMATCH]
  | .DIST_INC =>
    firstOf [chkDomains sd, failIf (a.rel != c.rel) .TYPE_MISMATCH,
             failIf (a.range != .int || c.range != .int) .TYPE_MISMATCH,
             failIf (a.lab != .mt || c.lab != .mt) .TYPE_MISMATCH]
  | .CYCLE =>
    if a.lab == .evp then
      firstOf [chkDomains sd, failIf (c.lab != .evp) .TYPE_MISMATCH, failIf (!a.rel || c.rel) .TYPE_MISMATCH]
    else some .NOT_IMPLEMENTED
  | .CARDINALITY_INT | .CARDINALITY_REAL => none
  | .MAX_RANGE_INT | .MIN_RANGE_INT =>
    if a.lab != .mt then some .NOT_IMPLEMENTED else failIf (a.range != .int) .TYPE_MISMATCH
  | .MAX_RANGE_REAL | .MIN_RANGE_REAL =>
    if a.lab != .mt then some .NOT_IMPLEMENTED else failIf (a.range != .real) .TYPE_MISMATCH

/-- The decision table on forest kinds.  `dp`: how the forests involved are spread over `domain` objects. -/
def precheck (op : OpKind) (ka kb kc : ForestKind) (dp : Doms) : Option ErrCode :=
  precheckA op ka.abs kb.abs kc.abs dp

/-! ## Part 1b: the documented requirements, declaratively -/

def isNumeric (r : Range) : Bool := r == .int || r == .real

/-- all three forests have the same set/relation status, range type and labeling -/
def sameType (a b c : AKind) : Bool :=
  a.rel == c.rel && b.rel == c.rel && a.range == c.range && b.range == c.range &&
  a.lab == c.lab && b.lab == c.lab

/-- image-like operations (PRE/POST_IMAGE doc string): a set/vector, a Boolean MT relation, the result a
    set with the range and labeling of the first operand; MT or EV+; Boolean or integer; an MT integer
    (distance) result must be fully reduced -/
def imageReq (a b c : AKind) : Bool :=
  !a.rel && b.rel && !c.rel && b.lab == .mt && b.range == .bool &&
  a.range == c.range && a.lab == c.lab && (a.lab == .mt || a.lab == .evp) &&
  (c.range == .bool || c.range == .int) &&
  (!(c.lab == .mt && c.range == .int) || c.fully)

set_option linter.unusedVariables false

/-- `sac`: the first operand and the result live in the SAME forest object (only the reachability
    operations document such a requirement). -/
def compatibleA : OpKind → AKind → AKind → AKind → Bool → Bool → Bool
  -- "all forests must be over the same domain. Forests must be multi-terminal." (+ one shape)
  | .UNION, a, b, c, sd, sac | .INTERSECTION, a, b, c, sd, sac | .DIFFERENCE, a, b, c, sd, sac =>
    sd && a.rel == c.rel && b.rel == c.rel && a.lab == .mt && b.lab == .mt && c.lab == .mt
  -- "Cross product of sets (boolean functions). The result is a relation."
  | .CROSS, a, b, c, sd, sac =>
    sd && !a.rel && !b.rel && c.rel && a.lab == .mt && b.lab == .mt && c.lab == .mt &&
    a.range == .bool && b.range == .bool && c.range == .bool
  -- "Forest ranges must be integer or real. Forests should be all MT, EV+, or EV*, over the same domain."
  | .PLUS, a, b, c, sd, sac | .MINUS, a, b, c, sd, sac | .MULTIPLY, a, b, c, sd, sac | .DIVIDE, a, b, c, sd, sac
  | .MAXIMUM, a, b, c, sd, sac | .MINIMUM, a, b, c, sd, sac =>
    sd && sameType a b c && isNumeric c.range && (c.lab == .mt || c.lab == .evp || c.lab == .evt)
  -- "Forest ranges must be integer."
  | .MODULO, a, b, c, sd, sac => sd && sameType a b c && c.range == .int && (c.lab == .mt || c.lab == .evp)
  -- "Forest ranges must be integer or real. Forests must be multi-terminal"
  | .DIST_MIN, a, b, c, sd, sac => sd && sameType a b c && isNumeric c.range && c.lab == .mt
  -- "Input forests should both be MT, EV+, or EV*. The output forest should be MT."
  | .EQUAL, a, b, c, sd, sac | .NOT_EQUAL, a, b, c, sd, sac | .LESS_THAN, a, b, c, sd, sac | .LESS_THAN_EQUAL, a, b, c, sd, sac
  | .GREATER_THAN, a, b, c, sd, sac | .GREATER_THAN_EQUAL, a, b, c, sd, sac =>
    sd && a.rel == c.rel && b.rel == c.rel && a.lab == b.lab && a.range == b.range &&
    (a.lab == .mt || a.lab == .evp || a.lab == .evt) && c.lab == .mt
  | .PRE_IMAGE, a, b, c, sd, sac | .POST_IMAGE, a, b, c, sd, sac => sd && imageReq a b c
  -- ops_builtin.h: "The result is a set-of-states that must be stored in the same forest as the first
  -- operand."  In the table one kind is one forest object, so "same forest" is "same kind".
  | .REACHABLE_SATUR_FWD, a, b, c, sd, sac | .REACHABLE_SATUR_BWD, a, b, c, sd, sac
  | .REACHABLE_TRAD_NOFS_FWD, a, b, c, sd, sac | .REACHABLE_TRAD_NOFS_BWD, a, b, c, sd, sac =>
    sd && imageReq a b c && sac
  -- frontier variant: needs set difference, hence Boolean MT only
  | .REACHABLE_TRAD_FS_FWD, a, b, c, sd, sac | .REACHABLE_TRAD_FS_BWD, a, b, c, sd, sac =>
    sd && imageReq a b c && sac && c.lab == .mt && c.range == .bool
  -- "The first operand is a vector (MDD), the second operand is a matrix (MxD), and the result is a vector
  -- (MDD). All forests must multi-terminal and over the same domain."  (numeric: the values are multiplied)
  | .VM_MULTIPLY, a, b, c, sd, sac =>
    sd && !a.rel && b.rel && !c.rel && a.lab == .mt && b.lab == .mt && c.lab == .mt &&
    a.range == c.range && b.range == c.range && isNumeric c.range
  | .MV_MULTIPLY, a, b, c, sd, sac =>
    sd && a.rel && !b.rel && !c.rel && a.lab == .mt && b.lab == .mt && c.lab == .mt &&
    a.range == c.range && b.range == c.range && isNumeric c.range
  -- "must have the same domain, and must both be sets or both be relations. The function ranges may be different."
  | .COPY, a, _, c, sd, sac => sd && a.rel == c.rel
  -- "Complement, for functions with boolean range"
  | .COMPLEMENT, a, _, c, sd, sac =>
    sd && a.rel == c.rel && a.range == .bool && c.range == .bool && a.lab == .mt && c.lab == .mt
  -- "Converts sets (boolean functions) ... into an indexed set ... in another (EV+MDD) forest"
  | .CONVERT_TO_INDEX_SET, a, _, c, sd, sac =>
    sd && !a.rel && !c.rel && a.range == .bool && a.lab == .mt && c.range == .int && c.lab == .idx
  -- "encoded as a multi-terminal MDD/MXD ... same domain ... integer range"
  | .DIST_INC, a, _, c, sd, sac =>
    sd && a.rel == c.rel && a.range == .int && c.range == .int && a.lab == .mt && c.lab == .mt
  -- "The input forest should be an EV+MxD (relation) ..., and the output should be an EV+MDD (set)."
  | .CYCLE, a, _, c, sd, sac => sd && a.rel && !c.rel && a.lab == .evp && c.lab == .evp
  -- "The result is allowed to be type long, double, or mpz_t"
  | .CARDINALITY_INT, _, _, _, _, sac | .CARDINALITY_REAL, _, _, _, _, sac => true
  -- "The result type should match the input forest range type." (multi-terminal: maxmin_range.cc)
  | .MAX_RANGE_INT, a, _, _, _, sac | .MIN_RANGE_INT, a, _, _, _, sac => a.lab == .mt && a.range == .int
  | .MAX_RANGE_REAL, a, _, _, _, sac | .MIN_RANGE_REAL, a, _, _, _, sac => a.lab == .mt && a.range == .real

/-- The documented requirements on forest kinds.  In the table one kind is one forest object, so for the
    reachability operations "same forest" is "same kind". -/
def compatible (op : OpKind) (ka kb kc : ForestKind) (sameDom : Bool) : Prop :=
  compatibleA op ka.abs kb.abs kc.abs sameDom (ka == kc) = true

instance (op : OpKind) (ka kb kc : ForestKind) (sd : Bool) : Decidable (compatible op ka kb kc sd) := by
  unfold compatible; exact inferInstance

/-! ### documented requirements the code does not enforce

`laxA` describes, declaratively and operation by operation, the calls that violate a documented
requirement and are nevertheless ACCEPTED by the constructors (no error is raised).  `lax_exact` shows
that this description is exact.  Each class is listed in docs/NOTES_errors.md.  Every accepted row — lax or not — is
computed by the harness; none of them crashes the library any more (findings F2 and F4 are repaired). -/

/-- everything the constructors of arithmetic operations require, except "integer or real" -/
def boolArith (a b c : AKind) (sd : Bool) : Bool := sd && sameType a b c && c.range == .bool && c.lab == .mt

def laxA : OpKind → AKind → AKind → AKind → Bool → Bool → Bool
  -- L1: arithmetic on Boolean multi-terminal forests ("Forest ranges must be integer or real")
  | .PLUS, a, b, c, sd, sac | .MINUS, a, b, c, sd, sac | .MULTIPLY, a, b, c, sd, sac | .DIVIDE, a, b, c, sd, sac
  | .MAXIMUM, a, b, c, sd, sac | .MINIMUM, a, b, c, sd, sac | .MODULO, a, b, c, sd, sac | .DIST_MIN, a, b, c, sd, sac =>
    boolArith a b c sd
  -- L2: comparison of two index sets (documented: MT, EV+ or EV*)
  | .EQUAL, a, b, c, sd, sac | .NOT_EQUAL, a, b, c, sd, sac | .LESS_THAN, a, b, c, sd, sac | .LESS_THAN_EQUAL, a, b, c, sd, sac
  | .GREATER_THAN, a, b, c, sd, sac | .GREATER_THAN_EQUAL, a, b, c, sd, sac =>
    sd && a.lab == .idx && b.lab == .idx && c.lab == .mt && !c.rel
  -- L3: the relation of an image operation is not required to have Boolean range
  | .PRE_IMAGE, a, b, c, sd, sac | .POST_IMAGE, a, b, c, sd, sac =>
    sd && imageReq a { b with range := .bool } c && b.range != .bool
  -- L3 + L4: reachability with the result in another forest than the first operand (ops_builtin.h demands the
  -- same forest; the code copies the initial set into the result forest and works there)
  | .REACHABLE_SATUR_FWD, a, b, c, sd, sac | .REACHABLE_SATUR_BWD, a, b, c, sd, sac
  | .REACHABLE_TRAD_NOFS_FWD, a, b, c, sd, sac | .REACHABLE_TRAD_NOFS_BWD, a, b, c, sd, sac =>
    sd && imageReq a { b with range := .bool } c && (b.range != .bool || !sac)
  | .REACHABLE_TRAD_FS_FWD, a, b, c, sd, sac | .REACHABLE_TRAD_FS_BWD, a, b, c, sd, sac =>
    sd && imageReq a { b with range := .bool } c && c.lab == .mt && c.range == .bool &&
    (b.range != .bool || !sac)
  -- L5: the vector-matrix product compares the vector's range with the result's but never looks at the
  -- range of the MATRIX (the labelings are all tested since /repo fix 41a8b5e)
  | .VM_MULTIPLY, a, b, c, sd, sac =>
    sd && !a.rel && b.rel && !c.rel && a.lab == .mt && b.lab == .mt && c.lab == .mt && a.range == c.range &&
    isNumeric c.range && b.range != c.range
  | .MV_MULTIPLY, a, b, c, sd, sac =>
    sd && a.rel && !b.rel && !c.rel && a.lab == .mt && b.lab == .mt && c.lab == .mt && b.range == c.range &&
    isNumeric c.range && a.range != c.range
  | _, _, _, _, _, _ => false

/-- documented requirement violated, call accepted all the same (see `laxA`) -/
def lax (op : OpKind) (ka kb kc : ForestKind) (sameDom : Bool) : Bool :=
  laxA op ka.abs kb.abs kc.abs sameDom (ka == kc)

/-! ### the finite table -/

/-- the facts checked on every row (`p` = precheck, `cp` = compatible, `lx` = lax, `ct` = compatible if the
    domains were the same, `two` = the operation involves at least two forests, `sd` = one domain):
    g1  exactness of `lax`: lax ⇔ incompatible and accepted   (hence: accepted and not lax ⇒ compatible;
        incompatible and not lax ⇒ rejected)
    g2  completeness: every documented-compatible call is accepted
    g4  DOMAIN_MISMATCH is only reported when the domains differ
    g5  a call whose ONLY defect is the domain is reported as DOMAIN_MISMATCH
    g6  the constructors raise no other code than DOMAIN_MISMATCH / TYPE_MISMATCH / NOT_IMPLEMENTED
    (g3, "a constructor crashes only in REACHABLE_TRAD_NOFS", is gone with finding F1: no outcome of the
    table is a crash any more.) -/
def goodCore (p : Option ErrCode) (cp lx ct two sd : Bool) : Bool :=
  match p with
  | none => (lx == !cp) && !(two && !sd && ct)
  | some .DOMAIN_MISMATCH => !lx && !cp && !sd
  | some .TYPE_MISMATCH | some .NOT_IMPLEMENTED => !lx && !cp && !(two && !sd && ct)
  | some _ => false

def goodA (op : OpKind) (a b c : AKind) (dp : Doms) (sac : Bool) : Bool :=
  goodCore (precheckA op a b c dp) (compatibleA op a b c dp.allSame sac) (laxA op a b c dp.allSame sac)
    (compatibleA op a b c true sac) (decide (2 ≤ op.forests)) dp.allSame

/-! Rows that cannot differ are evaluated once: operations that share a constructor shape (`rep`) and the parts of a row no
constructor of the operation looks at (`nb`, `nc`).  Only rows with all forests in one domain and, for
reachability, the result in the first operand's forest are evaluated: the rows with several domains
(`goodA_anyDoms`) and those with another result forest (`goodA_anyForest`) follow from them. -/

/-- the 10 legal (set/relation, range, labeling) combinations, reduction rule left out -/
def allBK : List AKind :=
  [⟨false, .bool, .mt, false⟩, ⟨false, .int, .mt, false⟩, ⟨false, .real, .mt, false⟩,
   ⟨false, .int, .evp, false⟩, ⟨false, .int, .idx, false⟩,
   ⟨true, .bool, .mt, false⟩, ⟨true, .int, .mt, false⟩, ⟨true, .real, .mt, false⟩,
   ⟨true, .int, .evp, false⟩, ⟨true, .real, .evt, false⟩]

def AKind.nf (k : AKind) : AKind := ⟨k.rel, k.range, k.lab, false⟩

/-- `isFullyReduced()` is only ever asked of a result forest with integer range -/
def AKind.nfr (k : AKind) : AKind := if k.range == .int then k else k.nf

/-- the 10 kinds and the five on which the flag "fully reduced" matters -/
def allCK : List AKind :=
  allBK ++ [⟨false, .int, .mt, true⟩, ⟨false, .int, .evp, true⟩, ⟨false, .int, .idx, true⟩,
            ⟨true, .int, .mt, true⟩, ⟨true, .int, .evp, true⟩]

/-- does a constructor of the operation ever call `isFullyReduced()` on the result forest? -/
def OpKind.usesFully : OpKind → Bool
  | .PRE_IMAGE | .POST_IMAGE => true
  | op => op.isReach

/-- Operations that share one constructor / factory shape share one table: the representative. -/
def OpKind.rep : OpKind → OpKind
  | .UNION | .INTERSECTION | .DIFFERENCE => .UNION
  | .PLUS | .MINUS | .MULTIPLY | .DIVIDE | .MAXIMUM | .MINIMUM => .PLUS
  | .EQUAL | .NOT_EQUAL | .LESS_THAN | .LESS_THAN_EQUAL | .GREATER_THAN | .GREATER_THAN_EQUAL => .EQUAL
  | .PRE_IMAGE | .POST_IMAGE | .REACHABLE_SATUR_FWD | .REACHABLE_SATUR_BWD => .PRE_IMAGE
  | .REACHABLE_TRAD_FS_FWD | .REACHABLE_TRAD_FS_BWD => .REACHABLE_TRAD_FS_FWD
  | .REACHABLE_TRAD_NOFS_FWD | .REACHABLE_TRAD_NOFS_BWD => .REACHABLE_TRAD_NOFS_FWD
  | .CARDINALITY_INT | .CARDINALITY_REAL => .CARDINALITY_INT
  | .MAX_RANGE_INT | .MIN_RANGE_INT => .MAX_RANGE_INT
  | .MAX_RANGE_REAL | .MIN_RANGE_REAL => .MAX_RANGE_REAL
  | op => op

def bk0 : AKind := ⟨false, .bool, .mt, false⟩

/-- the parts of a row an operation can depend on (everything else is normalised away) -/
def nb (op : OpKind) (b : AKind) : AKind := if op.forests ≤ 2 then bk0 else b.nf
def nc (op : OpKind) (c : AKind) : AKind :=
  if op.forests ≤ 1 then bk0 else if op.usesFully then c.nfr else c.nf

def bL (op : OpKind) : List AKind := if op.forests ≤ 2 then [bk0] else allBK
def cL (op : OpKind) : List AKind := if op.forests ≤ 1 then [bk0] else if op.usesFully then allCK else allBK

/-- the whole table of one (representative) operation: first operand over the 10 kinds, second operand
    over the 10 kinds (binary operations), result over the 10 kinds or the 15 of `allCK` (operations that
    look at the flag "fully reduced"); all forests in one domain; for reachability with the result in
    the first operand's forest -/
def famGood (op : OpKind) : Bool :=
  allBK.all fun a => (bL op).all fun b => (cL op).all fun c => goodA op a b c .same op.isReach

theorem goodA_nfr (op : OpKind) (a b c : AKind) (dp : Doms) (sac : Bool) :
    goodA op a b c dp sac = goodA op a b (if op.usesFully then c.nfr else c) dp sac := by
  cases h : op.usesFully
  · rfl
  · rcases c with ⟨r, g, l, f⟩
    cases op <;> first | (cases h; done) | (cases g <;> cases l <;> rfl)

/-- the saturation factory has the shape of the image factory; with the result in the first operand's
    forest its documented requirement is the image operation's -/
theorem goodA_satur (a b c : AKind) (dp : Doms) :
    goodA .REACHABLE_SATUR_FWD a b c dp true = goodA .PRE_IMAGE a b c dp false := by
  simp only [goodA, compatibleA, laxA, Bool.and_true, Bool.not_true, Bool.or_false]
  rfl

/-- a row depends only on its normalised parts, and only on the representative of the operation -/
theorem goodA_norm (op : OpKind) (a b c : AKind) (dp : Doms) :
    goodA op a b c dp op.isReach = goodA op.rep a.nf (nb op.rep b) (nc op.rep c) dp op.rep.isReach := by
  refine (goodA_nfr ..).trans ?_
  -- with `a`, `b` destructured `a.nf`, `b.nf` compute, which makes the comparisons much quicker
  rcases a with ⟨ar, ag, al, af⟩
  rcases b with ⟨br, bg, bl, bf⟩
  cases op <;> first | rfl | exact goodA_satur ..

theorem nf_mem_allBK (k : AKind) (h : k.legal = true) : k.nf ∈ allBK := by
  rcases k with ⟨r, g, l, f⟩
  cases r <;> cases g <;> cases l <;>
    first | (exfalso; simpa [AKind.legal] using h) | simp [AKind.nf, allBK]

theorem nfr_mem_allCK (k : AKind) (h : k.legal = true) : k.nfr ∈ allCK := by
  have := nf_mem_allBK k h
  rcases k with ⟨r, g, l, f⟩
  cases g <;> first | exact List.mem_append_left _ this | skip
  cases r <;> cases l <;> cases f <;> first | (exfalso; simpa [AKind.legal] using h) | decide

theorem nb_mem (op : OpKind) (b : AKind) (h : b.legal = true) : nb op b ∈ bL op := by
  unfold nb bL; split
  · exact List.mem_singleton.2 rfl
  · exact nf_mem_allBK b h

theorem nc_mem (op : OpKind) (c : AKind) (h : c.legal = true) : nc op c ∈ cL op := by
  unfold nc cL; split
  · exact List.mem_singleton.2 rfl
  · split
    · exact nfr_mem_allCK c h
    · exact nf_mem_allBK c h

theorem famGood_spec {op : OpKind} (h : famGood op = true) {a b c : AKind}
    (ha : a ∈ allBK) (hb : b ∈ bL op) (hc : c ∈ cL op) : goodA op a b c .same op.isReach = true :=
  List.all_eq_true.1 (List.all_eq_true.1 (List.all_eq_true.1 h a ha) b hb) c hc

/-- Dropping a requirement from the documentation leaves a good row good: what was compatible or lax
    is now lax. -/
theorem goodCore_drop : ∀ (p : Option ErrCode) (cp lx ct two sd : Bool),
    goodCore p cp lx ct two sd = true → goodCore p false (cp || lx) false two sd = true
  | none => by decide +kernel
  | some e => by cases e <;> decide +kernel

theorem imageReq_boolRel (a b c : AKind) :
    imageReq a b c = (imageReq a { b with range := .bool } c && b.range == .bool) := by
  cases h : b.range == Range.bool <;> simp [imageReq, h]

/-- "the result lives in the first operand's forest" is the only requirement of reachability that
    mentions `sac`, and no constructor tests it -/
theorem reach_anyForest {op : OpKind} (h : op.isReach = true) (a b c : AKind) (sd : Bool) :
    compatibleA op a b c sd false = false ∧
    laxA op a b c sd false = (compatibleA op a b c sd true || laxA op a b c sd true) := by
  cases op <;> first | cases h | skip
  all_goals
    simp only [compatibleA, laxA, imageReq_boolRel a b c, bne]
    generalize imageReq a { b with range := .bool } c = i
    generalize (b.range == Range.bool) = e
    generalize (c.lab == Lab.mt) = l
    generalize (c.range == Range.bool) = r
    revert i e sd l r
    decide

/-- a row with the result in the first operand's forest (where the operation documents that) is good:
    so is the row with any other forest -/
theorem goodA_anyForest {op : OpKind} {a b c : AKind} {dp : Doms}
    (h : goodA op a b c dp op.isReach = true) (sac : Bool) : goodA op a b c dp sac = true := by
  cases hr : op.isReach
  · rw [hr] at h
    cases sac
    · exact h
    · cases op <;> first | exact h | cases hr
  · rw [hr] at h
    cases sac
    · unfold goodA at h ⊢
      rw [(reach_anyForest hr a b c _).1, (reach_anyForest hr a b c _).1, (reach_anyForest hr a b c _).2]
      exact goodCore_drop _ _ _ _ _ _ h
    · exact h

/-- `p`, `p'`: the first failing test of one sequence of tests with the domain test passing and failing:
    `p'` is the domain test, or an earlier test, which fails in `p` as well -/
def FailsDom (p p' : Option ErrCode) : Prop :=
  p' = some .DOMAIN_MISMATCH ∨ ∃ e, p = some e ∧ p' = some e

theorem FailsDom.cons {x x' : Option ErrCode} (h : FailsDom x x') (l l' : List (Option ErrCode)) :
    FailsDom (firstOf (x :: l)) (firstOf (x' :: l')) := by
  rcases h with rfl | ⟨e, rfl, rfl⟩
  · exact .inl rfl
  · exact .inr ⟨e, rfl, rfl⟩

theorem FailsDom.cons_same (t : Option ErrCode) {l l' : List (Option ErrCode)}
    (h : FailsDom (firstOf l) (firstOf l')) : FailsDom (firstOf (t :: l)) (firstOf (t :: l')) := by
  cases t
  · exact h
  · exact .inr ⟨_, rfl, rfl⟩

theorem failsDom_buildImage (a b c : AKind) :
    FailsDom (buildImage a b c true).toPre (buildImage a b c false).toPre := by
  unfold buildImage
  repeat' split
  all_goals first | exact .inl rfl | exact .inr ⟨_, rfl, rfl⟩

theorem failsDom_viaImage (a b c : AKind) (sbc : Bool) :
    FailsDom (viaImage a b c true true) (viaImage a b c false sbc) := by
  cases sbc
  · exact .cons (failsDom_buildImage c b c) _ _
  · exact .cons_same _ (.inl rfl)

/-- Every constructor performs its tests in sequence and the domain test is one of them.  After the
    case distinctions that do not depend on the domains, either the domain test comes first, or both
    outcomes are the same constant, or the tests are those of `viaImage` or `preCopy`. -/
theorem precheckA_failsDom {op : OpKind} (h2 : 2 ≤ op.forests) (a b c : AKind) {dp : Doms}
    (hd : dp.allSame = false) : FailsDom (precheckA op a b c .same) (precheckA op a b c dp) := by
  cases op <;> first | exact absurd h2 (by decide) | skip
  all_goals
    simp only [precheckA, hd, preArith, preModulo, preDistMin, preCompare, buildImage, preVecMat,
      preTradFS, preTradNoFS, preCopy]
    repeat' split
    all_goals first
      | exact .inl rfl | exact .inr ⟨_, rfl, rfl⟩ | exact failsDom_viaImage .. | exact .cons_same _ (.inl rfl)

/-- every documented requirement includes "one domain" -/
theorem compatibleA_doms {op : OpKind} (h2 : 2 ≤ op.forests) (a b c : AKind) (sac : Bool) :
    compatibleA op a b c false sac = false ∧ laxA op a b c false sac = false := by
  cases op <;> first | exact absurd h2 (by decide) | exact ⟨rfl, rfl⟩

theorem goodCore_doms {p p' : Option ErrCode} (h : FailsDom p p') {cp lx two : Bool}
    (g : goodCore p cp lx cp two true = true) : goodCore p' false false cp two false = true := by
  rcases h with rfl | ⟨e, rfl, rfl⟩
  · rfl
  · revert g; cases e <;> revert cp lx two <;> decide +kernel

theorem goodCore_oneForest : ∀ (p : Option ErrCode) (cp lx ct sd : Bool),
    goodCore p cp lx ct false true = true → goodCore p cp lx ct false sd = true
  | none => by decide +kernel
  | some e => by cases e <;> decide +kernel

/-- A good row with all forests in one domain stays good when the domains differ: then nothing is
    compatible or lax, and the constructor reports the domains or what it reported before
    (`precheckA_failsDom`); an operation on one forest has no domains to compare. -/
theorem goodA_anyDoms {op : OpKind} {a b c : AKind} {sac : Bool}
    (h : goodA op a b c .same sac = true) (dp : Doms) : goodA op a b c dp sac = true := by
  cases hd : dp.allSame
  · by_cases h2 : 2 ≤ op.forests
    · unfold goodA
      rw [hd, (compatibleA_doms h2 ..).1, (compatibleA_doms h2 ..).2]
      exact goodCore_doms (precheckA_failsDom h2 a b c hd) h
    · cases op <;> first | exact absurd (by decide) h2 | exact goodCore_oneForest _ _ _ _ _ h
  · cases dp <;> first | exact h | cases hd

/-! The table itself, decided by evaluation in the kernel, one chunk per representative operation. -/
theorem famGood_UNION : famGood .UNION = true := by decide +kernel
theorem famGood_CROSS : famGood .CROSS = true := by decide +kernel
theorem famGood_PLUS : famGood .PLUS = true := by decide +kernel
theorem famGood_MODULO : famGood .MODULO = true := by decide +kernel
theorem famGood_DIST_MIN : famGood .DIST_MIN = true := by decide +kernel
theorem famGood_EQUAL : famGood .EQUAL = true := by decide +kernel
theorem famGood_PRE_IMAGE : famGood .PRE_IMAGE = true := by decide +kernel
theorem famGood_VM : famGood .VM_MULTIPLY = true := by decide +kernel
theorem famGood_MV : famGood .MV_MULTIPLY = true := by decide +kernel
theorem famGood_TRAD_FS : famGood .REACHABLE_TRAD_FS_FWD = true := by decide +kernel
theorem famGood_TRAD_NOFS : famGood .REACHABLE_TRAD_NOFS_FWD = true := by decide +kernel
theorem famGood_COPY : famGood .COPY = true := by decide +kernel
theorem famGood_COMPLEMENT : famGood .COMPLEMENT = true := by decide +kernel
theorem famGood_INDEX : famGood .CONVERT_TO_INDEX_SET = true := by decide +kernel
theorem famGood_DIST_INC : famGood .DIST_INC = true := by decide +kernel
theorem famGood_CYCLE : famGood .CYCLE = true := by decide +kernel
theorem famGood_CARD : famGood .CARDINALITY_INT = true := by decide +kernel
theorem famGood_RANGE_INT : famGood .MAX_RANGE_INT = true := by decide +kernel
theorem famGood_RANGE_REAL : famGood .MAX_RANGE_REAL = true := by decide +kernel

theorem famGood_rep : (op : OpKind) → famGood op.rep = true
  | .UNION | .INTERSECTION | .DIFFERENCE => famGood_UNION
  | .CROSS => famGood_CROSS
  | .PLUS | .MINUS | .MULTIPLY | .DIVIDE | .MAXIMUM | .MINIMUM => famGood_PLUS
  | .MODULO => famGood_MODULO
  | .DIST_MIN => famGood_DIST_MIN
  | .EQUAL | .NOT_EQUAL | .LESS_THAN | .LESS_THAN_EQUAL | .GREATER_THAN | .GREATER_THAN_EQUAL => famGood_EQUAL
  | .PRE_IMAGE | .POST_IMAGE | .REACHABLE_SATUR_FWD | .REACHABLE_SATUR_BWD => famGood_PRE_IMAGE
  | .VM_MULTIPLY => famGood_VM
  | .MV_MULTIPLY => famGood_MV
  | .REACHABLE_TRAD_FS_FWD | .REACHABLE_TRAD_FS_BWD => famGood_TRAD_FS
  | .REACHABLE_TRAD_NOFS_FWD | .REACHABLE_TRAD_NOFS_BWD => famGood_TRAD_NOFS
  | .COPY => famGood_COPY
  | .COMPLEMENT => famGood_COMPLEMENT
  | .CONVERT_TO_INDEX_SET => famGood_INDEX
  | .DIST_INC => famGood_DIST_INC
  | .CYCLE => famGood_CYCLE
  | .CARDINALITY_INT | .CARDINALITY_REAL => famGood_CARD
  | .MAX_RANGE_INT | .MIN_RANGE_INT => famGood_RANGE_INT
  | .MAX_RANGE_REAL | .MIN_RANGE_REAL => famGood_RANGE_REAL

/-- every row over legal kinds is good -/
theorem goodA_all (op : OpKind) (a b c : AKind) (ha : a.legal = true) (hb : b.legal = true)
    (hc : c.legal = true) (dp : Doms) (sac : Bool) : goodA op a b c dp sac = true := by
  refine goodA_anyDoms (goodA_anyForest ?_ sac) dp
  rw [goodA_norm]
  exact famGood_spec (famGood_rep op) (nf_mem_allBK a ha) (nb_mem _ b hb) (nc_mem _ c hc)

theorem abs_legal {k : ForestKind} (h : k.legal = true) : k.abs.legal = true := by
  rcases k with ⟨r, g, l, u⟩
  simp only [ForestKind.legal, Bool.and_eq_true] at h
  exact h.1

end Errors
end Meddly
