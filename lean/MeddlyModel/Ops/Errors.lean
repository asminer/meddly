/-
  C16 — misuse is rejected with the documented error and leaves all functions intact.

  Part 1 (`MeddlyModel/Ops/ErrorsTable.lean`).  `precheck`: the DECISION TABLE of the library's operation
  constructors and factories, transcribed from `/repo/src/operations/*.cc` in the ORDER in which the code
  performs its tests; `compatible`: an independent, declarative statement of each operation's documented
  requirements; `lax`: the documented requirements the code does not enforce.  The table is finite; it is
  evaluated in the kernel and lifted here to every legal forest kind.  (The model has no crash outcome and
  no row is withheld from execution: the rows on which the library used to crash instead of raising an
  error, findings F1..F6 of docs/NOTES_errors.md, are repaired in the library.)

  Part 2 (this file).  Why an operation that is aborted by an error raised at ANY depth of its recursion
  cannot change a function that somebody holds: operations only ADD nodes (fresh handles) to the node
  store; `insert_monotone` shows that adding nodes never changes the unfolding (hence the denotation) of
  an existing handle, `error_keeps_state` that the roots of a store accepted by the canonical-form
  checker still unfold to reduced trees in the grown store.

  Part 3 (this file).  `apply2E`: the model's apply in the `Except` monad: an error met anywhere below
  the root aborts the whole operation with that error (no partial result exists in the tree model), and a
  run without error is exactly `DD.apply2`.
-/
import MeddlyModel.Core.Dump
import MeddlyModel.Ops.Apply
import MeddlyModel.Ops.ErrorsTable
import MeddlyModel.Props.C19

namespace Meddly
namespace Errors

/-! ## Values that fit an integer terminal, scripted misuse -/

/-- documented range of integer terminals (terminal.h: 31 bits, signed; error.h VALUE_OVERFLOW) -/
def fitsInt (x : Int) : Bool := decide (-1073741824 ≤ x) && decide (x ≤ 1073741823)

/-- Documented outcome of each scripted misuse of the API around edges, minterms, iterators and forests
    (forest.h `createConstant`, forest.cc `createEdgeForVar` / `getEdgeForValue`, minterms.cc
    `buildFunctionMax`, dd_edge.cc `evaluate` / `getElemLong` / `iterator::restart`, dd_edge.h
    `iterator::operator*` / `getElement`, oper_binary.h / oper_unary.h `apply` with a null forest). -/
def misuseExpect : String → Option String
  | "const-wrong-forest" => some "err FOREST_MISMATCH"
  | "const-detached-edge" => some "err FOREST_MISMATCH"
  | "const-wrong-type" => some "err TYPE_MISMATCH"
  | "var-wrong-forest" => some "err INVALID_OPERATION"
  | "var-bad-index" => some "err INVALID_VARIABLE"
  | "var-negative-index" => some "err INVALID_VARIABLE"
  | "var-primed-in-set" => some "err INVALID_ASSIGNMENT"
  | "var-wrong-type" => some "err TYPE_MISMATCH"
  | "coll-detached-edge" => some "err FOREST_MISMATCH"
  | "coll-wrong-domain" => some "err DOMAIN_MISMATCH"
  | "coll-wrong-shape" => some "err DOMAIN_MISMATCH"
  | "eval-wrong-shape" => some "err DOMAIN_MISMATCH"
  | "eval-wrong-domain" => some "err DOMAIN_MISMATCH"
  | "eval-detached-edge" => some "err FOREST_MISMATCH"
  | "iter-exhausted" => some "err INVALID_ITERATOR"
  | "iter-end" => some "err INVALID_ITERATOR"
  | "iter-restart-wrong-forest" => some "err FOREST_MISMATCH"
  | "getelement-not-index-set" => some "err INVALID_OPERATION"
  | "getelement-evplus" => some "err INVALID_OPERATION"
  -- an edge of a destroyed forest has no forest any more: the factories refuse to build an operation
  | "destroyed-operand" => some "err NOT_IMPLEMENTED"
  | "destroyed-result" => some "err NOT_IMPLEMENTED"
  | "destroyed-copy" => some "err NOT_IMPLEMENTED"
  | "destroyed-evaluate" => some "err FOREST_MISMATCH"
  -- an operation object applied to an edge of another forest than the one it was built for; error.h documents
  -- FOREST_MISMATCH for "requires same forest".  Former finding F8 (no test at all, SIGSEGV): the result edge
  -- of a binary operation and both edges of a unary operation are tested since the repair ...
  | "compute-foreign-result" => some "err FOREST_MISMATCH"
  | "compute-foreign-unary-result" => some "err FOREST_MISMATCH"
  | "compute-foreign-unary-operand" => some "err FOREST_MISMATCH"
  -- ... the OPERAND edges of a binary operation since /repo fix ff54c79 (former finding F8b, case 99 of the
  -- harness: refused unless the two operands are attached to the two operand forests, in either order)
  | "compute-foreign-operand" => some "err FOREST_MISMATCH"
  | _ => none


/-! ## Part 2: adding nodes to the store never changes what an existing handle denotes -/

end Errors

namespace Dump
variable {α : Type} [DecidableEq α]

/-- a node found in `D` is found (as the same node) in every store with distinct handles that contains `D` -/
theorem find_of_subset {D D' : Dump α} (hd : D'.distinctOK = true) (hsub : ∀ n ∈ D, n ∈ D')
    {h : Nat} {m : DNode α} (e : D.find h = some m) : D'.find h = some m := by
  obtain ⟨hm, hh⟩ := find_some e
  have := distinctOK_find hd (hsub m hm)
  rw [hh] at this
  exact this

theorem childOK_of_subset {D D' : Dump α} (hd : D'.distinctOK = true) (hsub : ∀ n ∈ D, n ∈ D')
    {b : Nat} {c : Child α} (v : D.childOK b c = true) : D'.childOK b c = true := by
  cases c with
  | tm x => rfl
  | nd h =>
    obtain ⟨m, hm, hp⟩ := childOK_nd v
    simp only [childOK, find_of_subset hd hsub hm, decide_eq_true_eq]
    exact hp

/-- unfolding a handle that is valid in `D` gives the same tree in any larger store `D'` -/
theorem unfold_of_subset {D D' : Dump α} (zero : α) (hs : D.storeOK = true)
    (hd : D'.distinctOK = true) (hsub : ∀ n ∈ D, n ∈ D') :
    ∀ (f : Nat) (c : Child α), D.childOK f c = true → D'.unfold zero f c = D.unfold zero f c := by
  intro f
  induction f with
  | zero =>
    intro c v
    cases c with
    | tm x => simp
    | nd h =>
      obtain ⟨m, g, _, hf, _⟩ := unfold_nd zero hs v
      omega
  | succ g ih =>
    intro c v
    cases c with
    | tm x => simp
    | nd h =>
      obtain ⟨m, g0, hm, hf, _, hc, hu⟩ := unfold_nd zero hs v
      have hg : g0 = g := by omega
      subst hg
      rw [hu, unfold_nd_succ zero g0 (find_of_subset hd hsub hm)]
      congr 1
      apply List.map_congr_left
      intro c' hc'
      exact ih c' (hc c' hc')

end Dump

namespace Errors
open Dump
variable {α : Type} [DecidableEq α]

/-- handles of `N` are fresh with respect to `D` and pairwise distinct -/
def freshFor (D N : Dump α) : Prop :=
  (∀ n ∈ N, ∀ m ∈ D, n.handle ≠ m.handle) ∧ (D ++ N).distinctOK = true

/-! ## Part 3: `apply` in the `Except` monad -/

section applyE
open DD
variable {β γ ε : Type} [DecidableEq β] [DecidableEq γ]

/-- `List.mapM` for `Except`, written out (first error wins, left to right) -/
def mapE {ι δ : Type} (F : ι → Except ε δ) : List ι → Except ε (List δ)
  | [] => .ok []
  | i :: is =>
    match F i with
    | .error e => .error e
    | .ok d =>
      match mapE F is with
      | .error e => .error e
      | .ok ds => .ok (d :: ds)

/-- the model's binary apply where the scalar operation may fail (division by zero, subtraction of
    infinity, a value that does not fit a terminal): the recursion of `DD.apply2`, children computed left to
    right, the first error aborts everything -/
def apply2E (Sa Sb Sc : Shape) (za : α) (zb : β) (zc : γ) (f : α → β → Except ε γ) :
    Nat → Option Nat → DD α → DD β → Except ε (DD γ)
  | 0, _, a, b =>
    match f (leafVal za a) (leafVal zb b) with
    | .ok v => .ok (.leaf v)
    | .error e => .error e
  | k+1, fi, a, b =>
    match mapE (fun i => apply2E Sa Sb Sc za zb zc f k (some i)
                  (cofactor Sa za (k+1) fi a i) (cofactor Sb zb (k+1) fi b i))
               (List.range (Sc.size (k+1))) with
    | .ok cs => .ok (mkNode Sc zc (k+1) fi cs)
    | .error e => .error e

theorem mapE_ok {ι δ : Type} {F : ι → Except ε δ} {G : ι → δ} :
    ∀ (l : List ι) (rs : List δ), mapE F l = .ok rs → (∀ i ∈ l, ∀ d, F i = .ok d → d = G i) → rs = l.map G
  | [], rs, h, _ => by simp [mapE] at h; simp [h]
  | i :: is, rs, h, hG => by
    simp only [mapE] at h
    cases hF : F i with
    | error e => simp [hF] at h
    | ok d =>
      simp only [hF] at h
      cases hr : mapE F is with
      | error e => simp [hr] at h
      | ok ds =>
        simp only [hr, Except.ok.injEq] at h
        rw [← h, List.map_cons, hG i (List.mem_cons_self) d hF,
          mapE_ok is ds hr (fun j hj => hG j (List.mem_cons_of_mem _ hj))]

theorem mapE_error {ι δ : Type} {F : ι → Except ε δ} :
    ∀ (l : List ι) (e : ε), mapE F l = .error e → ∃ i ∈ l, F i = .error e
  | [], e, h => by simp [mapE] at h
  | i :: is, e, h => by
    simp only [mapE] at h
    cases hF : F i with
    | error e' =>
      simp only [hF, Except.error.injEq] at h
      exact ⟨i, List.mem_cons_self, by rw [hF, h]⟩
    | ok d =>
      simp only [hF] at h
      cases hr : mapE F is with
      | error e' =>
        simp only [hr, Except.error.injEq] at h
        obtain ⟨j, hj, hjF⟩ := mapE_error is e' hr
        exact ⟨j, List.mem_cons_of_mem _ hj, by rw [hjF, h]⟩
      | ok ds => simp [hr] at h

end applyE


section applyE2
open DD
set_option linter.unusedSectionVars false
variable {β γ ε : Type} [DecidableEq β] [DecidableEq γ]

/-- total completion of a partial scalar operation (only used to name the result of an error-free run) -/
def orElse (zc : γ) (f : α → β → Except ε γ) (x : α) (y : β) : γ :=
  match f x y with
  | .ok v => v
  | .error _ => zc

theorem apply2E_ok_aux (Sa Sb Sc : Shape) (za : α) (zb : β) (zc : γ) (f : α → β → Except ε γ) :
    ∀ (k : Nat) (fi : Option Nat) (a : DD α) (b : DD β) (r : DD γ),
      apply2E Sa Sb Sc za zb zc f k fi a b = .ok r →
      r = apply2 Sa Sb Sc za zb zc (orElse zc f) k fi a b := by
  intro k
  induction k with
  | zero =>
    intro fi a b r h
    simp only [apply2E] at h
    cases hf : f (leafVal za a) (leafVal zb b) with
    | error e => simp [hf] at h
    | ok v =>
      simp only [hf, Except.ok.injEq] at h
      simp [apply2, orElse, hf, ← h]
  | succ k ih =>
    intro fi a b r h
    simp only [apply2E] at h
    cases hm : mapE (fun i => apply2E Sa Sb Sc za zb zc f k (some i)
                  (cofactor Sa za (k+1) fi a i) (cofactor Sb zb (k+1) fi b i))
               (List.range (Sc.size (k+1))) with
    | error e => simp [hm] at h
    | ok cs =>
      simp only [hm, Except.ok.injEq] at h
      have := mapE_ok (G := fun i => apply2 Sa Sb Sc za zb zc (orElse zc f) k (some i)
                  (cofactor Sa za (k+1) fi a i) (cofactor Sb zb (k+1) fi b i)) _ cs hm
        (fun i _ d hd => ih (some i) _ _ d hd)
      rw [← h, this]
      simp [apply2]

theorem apply2E_error_aux (Sa Sb Sc : Shape) (za : α) (zb : β) (zc : γ) (f : α → β → Except ε γ) :
    ∀ (k : Nat) (fi : Option Nat) (a : DD α) (b : DD β) (e : ε),
      apply2E Sa Sb Sc za zb zc f k fi a b = .error e → ∃ x y, f x y = .error e := by
  intro k
  induction k with
  | zero =>
    intro fi a b e h
    simp only [apply2E] at h
    cases hf : f (leafVal za a) (leafVal zb b) with
    | error e' =>
      simp only [hf, Except.error.injEq] at h
      exact ⟨_, _, by rw [hf, h]⟩
    | ok v => simp [hf] at h
  | succ k ih =>
    intro fi a b e h
    simp only [apply2E] at h
    cases hm : mapE (fun i => apply2E Sa Sb Sc za zb zc f k (some i)
                  (cofactor Sa za (k+1) fi a i) (cofactor Sb zb (k+1) fi b i))
               (List.range (Sc.size (k+1))) with
    | ok cs => simp [hm] at h
    | error e' =>
      simp only [hm, Except.error.injEq] at h
      obtain ⟨i, _, hi⟩ := mapE_error _ e' hm
      exact ih (some i) _ _ e (by rw [hi, h])

end applyE2

/-! ## Property theorems -/

section table

variable (op : OpKind) (ka kb kc : ForestKind) (dp : Doms)

/-- every row of the table over legal forest kinds satisfies the five facts of `goodCore` -/
theorem row_good (ha : ka.legal = true) (hb : kb.legal = true) (hc : kc.legal = true) :
    goodCore (precheck op ka kb kc dp) (compatibleA op ka.abs kb.abs kc.abs dp.allSame (ka == kc))
      (lax op ka kb kc dp.allSame) (compatibleA op ka.abs kb.abs kc.abs true (ka == kc))
      (decide (2 ≤ op.forests)) dp.allSame = true :=
  goodA_all op ka.abs kb.abs kc.abs (abs_legal ha) (abs_legal hb) (abs_legal hc) dp (ka == kc)

/-
  Full-strength statement asked for, NOT true of the code that exists:

      theorem precheck_total : ¬ compatible op ka kb kc dp.allSame → precheck op ka kb kc dp ≠ none

  It fails exactly on the calls described by `lax` (`lax_exact` below): documented requirements that no
  constructor tests — arithmetic on Boolean forests, comparison of index sets, a non-Boolean relation
  handed to an image / reachability operation, a reachability result outside the first operand's forest,
  vector-matrix products over mixed ranges.  What is missing for the full statement is the corresponding
  tests in the library (see docs/NOTES_errors.md).  None of these accepted calls crashes the library (every accepted
  row is computed by the harness).

  `dp : Doms` says how the forests of the call are spread over domains (`dp.allSame`: one domain); the
  documented requirements (`compatible`, `lax`) only ask whether it is one domain.
-/

/-- C16 (partial): a call that violates a documented requirement on the forests is refused by the
    constructor or factory with an error code — unless it belongs to the exactly characterised class `lax`
    of requirements the code never tests. -/
theorem precheck_total_partial (ha : ka.legal = true) (hb : kb.legal = true) (hc : kc.legal = true)
    (h : ¬ compatible op ka kb kc dp.allSame) (hl : lax op ka kb kc dp.allSame = false) :
    precheck op ka kb kc dp ≠ none := by
  have g := row_good op ka kb kc dp ha hb hc
  unfold compatible at h
  intro hp
  rw [hp, hl] at g
  simp [goodCore] at g
  exact h g.1

example : precheck .UNION ⟨false, .bool, .mt, .fully⟩ ⟨true, .bool, .mt, .ident⟩ ⟨false, .bool, .mt, .fully⟩ .same
    = some .TYPE_MISMATCH := by decide

/-- C16: every call the constructors accept either satisfies the documented requirements or belongs to
    `lax` (the contrapositive reading of `precheck_total_partial`). -/
theorem precheck_sound_partial (ha : ka.legal = true) (hb : kb.legal = true) (hc : kc.legal = true)
    (h : precheck op ka kb kc dp = none) (hl : lax op ka kb kc dp.allSame = false) :
    compatible op ka kb kc dp.allSame :=
  Classical.byContradiction fun hn => precheck_total_partial op ka kb kc dp ha hb hc hn hl h

example : precheck .PLUS ⟨false, .int, .evp, .fully⟩ ⟨false, .int, .evp, .quasi⟩ ⟨false, .int, .evp, .fully⟩ .same
    = none := by decide

/-- C16: `lax` is EXACTLY the set of calls that violate a documented requirement and are accepted all the
    same — the complete list of unenforced preconditions of the catalogue. -/
theorem lax_exact (ha : ka.legal = true) (hb : kb.legal = true) (hc : kc.legal = true) :
    lax op ka kb kc dp.allSame = true ↔
      (¬ compatible op ka kb kc dp.allSame ∧ precheck op ka kb kc dp = none) := by
  have g := row_good op ka kb kc dp ha hb hc
  unfold compatible
  cases hp : precheck op ka kb kc dp with
  | none =>
    rw [hp] at g
    simp [goodCore] at g
    cases hcp : compatibleA op ka.abs kb.abs kc.abs dp.allSame (ka == kc) <;> simp [hcp] at g ⊢ <;> exact g.1
  | some e =>
    rw [hp] at g
    have hl : lax op ka kb kc dp.allSame = false := by
      cases e <;> simp [goodCore] at g <;> first | exact g.1.1 | exact g.1
    simp [hl]

example : lax .PLUS ⟨false, .bool, .mt, .fully⟩ ⟨false, .bool, .mt, .fully⟩ ⟨false, .bool, .mt, .fully⟩ true
    = true := by decide

/-- C16 (converse direction): every call that satisfies the documented requirements is accepted: the
    constructors never refuse a legitimate call. -/
theorem precheck_complete (ha : ka.legal = true) (hb : kb.legal = true) (hc : kc.legal = true)
    (h : compatible op ka kb kc dp.allSame) : precheck op ka kb kc dp = none := by
  have g := row_good op ka kb kc dp ha hb hc
  unfold compatible at h
  rw [h] at g
  cases hp : precheck op ka kb kc dp with
  | none => rfl
  | some e => rw [hp] at g; cases e <;> simp [goodCore] at g

example : compatible .PRE_IMAGE ⟨false, .int, .mt, .fully⟩ ⟨true, .bool, .mt, .ident⟩ ⟨false, .int, .mt, .fully⟩ true := by
  decide

/-- C16 (former finding F1, repaired): the call on which the REACHABLE_TRAD_NOFS factory used to dereference
    a null image operation is refused with NOT_IMPLEMENTED, like every other combination no image operation
    exists for. -/
example : precheck .REACHABLE_TRAD_NOFS_FWD ⟨false, .int, .idx, .fully⟩ ⟨true, .bool, .mt, .ident⟩
    ⟨false, .int, .mt, .quasi⟩ .same = some .NOT_IMPLEMENTED := by decide

/-- C16 (former finding F2, repaired): a reachability result in another forest than the initial set is
    accepted (and computed); it stays listed in `lax` because ops_builtin.h still asks for the same forest. -/
example : precheck .REACHABLE_TRAD_FS_FWD ⟨false, .bool, .mt, .fully⟩ ⟨true, .bool, .mt, .ident⟩
    ⟨false, .bool, .mt, .quasi⟩ .same = none ∧
    lax .REACHABLE_TRAD_FS_FWD ⟨false, .bool, .mt, .fully⟩ ⟨true, .bool, .mt, .ident⟩
    ⟨false, .bool, .mt, .quasi⟩ true = true := by decide

/-- the order of the tests is observable: with only the first operand in another domain the traditional
    reachability factories meet the shape of the relation before the first operand's domain -/
example : precheck .REACHABLE_TRAD_NOFS_BWD ⟨false, .bool, .mt, .fully⟩ ⟨false, .bool, .mt, .fully⟩
    ⟨false, .bool, .mt, .fully⟩ .firstOnly = some .TYPE_MISMATCH ∧
    precheck .REACHABLE_TRAD_NOFS_BWD ⟨false, .bool, .mt, .fully⟩ ⟨false, .bool, .mt, .fully⟩
    ⟨false, .bool, .mt, .fully⟩ .split = some .DOMAIN_MISMATCH := by decide

/-- C16: the constructors report DOMAIN_MISMATCH only when the forests really live in different domains,
    and raise no code other than DOMAIN_MISMATCH, TYPE_MISMATCH and NOT_IMPLEMENTED (in particular, no
    outcome of the table is a crash). -/
theorem codes_documented (ha : ka.legal = true) (hb : kb.legal = true) (hc : kc.legal = true)
    (e : ErrCode) (h : precheck op ka kb kc dp = some e) :
    (e = .DOMAIN_MISMATCH → dp.allSame = false) ∧
    (e = .DOMAIN_MISMATCH ∨ e = .TYPE_MISMATCH ∨ e = .NOT_IMPLEMENTED) := by
  have g := row_good op ka kb kc dp ha hb hc
  rw [h] at g
  cases e <;> simp [goodCore] at g <;> simp [g]

example : precheck .COPY ⟨false, .int, .mt, .fully⟩ ⟨false, .int, .mt, .fully⟩ ⟨true, .int, .mt, .ident⟩ .split
    = some .TYPE_MISMATCH := by decide

/-- C16: a call whose ONLY defect is that the forests belong to different domains — however they are
    spread — is reported as DOMAIN_MISMATCH (not as some other code, and not accepted). -/
theorem domain_only (ha : ka.legal = true) (hb : kb.legal = true) (hc : kc.legal = true)
    (h2 : 2 ≤ op.forests) (h : compatible op ka kb kc true) (hd : dp.allSame = false) :
    precheck op ka kb kc dp = some .DOMAIN_MISMATCH := by
  have g := row_good op ka kb kc dp ha hb hc
  unfold compatible at h
  rw [h, hd] at g
  cases hp : precheck op ka kb kc dp with
  | none => rw [hp] at g; simp [goodCore, h2] at g
  | some e => rw [hp] at g; cases e <;> simp [goodCore, h2] at g <;> rfl

example : precheck .DIVIDE ⟨true, .real, .evt, .ident⟩ ⟨true, .real, .evt, .ident⟩ ⟨true, .real, .evt, .ident⟩ .split
    = some .DOMAIN_MISMATCH := by decide

end table

section values

/-- C16: the documented range of integer terminals (`fitsInt`, the oracle of the `fit` records) is exactly
    the range on which the REGENERATED encoder of terminal.h succeeds: a value outside raises
    VALUE_OVERFLOW (the only `throw` of `getIntegerHandle`), a value inside is encoded. -/
theorem value_overflow_documented (v : BitVec 64) :
    (fitsInt v.toInt = false → Gen.Terminal.encInt v = .error ()) ∧
    (fitsInt v.toInt = true → ∃ h, Gen.Terminal.encInt v = .ok h) := by
  have hiff : fitsInt v.toInt = true ↔ C19.inRange v := by
    simp [fitsInt, C19.inRange]
  constructor
  · intro h
    exact C19.int_overflow (fun hr => by rw [hiff.2 hr] at h; cases h)
  · intro h
    have := C19.int_roundtrip (hiff.1 h)
    cases he : Gen.Terminal.encInt v with
    | ok x => exact ⟨x, rfl⟩
    | error u => rw [he] at this; cases this

example : fitsInt 1073741823 = true ∧ fitsInt 1073741824 = false ∧ fitsInt (-1073741824) = true ∧
    fitsInt (-1073741825) = false := by decide

end values

section store
open Dump

/-- C16 (any depth): whatever an aborted operation leaves behind in the node store — nodes with fresh
    handles, referenced by nobody — a handle obtained before still unfolds to the same tree. -/
theorem insert_monotone {D D' : Dump α} (zero : α) (hs : D.storeOK = true)
    (hd : D'.distinctOK = true) (hsub : ∀ n ∈ D, n ∈ D') (f : Nat) (c : Child α)
    (v : D.childOK f c = true) : D'.unfold zero f c = D.unfold zero f c :=
  unfold_of_subset zero hs hd hsub f c v

example :
    let D : Dump Nat := [⟨1, 1, [.tm 0, .tm 1]⟩, ⟨2, 2, [.nd 1, .tm 0, .tm 1]⟩]
    let D' : Dump Nat := ⟨7, 2, [.tm 5, .nd 1, .tm 0]⟩ :: D ++ [⟨9, 1, [.tm 2, .tm 2]⟩]
    D'.unfold 0 2 (.nd 2) = D.unfold 0 2 (.nd 2) ∧ D.unfold 0 2 (.nd 2) ≠ .leaf 0 := by decide

/-- C16: after an error every previously obtained edge still denotes the same function (evaluation of the
    handle in the grown store equals evaluation in the old store, at every assignment), and stays in
    canonical form; hence two old edges are still equal iff they denote the same function. -/
theorem error_keeps_state (S : Shape) (zero : α) {D D' : Dump α} (roots : List (Child α))
    (hchk : Dump.check S zero D roots = true)
    (hd : D'.distinctOK = true) (hsub : ∀ n ∈ D, n ∈ D') :
    ∀ r ∈ roots,
      D'.unfold zero S.top r = D.unfold zero S.top r ∧
      (∀ a, evalChild S zero D' r a = evalChild S zero D r a) ∧
      DD.Red S zero S.top none (D'.unfold zero S.top r) = true := by
  intro r hr
  have hred := check_sound S zero D roots hchk r hr
  simp only [check, Bool.and_eq_true] at hchk
  obtain ⟨⟨hs, _⟩, hroots⟩ := hchk
  have hv : D.childOK S.top r = true := by
    have := List.all_eq_true.1 hroots r hr
    simp only [rootOK, Bool.and_eq_true] at this
    exact this.1
  have hu := insert_monotone zero hs hd hsub S.top r hv
  refine ⟨hu, ?_, ?_⟩
  · intro a; simp only [evalChild, hu]
  · rw [hu]; exact hred

example :
    let S : Shape := { top := 2, size := fun p => if p = 2 then 3 else 2, mode := fun _ => .red }
    let D : Dump Nat := [⟨1, 1, [.tm 0, .tm 1]⟩, ⟨2, 2, [.nd 1, .tm 0, .tm 1]⟩]
    Dump.check S 0 D [.nd 2, .nd 1] = true := by decide

end store

section applyEprops
open DD
variable {β γ ε : Type} [DecidableEq β] [DecidableEq γ]

/-- C16 (any depth): an operation whose scalar function fails somewhere either fails as a whole with an
    error that the scalar function really raises on some pair of values (the statement does not say
    which: `DD.applyE2_error` of `Ops/Arith.lean`, the same recursion, locates it at a valid
    assignment), or — if no failing pair is reached — returns exactly the result of the total
    operation; there is no third outcome (no partially built or wrong result). -/
theorem apply2E_sound (Sa Sb Sc : Shape) (za : α) (zb : β) (zc : γ) (f : α → β → Except ε γ)
    (k : Nat) (fi : Option Nat) (a : DD α) (b : DD β) :
    (∃ e, apply2E Sa Sb Sc za zb zc f k fi a b = .error e ∧ ∃ x y, f x y = .error e) ∨
    apply2E Sa Sb Sc za zb zc f k fi a b = .ok (apply2 Sa Sb Sc za zb zc (orElse zc f) k fi a b) := by
  cases h : apply2E Sa Sb Sc za zb zc f k fi a b with
  | error e => exact .inl ⟨e, rfl, apply2E_error_aux Sa Sb Sc za zb zc f k fi a b e h⟩
  | ok r => exact .inr (by rw [apply2E_ok_aux Sa Sb Sc za zb zc f k fi a b r h])

example :
    let S : Shape := { top := 2, size := fun _ => 2, mode := fun _ => .red }
    let dv : Int → Int → Except String Int := fun x y => if y = 0 then .error "DIVIDE_BY_ZERO" else .ok (x / y)
    let a : DD Int := .node 2 [.node 1 [.leaf 6, .leaf 8], .leaf 9]
    let b : DD Int := .node 2 [.leaf 2, .node 1 [.leaf 3, .leaf 0]]
    (match apply2E S S S 0 0 0 dv 2 none a b with | .error e => e | .ok _ => "ok") = "DIVIDE_BY_ZERO" := by
  decide

end applyEprops

/-
#print axioms (Lean 4.33, core only; `decide +kernel` adds no axiom):

'Meddly.Errors.precheck_total_partial' depends on axioms: [propext, Quot.sound]
'Meddly.Errors.precheck_sound_partial' depends on axioms: [propext, Classical.choice, Quot.sound]
'Meddly.Errors.lax_exact' depends on axioms: [propext, Quot.sound]
'Meddly.Errors.precheck_complete' depends on axioms: [propext, Quot.sound]
'Meddly.Errors.codes_documented' depends on axioms: [propext, Quot.sound]
'Meddly.Errors.domain_only' depends on axioms: [propext, Quot.sound]
'Meddly.Errors.insert_monotone' depends on axioms: [propext, Classical.choice, Quot.sound]
'Meddly.Errors.error_keeps_state' depends on axioms: [propext, Classical.choice, Quot.sound]
'Meddly.Errors.apply2E_sound' depends on axioms: [propext]
'Meddly.Errors.goodA_all' depends on axioms: [propext, Quot.sound]
-/
end Errors
end Meddly
