/-
  `dd_edge::evaluate` (dd_edge.cc) on decision-diagram trees (C03: "evaluation never depends on
  how the function is represented internally").

  The code has three walks (`evaluator_helper_mt`):
    * `set_eval`, `fully_rel_eval`: `while (!terminal(p)) p = down(p, m[level(p)])` — the walk
      *jumps* to the level of the node it reached, skipped levels are never looked at
      (`walkJump`);
    * `ident_rel_eval`: variables K, K-1, …, 1; at the unprimed level follow the node if it is
      there; at the primed level follow the node if it is there, otherwise the function is 0
      unless `to = from` (`walkIdent`); early exit as soon as the transparent terminal is reached.
  `DD.eval` — the denotation used by every theorem of the model — reads a tree position by
  position.  The theorems below show the walks compute exactly `DD.eval` (for the reduction rules
  they are used with), so evaluation is a function of the denotation alone.

  Edge-valued forests (EV+, EV*): the same walks accumulate edge values (`EOP::accumulateOp`);
  the tree model abstracts an EV forest as the tree of its values, so that accumulation is not
  modelled here (it is compared with the dump by the acceptor's `evalEV`).
-/
import MeddlyModel.Core.DD
import MeddlyModel.Core.Canon
import MeddlyModel.Ops.Apply
import MeddlyModel.Ops.ApplyProofs

namespace Meddly
namespace EvalWalk
open DD

set_option linter.unusedSectionVars false

variable {α : Type} [DecidableEq α]

/-- `set_eval` / `fully_rel_eval`: follow the node's own level (fuel: number of positions). -/
def walkJump (zero : α) : Nat → DD α → Assign → α
  | _, .leaf v, _ => v
  | 0, .node _ _, _ => zero
  | f+1, .node p cs, a => walkJump zero f (cs.getD (a p) (.leaf zero)) a

/-- `ident_rel_eval` for `K` variables (positions `2K … 1`). -/
def walkIdent (zero : α) : Nat → DD α → Assign → α
  | 0, d, _ => leafVal zero d
  | K+1, d, a =>
    if d = .leaf zero then zero                                  -- `if (0==p) return;`
    else
      let d1 := if d.isNodeAt (2*K+2) then d.children.getD (a (2*K+2)) (.leaf zero) else d
      if d1 = .leaf zero then zero                               -- `if (0==p) return;`
      else if d1.isNodeAt (2*K+1) then
        walkIdent zero K (d1.children.getD (a (2*K+1)) (.leaf zero)) a
      else if a (2*K+1) ≠ a (2*K+2) then zero                    -- `m.to(-L) != m.from(-L)`: p = 0
      else walkIdent zero K d1 a

theorem walkJump_leaf (zero v : α) (f : Nat) (a : Assign) : walkJump zero f (.leaf v) a = v := by
  cases f <;> rfl

theorem getD_of_le {β : Type} {l : List β} {i : Nat} (d : β) (h : l.length ≤ i) : l.getD i d = d := by
  rw [List.getD_eq_getElem?_getD, List.getElem?_eq_none h]; rfl

/-- On a reduced tree the jumping walk, with any fuel ≥ the number of positions, computes the denotation
    (fully or quasi reduced forests: no position is read as an identity). -/
theorem walkJump_fuel_eq_eval (S : Shape) (zero : α) (hm : ∀ p, S.mode p ≠ .ident) (a : Assign) :
    ∀ (k : Nat) (fi : Option Nat) (d : DD α), Red S zero k fi d = true →
      ∀ f, k ≤ f → walkJump zero f d a = eval S zero k d a := by
  intro k
  induction k with
  | zero =>
    intro fi d h f _
    obtain ⟨v, rfl⟩ := (Red_zero_iff S zero fi d).mp h
    exact walkJump_leaf ..
  | succ k ih =>
    intro fi d h f hf
    obtain ⟨f', rfl⟩ : ∃ f', f = f'+1 := ⟨f-1, by omega⟩
    rcases storedAt_cases (k+1) d with ⟨cs, rfl⟩ | hd
    · obtain ⟨_, _, _, _, hch⟩ := (Red_succ_node S zero k fi cs).mp h
      rw [eval_succ_node]
      show walkJump zero f' (cs.getD (a (k+1)) (.leaf zero)) a = _
      by_cases hi : a (k+1) < cs.length
      · exact ih _ _ (hch _ hi) f' (by omega)
      · rw [getD_of_le _ (by omega), walkJump_leaf, eval_leaf_zero]
    · rw [eval_succ_skip S zero k a hd, if_neg (fun hh => hm (k+1) hh.1)]
      exact ih none d (Red_succ_skip S zero k fi hd h).2 (f'+1) (by omega)

/-- `set_eval` / `fully_rel_eval` compute the denotation (fully or quasi reduced forests: no
    position is read as an identity). -/
theorem walkJump_eq_eval (S : Shape) (zero : α) (hm : ∀ p, S.mode p ≠ .ident) (a : Assign) :
    ∀ (k : Nat) (fi : Option Nat) (d : DD α), Red S zero k fi d = true →
      walkJump zero k d a = eval S zero k d a :=
  fun k fi d h => walkJump_fuel_eq_eval S zero hm a k fi d h k (Nat.le_refl k)

/-- one step of the denotation, in the vocabulary of the walks -/
theorem eval_succ (S : Shape) (zero : α) (k : Nat) (d : DD α) (a : Assign) :
    eval S zero (k+1) d a =
      if d.isNodeAt (k+1) then eval S zero k (d.children.getD (a (k+1)) (.leaf zero)) a
      else if S.mode (k+1) = .ident ∧ a (k+1) ≠ a (k+2) then zero else eval S zero k d a := by
  rcases storedAt_cases (k+1) d with ⟨cs, rfl⟩ | hd
  · simp [eval_succ_node, isNodeAt, children]
  · rw [eval_succ_skip S zero k a hd, hd]; rfl

/-- `ident_rel_eval` computes the denotation of ANY tree of an identity-reduced relation forest
    (unprimed positions `2K+2` skipped as "don't care", primed positions `2K+1` as identity). -/
theorem walkIdent_eq_eval (S : Shape) (zero : α)
    (hu : ∀ K, S.mode (2*K+2) ≠ .ident) (hp : ∀ K, S.mode (2*K+1) = .ident) (a : Assign) :
    ∀ (K : Nat) (d : DD α), walkIdent zero K d a = eval S zero (2*K) d a := by
  intro K
  induction K with
  | zero => intro d; rw [walkIdent]; exact (eval_zero_eq_leafVal S zero d a).symm
  | succ K ih =>
    intro d
    -- below the unprimed position both sides continue with the same tree `d1`
    have e1 : ∀ x, eval S zero (2*K+2) x a = _ := fun x => eval_succ S zero (2*K+1) x a
    have e0 : ∀ x, eval S zero (2*K+1) x a = _ := fun x => eval_succ S zero (2*K) x a
    show walkIdent zero (K+1) d a = eval S zero (2*K+2) d a
    simp only [walkIdent, e1, hu K, false_and, if_false]
    by_cases hd : d = .leaf zero
    · subst hd; simp [isNodeAt, eval_leaf_zero]
    · rw [if_neg hd, ← apply_ite (fun x => eval S zero (2*K+1) x a)]
      generalize (if d.isNodeAt (2*K+2) then d.children.getD (a (2*K+2)) (.leaf zero) else d) = d1
      by_cases h1 : d1 = .leaf zero
      · subst h1; simp [eval_leaf_zero]
      · simp only [h1, if_false, e0, ih, hp K, true_and]

/-- `dd_edge::evaluate` as dispatched in dd_edge.cc: `ident_rel_eval` for identity-reduced
    relation forests, the jumping walk otherwise. -/
def evaluate (S : Shape) (zero : α) (identRel : Bool) (d : DD α) (a : Assign) : α :=
  if identRel then walkIdent zero (S.top / 2) d a else walkJump zero S.top d a

/-- **Evaluation never depends on the representation**: for every stored (reduced) tree of a fully
    or quasi reduced forest, and for every tree of an identity-reduced relation forest,
    `dd_edge::evaluate` returns the denotation `DD.eval` — the function of the assignment that all
    theorems of the model speak about — and nothing else about the tree. -/
theorem evalWalk_eq_den (S : Shape) (zero : α) (identRel : Bool)
    (hshape : if identRel then S.top % 2 = 0 ∧ (∀ K, S.mode (2*K+2) ≠ .ident) ∧ (∀ K, S.mode (2*K+1) = .ident)
              else ∀ p, S.mode p ≠ .ident)
    (d : DD α) (hr : Red S zero S.top none d = true) (a : Assign) :
    evaluate S zero identRel d a = eval S zero S.top d a := by
  unfold evaluate
  cases identRel with
  | false => exact walkJump_eq_eval S zero hshape a S.top none d hr
  | true =>
    obtain ⟨h2, hu, hp⟩ := hshape
    have : 2 * (S.top / 2) = S.top := by omega
    rw [if_pos rfl, walkIdent_eq_eval S zero hu hp a (S.top / 2) d, this]

/-- two edges that denote the same function evaluate identically, whatever their nodes look like -/
theorem evaluate_congr (S : Shape) (zero : α) (identRel : Bool)
    (hshape : if identRel then S.top % 2 = 0 ∧ (∀ K, S.mode (2*K+2) ≠ .ident) ∧ (∀ K, S.mode (2*K+1) = .ident)
              else ∀ p, S.mode p ≠ .ident)
    (d1 d2 : DD α) (h1 : Red S zero S.top none d1 = true) (h2 : Red S zero S.top none d2 = true)
    (a : Assign) (h : eval S zero S.top d1 a = eval S zero S.top d2 a) :
    evaluate S zero identRel d1 a = evaluate S zero identRel d2 a := by
  rw [evalWalk_eq_den S zero identRel hshape d1 h1, evalWalk_eq_den S zero identRel hshape d2 h2, h]

/-- non-vacuity: an identity-reduced relation over one variable of size 2; the tree `x' = x ↦ 3,
    (1 → 0) ↦ 9`: the skipped primed position below index 0 is read as identity -/
def SIx : Shape := { top := 2, size := fun _ => 2, mode := fun p => if p = 1 then .ident else .red }
def tIx : DD Nat := .node 2 [.leaf 3, .node 1 [.leaf 9, .leaf 3]]
example : Red SIx 0 2 none tIx = true := by decide +kernel
example : (List.range 4).map (fun i => evaluate SIx 0 true tIx (fun p => if p = 1 then i % 2 else i / 2))
    = [3, 0, 9, 3] := by decide +kernel
example : (List.range 4).map (fun i => eval SIx 0 2 tIx (fun p => if p = 1 then i % 2 else i / 2))
    = [3, 0, 9, 3] := by decide +kernel
/-- non-vacuity: a fully reduced set forest, positions of sizes 2 and 3; the walk jumps over position 2 -/
def SFx : Shape := { top := 2, size := fun p => if p = 2 then 3 else 2, mode := fun _ => .red }
def tFx : DD Nat := .node 1 [.leaf 4, .leaf 7]
example : Red SFx 0 2 none tFx = true := by decide +kernel
example : (List.range 6).map (fun i => evaluate SFx 0 false tFx (fun p => if p = 1 then i % 2 else i / 2))
    = [4, 7, 4, 7, 4, 7] := by decide +kernel

end EvalWalk
end Meddly

/- `#print axioms` on the theorems above (Lean 4.33.0): nothing beyond `propext`, `Classical.choice`, `Quot.sound`. -/
