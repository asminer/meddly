/-
  C09 — one-step image and vector–matrix products.

  Part 1 (`Img`): the relational definition of post- and pre-image on predicates
  over a `List`-enumerated finite state space, with the algebra the reachability
  proofs (C08) need: monotone in the set and in the relation, distributes over
  unions of sets and of relations, empty set / empty relation, pre = post of
  the converse.

  Part 2 (`DD`): a tree-level model `imageG` of `prepost_set_mtrel::_compute`
  (operations/prepost_sets.cc), generic in the three parameters of the template; the
  multi-terminal instantiations are treated here, the edge-valued one (`ev_prepost`, last
  row) in `Ops/EVImage.lean`, which reuses the lemmas on `relFold` and on the relation:
        accumulate `add`   combine `mul`                unreachable `u`
    mt_prepost    ∨          a ∧ r                         false
    mt_vectXmatr  +          a * r                         0
    mt_distance   DIST_MIN   r ∧ a ≥ 0 → a+1 | -1          -1
    ev_prepost    min        r ∧ a < ∞ → a+1 | ∞           ∞
  The set/vector operand lives in a set forest `Ss` (fully or quasi reduced), the
  relation/matrix in a relation forest `Sr` of ANY rule (fully / quasi /
  identity reduced: a skipped unprimed position 2k is expanded as redundant, a
  skipped primed position 2k-1 as redundant or as identity — `DD.cofactor`, the
  tree-level `rel_node::outgoing`), the result is rebuilt bottom-up through
  `mkNode` (`createReducedNode`) in the result forest `Sc`.  Per variable k the
  model takes, for every result index, the `add`-accumulation over the index of
  the operand of the recursive image of the operand's cofactor with the
  (unprimed, primed) cofactor of the relation — the loop nest of `_compute`
  (`FORWD`: C[j] += A[i]·B[i][j];  backward: C[i] += B[i][j]·A[j]).

  Main theorem `imageG_eval`: the denotation of the result at `y` is the
  `add`-fold, in lexicographic order, over all operand states `x` of
  `mul (A x) (R (x,y))` (`relFold`).  Instances:
    `imageDD_eval`  (boolean):  y ∈ result ⇔ ∃ x ∈ S, R(x,y)   [post] / R(y,x) [pre]
    `vmDD_eval`     (integer):  result y = Σ_x v x * M(x,y)      [VM]   / Σ_x M(y,x) * v x [MV]
    `distDD_eval`   (MT integer distances): 1 + min over the neighbours, or negative.
  `imageG_red` + `DD.canon` give `imageDD_unique`: ANY reduced tree in the result
  forest with that denotation is the tree computed by the model (this is how the
  level-skipping shortcuts and the compute table of the C++ code are covered: they
  cannot change a canonical result).
-/
import MeddlyModel.Ops.Apply
import MeddlyModel.Ops.ApplyProofs
import MeddlyModel.Ops.Arith

namespace Meddly

set_option linter.unusedSectionVars false

/-! ## Part 1: the relational definition on finite state spaces -/

namespace Img
variable {σ : Type}

/-- post-image: states with an incoming edge from a member of `S` -/
def post (univ : List σ) (S : σ → Bool) (R : σ → σ → Bool) : σ → Bool :=
  fun y => univ.any (fun x => S x && R x y)

/-- pre-image: states with an outgoing edge to a member of `S` -/
def pre (univ : List σ) (S : σ → Bool) (R : σ → σ → Bool) : σ → Bool :=
  fun x => univ.any (fun y => R x y && S y)

def union (S T : σ → Bool) : σ → Bool := fun x => S x || T x
def empty : σ → Bool := fun _ => false
def unionR (R Q : σ → σ → Bool) : σ → σ → Bool := fun x y => R x y || Q x y
def emptyR : σ → σ → Bool := fun _ _ => false
def converse (R : σ → σ → Bool) : σ → σ → Bool := fun x y => R y x

theorem post_iff (univ : List σ) (S : σ → Bool) (R : σ → σ → Bool) (y : σ) :
    post univ S R y = true ↔ ∃ x, x ∈ univ ∧ S x = true ∧ R x y = true := by
  simp only [post, List.any_eq_true, Bool.and_eq_true]

theorem pre_eq_post_converse (univ : List σ) (S : σ → Bool) (R : σ → σ → Bool) :
    pre univ S R = post univ S (converse R) := by
  funext x
  unfold pre post converse
  congr 1
  funext y
  exact Bool.and_comm _ _

theorem pre_iff (univ : List σ) (S : σ → Bool) (R : σ → σ → Bool) (x : σ) :
    pre univ S R x = true ↔ ∃ y, y ∈ univ ∧ S y = true ∧ R x y = true := by
  rw [pre_eq_post_converse, post_iff]; rfl

/-- monotone in the set (only members of the state space matter) -/
theorem post_mono (univ : List σ) (S T : σ → Bool) (R : σ → σ → Bool)
    (h : ∀ x, x ∈ univ → S x = true → T x = true) (y : σ) :
    post univ S R y = true → post univ T R y = true := by
  rw [post_iff, post_iff]
  rintro ⟨x, hx, h1, h2⟩
  exact ⟨x, hx, h x hx h1, h2⟩

theorem post_mono_rel (univ : List σ) (S : σ → Bool) (R Q : σ → σ → Bool)
    (h : ∀ x y, x ∈ univ → R x y = true → Q x y = true) (y : σ) :
    post univ S R y = true → post univ S Q y = true := by
  rw [post_iff, post_iff]
  rintro ⟨x, hx, h1, h2⟩
  exact ⟨x, hx, h1, h x y hx h2⟩

theorem any_or {β : Type} (l : List β) (f g : β → Bool) :
    l.any (fun x => f x || g x) = (l.any f || l.any g) := by
  induction l with
  | nil => rfl
  | cons a l ih =>
    rw [List.any_cons, List.any_cons, List.any_cons, ih, Bool.or_assoc, Bool.or_assoc,
      Bool.or_left_comm (g a)]

theorem post_union (univ : List σ) (S T : σ → Bool) (R : σ → σ → Bool) :
    post univ (union S T) R = union (post univ S R) (post univ T R) := by
  funext y
  unfold post union
  rw [← any_or]
  congr 1
  funext x
  exact Bool.and_or_distrib_right _ _ _

theorem post_unionR (univ : List σ) (S : σ → Bool) (R Q : σ → σ → Bool) :
    post univ S (unionR R Q) = union (post univ S R) (post univ S Q) := by
  funext y
  unfold post union unionR
  rw [← any_or]
  congr 1
  funext x
  exact Bool.and_or_distrib_left _ _ _

theorem post_empty (univ : List σ) (R : σ → σ → Bool) : post univ empty R = empty :=
  funext fun _ => List.any_eq_false.mpr fun _ _ => Bool.false_ne_true

theorem post_emptyR (univ : List σ) (S : σ → Bool) : post univ S emptyR = empty :=
  funext fun _ => List.any_eq_false.mpr fun x _ => by
    show ¬ (S x && false) = true
    rw [Bool.and_false]; exact Bool.false_ne_true

theorem pre_mono (univ : List σ) (S T : σ → Bool) (R : σ → σ → Bool)
    (h : ∀ x, x ∈ univ → S x = true → T x = true) (y : σ) :
    pre univ S R y = true → pre univ T R y = true := by
  rw [pre_eq_post_converse, pre_eq_post_converse]; exact post_mono univ S T _ h y

theorem pre_union (univ : List σ) (S T : σ → Bool) (R : σ → σ → Bool) :
    pre univ (union S T) R = union (pre univ S R) (pre univ T R) := by
  rw [pre_eq_post_converse, pre_eq_post_converse, pre_eq_post_converse]; exact post_union univ S T _

theorem pre_unionR (univ : List σ) (S : σ → Bool) (R Q : σ → σ → Bool) :
    pre univ S (unionR R Q) = union (pre univ S R) (pre univ S Q) := by
  rw [pre_eq_post_converse, pre_eq_post_converse, pre_eq_post_converse]
  exact post_unionR univ S (converse R) (converse Q)

theorem pre_empty (univ : List σ) (R : σ → σ → Bool) : pre univ empty R = empty := by
  rw [pre_eq_post_converse]; exact post_empty univ _

theorem pre_emptyR (univ : List σ) (S : σ → Bool) : pre univ S emptyR = empty := by
  rw [pre_eq_post_converse]; exact post_emptyR univ S

/-- a set closed under `post` absorbs the image of every subset (the step of the least-fixed-point
    argument of C08) -/
theorem post_closed (univ : List σ) (S I : σ → Bool) (R : σ → σ → Bool)
    (hS : ∀ x, x ∈ univ → S x = true → I x = true)
    (hI : ∀ y, post univ I R y = true → I y = true) (y : σ) :
    post univ S R y = true → I y = true :=
  fun h => hI y (post_mono univ S I R hS y h)

end Img

/-! ## Part 2: the tree-level model -/

namespace DD
variable {α β γ : Type} [DecidableEq α] [DecidableEq β] [DecidableEq γ]

/-- The `add`-accumulation of a list of result trees, starting from "unreachable"
    (`setAllUnreachable` followed by the `addToCi` calls for one result index). -/
def accum (Sc : Shape) (zc : γ) (add : γ → γ → γ) (u : γ) (k : Nat) (l : List (DD γ)) : DD γ :=
  l.foldl (fun acc d => apply2 Sc Sc Sc zc zc zc add k none acc d) (.leaf u)

/-- `prepost_set_mtrel::_compute` on trees, read from variable `k` downwards.
    `fwd = true`: post-image / vector–matrix; `fwd = false`: pre-image / matrix–vector.
    Position `2k` of the relation is the unprimed, position `2k-1` the primed level of variable `k`. -/
def imageG (Ss Sr Sc : Shape) (za : α) (zb : β) (zc : γ) (add : γ → γ → γ) (mul : α → β → γ) (u : γ)
    (fwd : Bool) : Nat → DD α → DD β → DD γ
  | 0, a, b => .leaf (mul (leafVal za a) (leafVal zb b))
  | k+1, a, b =>
    mkNode Sc zc (k+1) none
      ((List.range (Sc.size (k+1))).map fun res =>
        accum Sc zc add u k
          ((List.range (Ss.size (k+1))).map fun opd =>
            imageG Ss Sr Sc za zb zc add mul u fwd k
              (cofactor Ss za (k+1) none a opd)
              (cofactor Sr zb (2*k+1) (some (if fwd then opd else res))
                (cofactor Sr zb (2*k+2) none b (if fwd then opd else res))
                (if fwd then res else opd))))

/-- pairing of a "from" assignment `x` (unprimed, even positions) and a "to" assignment `y`
    (primed, odd positions) into an assignment of the relation forest -/
def pairA (x y : Assign) : Assign := fun q => if q % 2 = 0 then x (q / 2) else y ((q + 1) / 2)

/-- `fwd`: the operand state is the source of the edge; otherwise its target -/
def pairD (fwd : Bool) (opd res : Assign) : Assign := if fwd then pairA opd res else pairA res opd

/-- The specification: `add`-fold, in lexicographic order (variable `k` outermost), of `g` over
    all assignments of the variables `k..1`; the variables above `k` are taken from `x`. -/
def relFold (add : γ → γ → γ) (u : γ) (size : Nat → Nat) : Nat → (Assign → γ) → Assign → γ
  | 0, g, x => g x
  | k+1, g, x =>
    (List.range (size (k+1))).foldl
      (fun acc i => add acc (relFold add u size k g (Assign.upd x (k+1) i))) u

/-- Hypotheses on the three forests: set forests have no identity-reduced positions, the
    unprimed positions of the relation forest are not identity-reduced, same variables. -/
structure ImgShapes (Ss Sr Sc : Shape) : Prop where
  set_noident : ∀ p, Ss.mode p ≠ .ident
  res_noident : ∀ p, Sc.mode p ≠ .ident
  rel_even : ∀ p, Sr.mode (2*p) ≠ .ident
  top_s : Ss.top = Sc.top
  top_r : Sr.top = 2 * Sc.top
  size_s : ∀ p, Ss.size p = Sc.size p

/-- validity in the set forest, read with the top of the result forest -/
theorem ImgShapes.valid_iff {Ss Sr Sc : Shape} (h : ImgShapes Ss Sr Sc) (x : Assign) :
    Assign.Valid Ss x ↔ ∀ p, 1 ≤ p → p ≤ Sc.top → x p < Ss.size p := by
  rw [← h.top_s]; rfl

section
variable (fwd : Bool) (x y : Assign) (p : Nat)

theorem pairA_even : pairA x y (2*p) = x p := by
  unfold pairA
  rw [if_pos (Nat.mul_mod_right 2 p), Nat.mul_div_cancel_left p (by decide)]

theorem pairA_odd : pairA x y (2*p+1) = y (p+1) := by
  unfold pairA
  have h1 : (2*p+1) % 2 = 1 := Nat.mul_add_mod 2 p 1
  rw [if_neg (by rw [h1]; decide), show 2*p+1+1 = 2*(p+1) from rfl,
    Nat.mul_div_cancel_left (p+1) (by decide)]

theorem pairD_even : pairD fwd x y (2*p) = if fwd then x p else y p := by
  cases fwd <;> apply pairA_even

theorem pairD_odd : pairD fwd x y (2*p+1) = if fwd then y (p+1) else x (p+1) := by
  cases fwd <;> apply pairA_odd

end

theorem foldl_ext_mem {δ ε : Type} (l : List ε) (f g : δ → ε → δ) (a : δ)
    (h : ∀ acc i, i ∈ l → f acc i = g acc i) : l.foldl f a = l.foldl g a := by
  induction l generalizing a with
  | nil => rfl
  | cons i l ih =>
    simp only [List.foldl_cons]
    rw [h a i (List.mem_cons_self ..)]
    exact ih _ (fun acc j hj => h acc j (List.mem_cons_of_mem _ hj))

/-- what every step establishes holds of the fold of a non-empty list (and of any fold whose
    start value has it) -/
theorem foldl_of_step {δ ε : Type} {P : δ → Prop} {f : δ → ε → δ} (hf : ∀ acc i, P (f acc i))
    (l : List ε) (a : δ) (ha : l = [] → P a) : P (l.foldl f a) := by
  induction l generalizing a with
  | nil => exact ha rfl
  | cons i l ih => exact ih _ (fun _ => hf a i)

theorem upd_self (x : Assign) (p : Nat) : Assign.upd x p (x p) = x := by
  funext q
  unfold Assign.upd
  split
  · next h => rw [h]
  · rfl

theorem eval_leaf_noident (S : Shape) (zero v : α) (h : ∀ p, S.mode p ≠ .ident) (k : Nat)
    (x : Assign) : eval S zero k (.leaf v) x = v := by
  induction k with
  | zero => rfl
  | succ k ih =>
    rw [eval_succ_skip S zero k x (d := .leaf v) rfl, if_neg fun hh : _ ∧ _ => h (k+1) hh.1]
    exact ih

section
variable {Sc : Shape} {zc u : γ} {add : γ → γ → γ} {k : Nat} {l : List (DD γ)}

theorem accum_Below_WFTree : Below k (accum Sc zc add u k l) ∧ WFTree (accum Sc zc add u k l) :=
  foldl_of_step (P := fun t => Below k t ∧ WFTree t)
    (fun acc d => apply2_Below_WFTree Sc Sc Sc zc zc zc add k none acc d) l (.leaf u)
    (fun _ => ⟨Below_leaf _ _, WFTree.leaf _⟩)

theorem accum_eval {y : Assign} (hk : k ≤ Sc.top) (hni : ∀ p, Sc.mode p ≠ .ident)
    (hy : Assign.Valid Sc y) :
    eval Sc zc k (accum Sc zc add u k l) y = l.foldl (fun v d => add v (eval Sc zc k d y)) u := by
  have hstep : ∀ (t d : DD γ), add (eval Sc zc k t y) (eval Sc zc k d y)
      = eval Sc zc k (apply2 Sc Sc Sc zc zc zc add k none t d) y := fun t d =>
    (apply2_eval Sc Sc Sc zc zc zc add k none t d y hk hy
      (fun h => absurd h (hni k)) (fun h => absurd h (hni k)) (fun h => absurd h (hni k))).symm
  unfold accum
  simpa only [eval_leaf_noident Sc zc u hni] using
    (List.foldl_hom (fun t => eval Sc zc k t y) (l := l) (init := .leaf u) hstep).symm

theorem accum_red (hSc : Sc.WF) (hni : ∀ p, Sc.mode p ≠ .ident) (hl : 0 < l.length)
    (fi : Option Nat) :
    Red Sc zc k fi (accum Sc zc add u k l) = true := by
  rw [Red_fi_irrel Sc zc k fi none _ (hni k)]
  exact foldl_of_step (P := fun t => Red Sc zc k none t = true)
    (fun acc d => apply2_red Sc Sc Sc zc zc zc add hSc k none acc d (fun _ => hni k)) l _
    (fun h => by subst h; cases hl)

end

section
variable (add : γ → γ → γ) (u : γ) (size : Nat → Nat) (k : Nat) (g : Assign → γ) (x : Assign)

theorem relFold_zero : relFold add u size 0 g x = g x := rfl

theorem relFold_succ :
    relFold add u size (k+1) g x =
      (List.range (size (k+1))).foldl
        (fun acc i => add acc (relFold add u size k g (Assign.upd x (k+1) i))) u := rfl

end

theorem relFold_congr {add : γ → γ → γ} {u : γ} {size : Nat → Nat} {k : Nat} {g1 g2 : Assign → γ}
    {x1 : Assign} (h : ∀ x, (∀ p, k < p → x p = x1 p) → g1 x = g2 x) :
    relFold add u size k g1 x1 = relFold add u size k g2 x1 := by
  induction k generalizing x1 with
  | zero => exact h x1 (fun _ _ => rfl)
  | succ k ih =>
    rw [relFold_succ, relFold_succ]
    exact foldl_ext_mem _ _ _ _ fun acc i _ =>
      congrArg (add acc) (ih fun x hx => h x (agree_upd hx).2)

/-- A value of the fold of a selective `add` other than the start value `u` is attained, at an
    assignment that is in range on `1..k` and agrees with the start assignment above `k`. -/
theorem relFold_sel {add : γ → γ → γ} (hsel : ∀ a b, add a b = a ∨ add a b = b) {u r : γ}
    {size : Nat → Nat} {k : Nat} {g : Assign → γ} {x0 : Assign}
    (hr : relFold add u size k g x0 = r) (hne : r ≠ u) :
    ∃ x, (∀ p, k < p → x p = x0 p) ∧ (∀ p, 1 ≤ p → p ≤ k → x p < size p) ∧ g x = r := by
  induction k generalizing x0 with
  | zero => exact ⟨x0, fun _ _ => rfl, fun p h1 h2 => by omega, hr⟩
  | succ k ih =>
    rw [relFold_succ] at hr
    rcases foldl_sel hsel (fun i => relFold add u size k g (Assign.upd x0 (k+1) i))
      (List.range (size (k+1))) u with e | ⟨i, hi, e⟩
    · exact absurd (hr.symm.trans e) hne
    · obtain ⟨x, hx1, hx2, hx3⟩ := ih (e.symm.trans hr)
      obtain ⟨hxi, hxa⟩ := agree_upd hx1
      refine ⟨x, hxa, fun p h1 h2 => ?_, hx3⟩
      by_cases hpk : p = k+1
      · rw [hpk, hxi]; exact List.mem_range.mp hi
      · exact hx2 p h1 (by omega)

theorem relFold_lowerBound {add : γ → γ → γ} {le : γ → γ → Prop} (h : LowerBound add le) (u : γ)
    (size : Nat → Nat) (k : Nat) (g : Assign → γ) (x : Assign)
    (hv : ∀ p, 1 ≤ p → p ≤ k → x p < size p) : le (relFold add u size k g x) (g x) := by
  induction k with
  | zero => exact h.refl _
  | succ k ih =>
    have hs := (foldl_lowerBound h (fun i => relFold add u size k g (Assign.upd x (k+1) i))
      (List.range (size (k+1))) u).2 (x (k+1))
      (List.mem_range.mpr (hv (k+1) (by omega) (Nat.le_refl _)))
    rw [upd_self] at hs
    rw [relFold_succ]
    exact h.trans _ _ _ hs (ih fun p h1 h2 => hv p h1 (by omega))

section image
variable (Ss Sr Sc : Shape) (za : α) (zb : β) (zc : γ) (add : γ → γ → γ) (mul : α → β → γ) (u : γ)
  (fwd : Bool)

theorem imageG_zero (a : DD α) (b : DD β) :
    imageG Ss Sr Sc za zb zc add mul u fwd 0 a b = .leaf (mul (leafVal za a) (leafVal zb b)) := rfl

theorem imageG_succ (k : Nat) (a : DD α) (b : DD β) :
    imageG Ss Sr Sc za zb zc add mul u fwd (k+1) a b =
      mkNode Sc zc (k+1) none
        ((List.range (Sc.size (k+1))).map fun res =>
          accum Sc zc add u k
            ((List.range (Ss.size (k+1))).map fun opd =>
              imageG Ss Sr Sc za zb zc add mul u fwd k
                (cofactor Ss za (k+1) none a opd)
                (cofactor Sr zb (2*k+1) (some (if fwd then opd else res))
                  (cofactor Sr zb (2*k+2) none b (if fwd then opd else res))
                  (if fwd then res else opd)))) := rfl

theorem imageG_Below_WFTree (k : Nat) (a : DD α) (b : DD β) :
    Below k (imageG Ss Sr Sc za zb zc add mul u fwd k a b) ∧
    WFTree (imageG Ss Sr Sc za zb zc add mul u fwd k a b) := by
  cases k with
  | zero => rw [imageG_zero]; exact ⟨Below_leaf _ _, WFTree.leaf _⟩
  | succ k =>
    rw [imageG_succ]
    exact mkNode_map_ok Sc zc k none _ _ (fun i => accum_Below_WFTree)

/-- two cofactor steps of the relation, unprimed position `2k+2`, then primed position `2k+1`,
    read at a pair of assignments: the operand's index at variable `k+1` selects the unprimed or
    the primed cofactor according to the direction -/
theorem rel_step (hev : ∀ p, Sr.mode (2*p) ≠ .ident) (k : Nat) (b : DD β) (x y : Assign) :
    eval Sr zb (2*(k+1)) b (pairD fwd x y)
      = eval Sr zb (2*k)
          (cofactor Sr zb (2*k+1) (some (if fwd then x (k+1) else y (k+1)))
            (cofactor Sr zb (2*k+2) none b (if fwd then x (k+1) else y (k+1)))
            (if fwd then y (k+1) else x (k+1))) (pairD fwd x y) := by
  have h2 : pairD fwd x y (2*k+1+1) = if fwd then x (k+1) else y (k+1) := pairD_even fwd x y (k+1)
  show eval Sr zb (2*k+1+1) b _ = _
  rw [cofactor_eval Sr zb (2*k+1) none b _ (fun h => absurd h (hev (k+1))),
    cofactor_eval Sr zb (2*k) (some _) _ _ (fun _ => rfl), h2, pairD_odd]

/-- MAIN THEOREM.  The denotation of `imageG` at a result assignment `y` is the `add`-fold over
    all operand assignments `x` (lexicographic order) of `mul (A x) (R (x,y))` — for every
    operand trees, every relation rule, forward and backward. -/
theorem imageG_eval (h : ImgShapes Ss Sr Sc) :
    ∀ (k : Nat) (a : DD α) (b : DD β) (y x0 : Assign), k ≤ Sc.top → Assign.Valid Sc y →
      eval Sc zc k (imageG Ss Sr Sc za zb zc add mul u fwd k a b) y
        = relFold add u Ss.size k
            (fun x => mul (eval Ss za k a x) (eval Sr zb (2*k) b (pairD fwd x y))) x0 := by
  intro k
  induction k with
  | zero =>
    intro a b y x0 _ _
    rw [imageG_zero, eval_zero_leaf, relFold_zero, eval_zero_eq_leafVal, eval_zero_eq_leafVal]
  | succ k ih =>
    intro a b y x0 hk hy
    rw [imageG_succ,
      mkNode_map_eval Sc zc k none _ _ y rfl (hy (k+1) (by omega) hk)
        (fun i => accum_Below_WFTree.1)
        (fun hm => absurd hm (h.res_noident (k+1))),
      accum_eval (by omega) h.res_noident hy, List.foldl_map, relFold_succ]
    apply foldl_ext_mem
    intro acc opd _
    congr 1
    rw [ih _ _ y (Assign.upd x0 (k+1) opd) (by omega) hy]
    apply relFold_congr
    intro x hx
    rw [cofactor_eval Ss za k none a x (fun hm => absurd hm (h.set_noident (k+1))),
      rel_step Sr zb fwd h.rel_even k b x y, (agree_upd hx).1]

theorem imageG_red (h : ImgShapes Ss Sr Sc) (hSc : Sc.WF) :
    ∀ (k : Nat) (a : DD α) (b : DD β), k ≤ Sc.top →
      Red Sc zc k none (imageG Ss Sr Sc za zb zc add mul u fwd k a b) = true := by
  intro k
  induction k with
  | zero => intro a b _; rw [imageG_zero]; rfl
  | succ k _ =>
    intro a b hk
    rw [imageG_succ]
    refine mkNode_map_red Sc zc hSc k none _ _ rfl (fun i _ => ?_) (fun _ => h.res_noident (k+1))
    apply accum_red hSc h.res_noident
    rw [length_map_range, h.size_s]
    exact Nat.lt_of_lt_of_le (by decide) (hSc.size_ge (k+1) (by omega) hk)

end image

/-! ### boolean sets: pre- and post-image -/

/-- `mt_prepost`: accumulate with union, combine with conjunction, unreachable = false -/
def imageDD (Ss Sr Sc : Shape) (fwd : Bool) (a b : DD Bool) : DD Bool :=
  imageG Ss Sr Sc false false false (fun p q => p || q) (fun p q => p && q) false fwd Sc.top a b

theorem or_sel (a b : Bool) : (a || b) = a ∨ (a || b) = b := by
  cases a
  · exact .inr rfl
  · exact .inl rfl

/-- ∨ lies below its arguments in the order "is implied by" -/
theorem or_lowerBound : LowerBound (fun p q : Bool => p || q) (fun a b => b = true → a = true) where
  refl := fun _ h => h
  trans := fun _ _ _ h1 h2 hc => h1 (h2 hc)
  left := fun _ _ h => Bool.or_eq_true_iff.mpr (.inl h)
  right := fun _ _ h => Bool.or_eq_true_iff.mpr (.inr h)

/-! ### integer vectors and matrices -/

/-- `mt_vectXmatr<int>`: accumulate with `+`, combine with `*`, "unreachable" = 0 -/
def vmDD (Ss Sr Sc : Shape) (fwd : Bool) (v m : DD Int) : DD Int :=
  imageG Ss Sr Sc 0 0 0 (fun p q => p + q) (fun p q => p * q) 0 fwd Sc.top v m

/-- all assignments of the variables `k..1` (those above `k` and position 0 taken from `x`), in
    lexicographic order, variable `k` most significant -/
def allAssign (size : Nat → Nat) : Nat → Assign → List Assign
  | 0, x => [x]
  | k+1, x => (List.range (size (k+1))).flatMap fun i => allAssign size k (Assign.upd x (k+1) i)

def isum : List Int → Int
  | [] => 0
  | a :: l => a + isum l

theorem isum_append (l1 l2 : List Int) : isum (l1 ++ l2) = isum l1 + isum l2 := by
  induction l1 with
  | nil => exact (Int.zero_add _).symm
  | cons a l ih =>
    show a + isum (l ++ l2) = a + isum l + isum l2
    rw [ih, Int.add_assoc]

theorem foldl_add_isum {ε : Type} (l : List ε) (f : ε → Int) (a : Int) :
    l.foldl (fun acc i => acc + f i) a = a + isum (l.map f) := by
  induction l generalizing a with
  | nil => exact (Int.add_zero a).symm
  | cons i l ih =>
    show l.foldl _ (a + f i) = a + (f i + isum (l.map f))
    rw [ih, Int.add_assoc]

theorem isum_flatMap {ε : Type} (l : List ε) (F : ε → List Assign) (g : Assign → Int) :
    isum ((l.flatMap F).map g) = isum (l.map fun i => isum ((F i).map g)) := by
  induction l with
  | nil => rfl
  | cons i l ih =>
    simp only [List.flatMap_cons, List.map_append, List.map_cons, isum_append, isum, ih]

theorem relFold_add_eq_sum (size : Nat → Nat) :
    ∀ (k : Nat) (g : Assign → Int) (x0 : Assign),
      relFold (fun p q => p + q) 0 size k g x0 = isum ((allAssign size k x0).map g) := by
  intro k
  induction k with
  | zero => intro g x0; exact (Int.add_zero (g x0)).symm
  | succ k ih =>
    intro g x0
    unfold relFold allAssign
    rw [foldl_add_isum, isum_flatMap, Int.zero_add]
    congr 1
    apply List.map_congr_left
    intro i _
    exact ih g _

theorem mem_allAssign (size : Nat → Nat) :
    ∀ (k : Nat) (x0 x : Assign),
      x ∈ allAssign size k x0 ↔
        (∀ p, (p = 0 ∨ k < p) → x p = x0 p) ∧ (∀ p, 1 ≤ p → p ≤ k → x p < size p) := by
  intro k
  induction k with
  | zero =>
    intro x0 x
    simp only [allAssign, List.mem_singleton]
    constructor
    · intro h; subst h; exact ⟨fun _ _ => rfl, fun p h1 h2 => by omega⟩
    · intro h; funext p; exact h.1 p (by omega)
  | succ k ih =>
    intro x0 x
    simp only [allAssign, List.mem_flatMap, List.mem_range, ih]
    constructor
    · rintro ⟨i, hi, h1, h2⟩
      refine ⟨fun p hp => ?_, fun p hp1 hp2 => ?_⟩
      · rw [h1 p (by omega), Assign.upd_other x0 i (by omega)]
      · by_cases hpk : p = k+1
        · rw [hpk, h1 (k+1) (.inr (Nat.lt_succ_self k)), Assign.upd_same]; exact hi
        · exact h2 p hp1 (by omega)
    · rintro ⟨h1, h2⟩
      refine ⟨x (k+1), h2 (k+1) (by omega) (Nat.le_refl _), fun p hp => ?_,
        fun p hp1 hp2 => h2 p hp1 (by omega)⟩
      by_cases hpk : p = k+1
      · rw [hpk, Assign.upd_same]
      · rw [Assign.upd_other x0 _ hpk]; exact h1 p (by omega)

/-! ### MT integer distance functions (negative = unreachable) -/

/-- `DIST_MIN` (arith_distmin.cc): negatives are "infinity"; two negatives give the smaller one -/
def distMin (a b : Int) : Int :=
  if a < 0 then (if b < 0 then (if a ≤ b then a else b) else b)
  else if b < 0 then a else (if a ≤ b then a else b)

/-- terminal case of `mt_distance`: no edge or unreachable operand → -1, otherwise `DIST_INC` -/
def distStep (a : Int) (r : Bool) : Int := if r = true ∧ 0 ≤ a then a + 1 else -1

/-- `mt_distance`: accumulate with `DIST_MIN`, unreachable = -1 (the transparent value 0 of the
    forests is an ordinary distance) -/
def distDD (Ss Sr Sc : Shape) (fwd : Bool) (d : DD Int) (b : DD Bool) : DD Int :=
  imageG Ss Sr Sc 0 false 0 distMin distStep (-1) fwd Sc.top d b

theorem distMin_sel (a b : Int) : distMin a b = a ∨ distMin a b = b := by
  unfold distMin
  split <;> split <;> (try split) <;> simp only [true_or, or_true]

/-- `DIST_MIN` lies below its arguments in the order "if the larger is reachable, so is the
    smaller, and at most as far" -/
theorem distMin_lowerBound : LowerBound distMin (fun a b => 0 ≤ b → 0 ≤ a ∧ a ≤ b) where
  refl := fun a h => ⟨h, Int.le_refl a⟩
  trans := fun a b c h1 h2 hc => ⟨(h1 (h2 hc).1).1, Int.le_trans (h1 (h2 hc).1).2 (h2 hc).2⟩
  left := fun a b => by unfold distMin; split <;> split <;> (try split) <;> omega
  right := fun a b => by unfold distMin; split <;> split <;> (try split) <;> omega

theorem distStep_nonneg (a : Int) (r : Bool) (h : 0 ≤ distStep a r) :
    r = true ∧ 0 ≤ a ∧ distStep a r = a + 1 := by
  unfold distStep at h ⊢
  split at h
  · next hc => rw [if_pos hc]; exact ⟨hc.1, hc.2, rfl⟩
  · exact absurd h (by decide)

theorem distStep_neg (a : Int) (r : Bool) (h : distStep a r < 0) : distStep a r = -1 := by
  unfold distStep at h ⊢
  split
  · next hc => rw [if_pos hc] at h; omega
  · rfl

end DD

namespace DD

/-! ### Concrete forests and trees (computed instances; used by the non-vacuity examples below) -/

namespace ImageExamples
open CanonExamples ApplyExamples

/-- fully reduced set forest, two variables of size 2 -/
def SetF : Shape where
  top := 2
  size := fun _ => 2
  mode := fun _ => .red

theorem SetF_WF : SetF.WF where
  size_ge := by intro p _ _; exact Nat.le_refl 2
  ident_below_red := by intro p h; cases h

/-- quasi reduced relation forest over the same two variables -/
def RelQ : Shape where
  top := 4
  size := fun _ => 2
  mode := fun _ => .none

theorem SB_even (p : Nat) : SB.mode (2*p) ≠ .ident := by
  intro (h : (if 2*p = 3 ∨ 2*p = 1 then Mode.ident else Mode.red) = Mode.ident)
  rw [if_neg (by omega)] at h; cases h

/-- set fully reduced, relation identity reduced, result fully reduced -/
theorem sh_FIF : ImgShapes SetF SB SetF :=
  ⟨fun _ h => (by cases h), fun _ h => (by cases h), SB_even, rfl, rfl, fun _ => rfl⟩
/-- set quasi reduced, relation identity reduced, result quasi reduced -/
theorem sh_QIQ : ImgShapes SC SB SC :=
  ⟨fun _ h => (by cases h), fun _ h => (by cases h), SB_even, rfl, rfl, fun _ => rfl⟩
/-- set fully reduced, relation fully reduced, result quasi reduced -/
theorem sh_FFQ : ImgShapes SetF SF SC :=
  ⟨fun _ h => (by cases h), fun _ h => (by cases h), fun _ h => (by cases h), rfl, rfl, fun _ => rfl⟩
/-- set quasi reduced, relation quasi reduced, result fully reduced -/
theorem sh_QQF : ImgShapes SC RelQ SetF :=
  ⟨fun _ h => (by cases h), fun _ h => (by cases h), fun _ h => (by cases h), rfl, rfl, fun _ => rfl⟩

/-- the set {x₂ = 0, x₁ = 1} -/
def s01 : DD Bool := .node 2 [.node 1 [.leaf false, .leaf true], .leaf false]
/-- the set {x₂ = 1, x₁ = 1} -/
def s11 : DD Bool := .node 2 [.leaf false, .node 1 [.leaf false, .leaf true]]
/-- the relation "flip x₂, keep x₁" in the identity-reduced forest: the terminals skip the
    unprimed position 2 (redundant) and the primed position 1 (identity) -/
def flip2 : DD Bool := .node 4 [.node 3 [.leaf false, .leaf true], .node 3 [.leaf true, .leaf false]]
/-- the identity relation in the identity-reduced forest: everything is skipped -/
def idRel : DD Bool := .leaf true
/-- "x₂ := 1 from anywhere, x₁ arbitrary → arbitrary" in the fully reduced forest: the unprimed
    position 4 and both positions of variable 1 are skipped as redundant -/
def set2 : DD Bool := .node 3 [.leaf false, .leaf true]

example : Red SB false 4 none flip2 = true := by decide +kernel
/-- post-image through an identity-skipped variable: {(0,1)} ↦ {(1,1)}; pre-image back -/
theorem post_s01_flip2 : imageDD SetF SB SetF true s01 flip2 = s11 := by decide +kernel
example : imageDD SetF SB SetF true s01 flip2 = s11 := post_s01_flip2
example : imageDD SetF SB SetF false s11 flip2 = s01 := by decide +kernel
/-- the identity relation (a terminal) maps every set to itself, rebuilt in the result forest -/
example : imageDD SetF SB SetF true s01 idRel = s01 := by decide +kernel
example : imageDD SC SB SC true (.node 2 [.node 1 [.leaf false, .leaf true], .leaf false]) idRel
    = .node 2 [.node 1 [.leaf false, .leaf true], .leaf false] := by decide +kernel
/-- redundant expansion of a fully reduced relation; quasi-reduced result keeps the redundant node -/
example : imageDD SetF SF SC true s01 set2
    = .node 2 [.leaf false, .node 1 [.leaf true, .leaf true]] := by decide +kernel
/-- ... and the pre-image of {x₂ = 1} under it is everything: a chain of redundant nodes in the
    quasi-reduced result, a single terminal in the fully reduced one -/
theorem pre_s11_set2 : imageDD SetF SF SC false s11 set2
    = .node 2 [.node 1 [.leaf true, .leaf true], .node 1 [.leaf true, .leaf true]] := by decide +kernel
example : imageDD SetF SF SC false s11 set2
    = .node 2 [.node 1 [.leaf true, .leaf true], .node 1 [.leaf true, .leaf true]] := pre_s11_set2
example : imageDD SetF SF SetF false s11 set2 = .leaf true := by decide +kernel
/-- empty set, empty relation -/
example : imageDD SetF SB SetF true (.leaf false) flip2 = .leaf false := by decide +kernel
example : imageDD SetF SB SetF true s01 (.leaf false) = .leaf false := by decide +kernel

/-- vector (3, 5 | 0, 0) over (x₂, x₁), matrix "flip x₂ with weight 2, keep x₁" (identity reduced):
    v·M = (0, 0 | 6, 10),  M·v = (0, 0 | 6, 10) transposed roles -/
def vec : DD Int := .node 2 [.node 1 [.leaf 3, .leaf 5], .leaf 0]
def mat : DD Int := .node 4 [.node 3 [.leaf 0, .leaf 2], .node 3 [.leaf 2, .leaf 0]]
example : vmDD SetF SB SetF true vec mat = .node 2 [.leaf 0, .node 1 [.leaf 6, .leaf 10]] := by decide +kernel
example : vmDD SetF SB SetF false vec mat = .node 2 [.leaf 0, .node 1 [.leaf 6, .leaf 10]] := by decide +kernel
/-- a fully reduced all-ones matrix over variable 1 sums the entries: (3+5) everywhere below x₂' = 1 -/
example : vmDD SetF SF SetF true vec (.node 3 [.leaf 0, .leaf 1])
    = .node 2 [.leaf 0, .leaf 8] := by decide +kernel

/-- distances (x₂,x₁): (0,0) ↦ 4, (0,1) ↦ 0, x₂ = 1 unreachable; one step of `flip2` -/
def dist0 : DD Int := .node 2 [.node 1 [.leaf 4, .leaf 0], .leaf (-1)]
example : distDD SetF SB SetF true dist0 flip2 = .node 2 [.leaf (-1), .node 1 [.leaf 5, .leaf 1]] := by decide +kernel
/-- all-pairs step on x₁ (fully reduced relation, skipped): minimum 0+1 everywhere below x₂' = 1 -/
example : distDD SetF SF SetF true dist0 set2 = .node 2 [.leaf (-1), .leaf 1] := by decide +kernel

end ImageExamples

end DD

namespace DD
open CanonExamples ApplyExamples ImageExamples

/-- C09 (sets).  For every set tree `a` (fully or quasi reduced forest), every relation tree `b`
    of ANY reduction rule and every result forest, the tree computed by the model of
    `prepost_set_mtrel<mt_prepost>` contains `y` iff some member `x` of the set has an edge
    `x → y` (`fwd`, POST_IMAGE) resp. `y → x` (`¬fwd`, PRE_IMAGE): the relational definition. -/
theorem imageDD_eval (Ss Sr Sc : Shape) (h : ImgShapes Ss Sr Sc) (fwd : Bool) (a b : DD Bool)
    (y : Assign) (hy : Assign.Valid Sc y) :
    eval Sc false Sc.top (imageDD Ss Sr Sc fwd a b) y = true ↔
      ∃ x, Assign.Valid Ss x ∧ eval Ss false Ss.top a x = true ∧
           eval Sr false Sr.top b (pairD fwd x y) = true := by
  unfold imageDD
  rw [h.top_s, h.top_r]
  constructor
  · intro hh
    rw [imageG_eval Ss Sr Sc false false false _ _ false fwd h Sc.top a b y y (Nat.le_refl _) hy] at hh
    obtain ⟨x, _, hx2, hx3⟩ := relFold_sel or_sel hh nofun
    rw [Bool.and_eq_true] at hx3
    exact ⟨x, (h.valid_iff x).mpr hx2, hx3⟩
  · rintro ⟨x, hx1, hx2, hx3⟩
    rw [imageG_eval Ss Sr Sc false false false _ _ false fwd h Sc.top a b y x (Nat.le_refl _) hy]
    exact relFold_lowerBound or_lowerBound false Ss.size Sc.top _ x ((h.valid_iff x).mp hx1)
      (by rw [hx2, hx3]; rfl)

example (y : Assign) (hy : Assign.Valid SetF y) :   -- nobody but (0,1) is mapped to (1,1) by `flip2`
    eval SetF false 2 s11 y = true ↔
      ∃ x, Assign.Valid SetF x ∧ eval SetF false 2 s01 x = true ∧
           eval SB false 4 flip2 (pairD true x y) = true := by
  rw [← post_s01_flip2]
  exact imageDD_eval SetF SB SetF sh_FIF true s01 flip2 y hy

/-- POST_IMAGE: `y` is in the result iff some `x ∈ S` has an edge `(x, y)` (unprimed `x`, primed `y`). -/
theorem post_eval (Ss Sr Sc : Shape) (h : ImgShapes Ss Sr Sc) (a b : DD Bool)
    (y : Assign) (hy : Assign.Valid Sc y) :
    eval Sc false Sc.top (imageDD Ss Sr Sc true a b) y = true ↔
      ∃ x, Assign.Valid Ss x ∧ eval Ss false Ss.top a x = true ∧
           eval Sr false Sr.top b (pairA x y) = true :=
  imageDD_eval Ss Sr Sc h true a b y hy

example (y : Assign) (hy : Assign.Valid SC y) :   -- quasi-reduced set and result, identity-reduced relation
    eval SC false 2 (.node 2 [.leaf false, .node 1 [.leaf false, .leaf true]]) y = true ↔
      ∃ x, Assign.Valid SC x ∧
           eval SC false 2 (.node 2 [.node 1 [.leaf false, .leaf true], .leaf false]) x = true ∧
           eval SB false 4 flip2 (pairA x y) = true := by
  have h := post_eval SC SB SC sh_QIQ (.node 2 [.node 1 [.leaf false, .leaf true], .leaf false]) flip2 y hy
  have e : imageDD SC SB SC true (.node 2 [.node 1 [.leaf false, .leaf true], .leaf false]) flip2
      = .node 2 [.leaf false, .node 1 [.leaf false, .leaf true]] := by decide +kernel
  rw [e] at h
  exact h

/-- PRE_IMAGE: `y` is in the result iff it has an edge `(y, x)` to some `x ∈ S`. -/
theorem pre_eval (Ss Sr Sc : Shape) (h : ImgShapes Ss Sr Sc) (a b : DD Bool)
    (y : Assign) (hy : Assign.Valid Sc y) :
    eval Sc false Sc.top (imageDD Ss Sr Sc false a b) y = true ↔
      ∃ x, Assign.Valid Ss x ∧ eval Ss false Ss.top a x = true ∧
           eval Sr false Sr.top b (pairA y x) = true :=
  imageDD_eval Ss Sr Sc h false a b y hy

example (y : Assign) (hy : Assign.Valid SC y) :   -- fully reduced operands, quasi-reduced result: "everything"
    eval SC false 2 (.node 2 [.node 1 [.leaf true, .leaf true], .node 1 [.leaf true, .leaf true]]) y = true ↔
      ∃ x, Assign.Valid SetF x ∧ eval SetF false 2 s11 x = true ∧
           eval SF false 4 set2 (pairA y x) = true := by
  rw [← pre_s11_set2]
  exact pre_eval SetF SF SC sh_FFQ s11 set2 y hy

/-- The image computed by the model is in reduced form for the result forest (it is a legal,
    canonical edge of that forest whatever the rules of the operand forests). -/
theorem imageDD_red (Ss Sr Sc : Shape) (h : ImgShapes Ss Sr Sc) (hSc : Sc.WF) (fwd : Bool)
    (a b : DD Bool) : Red Sc false Sc.top none (imageDD Ss Sr Sc fwd a b) = true :=
  imageG_red Ss Sr Sc false false false _ _ false fwd h hSc Sc.top a b (Nat.le_refl _)

example : Red SC false 2 none (imageDD SetF SF SC true s01 set2) = true :=
  imageDD_red SetF SF SC sh_FFQ SC_WF true s01 set2
example : Red SC false 2 none (.node 2 [.leaf false, .node 1 [.leaf true, .leaf true]]) = true := by decide +kernel

/-- Uniqueness: ANY reduced edge of the result forest that denotes the relational image is the
    tree of the model — shortcuts over skipped levels, the compute table and the order of the
    unions in the C++ code cannot produce anything else without breaking canonicity or the
    relational definition. -/
theorem imageDD_unique (Ss Sr Sc : Shape) (h : ImgShapes Ss Sr Sc) (hSc : Sc.WF) (fwd : Bool)
    (a b r : DD Bool) (hr : Red Sc false Sc.top none r = true)
    (hd : ∀ y, Assign.Valid Sc y →
      (eval Sc false Sc.top r y = true ↔
        ∃ x, Assign.Valid Ss x ∧ eval Ss false Ss.top a x = true ∧
             eval Sr false Sr.top b (pairD fwd x y) = true)) :
    r = imageDD Ss Sr Sc fwd a b := by
  apply (canon Sc false hSc r _ hr (imageDD_red Ss Sr Sc h hSc fwd a b)).mp
  intro y hy
  exact Bool.eq_iff_iff.mpr ((hd y hy).trans (imageDD_eval Ss Sr Sc h fwd a b y hy).symm)

example : (.node 2 [.leaf false, .node 1 [.leaf true, .leaf true]] : DD Bool)
    = imageDD SetF SF SC true s01 set2 := by decide +kernel
/-- a tree with the right denotation that is NOT reduced (skips a level in the quasi-reduced forest) is
    not the model's result: the hypothesis `Red` of `imageDD_unique` is necessary -/
example : (.node 2 [.leaf false, .leaf true] : DD Bool) ≠ imageDD SetF SF SC true s01 set2 := by decide +kernel

/-- Uniqueness for every instantiation (sets, vectors, distances): a reduced edge of the result
    forest whose value at every `y` is the specified fold is the tree computed by the model. -/
theorem imageG_unique {α β γ : Type} [DecidableEq α] [DecidableEq β] [DecidableEq γ]
    (Ss Sr Sc : Shape) (za : α) (zb : β) (zc : γ) (add : γ → γ → γ) (mul : α → β → γ) (u : γ)
    (fwd : Bool) (h : ImgShapes Ss Sr Sc) (hSc : Sc.WF) (a : DD α) (b : DD β) (r : DD γ)
    (hr : Red Sc zc Sc.top none r = true)
    (hd : ∀ y, Assign.Valid Sc y →
      eval Sc zc Sc.top r y = relFold add u Ss.size Sc.top
        (fun x => mul (eval Ss za Sc.top a x) (eval Sr zb (2 * Sc.top) b (pairD fwd x y))) y) :
    r = imageG Ss Sr Sc za zb zc add mul u fwd Sc.top a b := by
  apply (canon Sc zc hSc r _ hr
    (imageG_red Ss Sr Sc za zb zc add mul u fwd h hSc Sc.top a b (Nat.le_refl _))).mp
  intro y hy
  rw [hd y hy, imageG_eval Ss Sr Sc za zb zc add mul u fwd h Sc.top a b y y (Nat.le_refl _) hy]

example : (.node 2 [.leaf 0, .node 1 [.leaf 6, .leaf 10]] : DD Int)
    = imageG SetF SB SetF 0 0 0 (fun p q => p + q) (fun p q => p * q) 0 true SetF.top vec mat := by decide +kernel

/-- C09 (vector–matrix products).  The tree computed by the model of
    `prepost_set_mtrel<mt_vectXmatr<int>>` denotes, at `y`, the sum over the shared index `x`
    (nested sums, variable `K` outermost) of `v x * M (x,y)` (`fwd`, VM_MULTIPLY) resp.
    `M (y,x) * v x` (`¬fwd`, MV_MULTIPLY) — for every vector tree, every matrix tree of any
    reduction rule, every result forest. -/
theorem vmDD_eval (Ss Sr Sc : Shape) (h : ImgShapes Ss Sr Sc) (fwd : Bool) (v m : DD Int)
    (y x0 : Assign) (hy : Assign.Valid Sc y) :
    eval Sc 0 Sc.top (vmDD Ss Sr Sc fwd v m) y
      = relFold (fun p q => p + q) 0 Ss.size Ss.top
          (fun x => eval Ss 0 Ss.top v x * eval Sr 0 Sr.top m (pairD fwd x y)) x0 := by
  unfold vmDD
  rw [imageG_eval Ss Sr Sc 0 0 0 _ _ 0 fwd h Sc.top v m y x0 (Nat.le_refl _) hy, h.top_s, h.top_r]

example : eval SetF 0 2 (vmDD SetF SB SetF true vec mat) (fun _ => 1) = 10 := by decide +kernel
example : relFold (fun p q => p + q) 0 SetF.size 2
    (fun x => eval SetF 0 2 vec x * eval SB 0 4 mat (pairD true x (fun _ => 1))) (fun _ => 1) = 10 := by decide +kernel

/-- The same as a sum over the explicit lexicographic enumeration of the index assignments
    (`mem_allAssign`: exactly the assignments in range). -/
theorem vmDD_eval_sum (Ss Sr Sc : Shape) (h : ImgShapes Ss Sr Sc) (fwd : Bool) (v m : DD Int)
    (y x0 : Assign) (hy : Assign.Valid Sc y) :
    eval Sc 0 Sc.top (vmDD Ss Sr Sc fwd v m) y
      = isum ((allAssign Ss.size Ss.top x0).map
          (fun x => eval Ss 0 Ss.top v x * eval Sr 0 Sr.top m (pairD fwd x y))) := by
  rw [vmDD_eval Ss Sr Sc h fwd v m y x0 hy, relFold_add_eq_sum]

example : (allAssign SetF.size 2 (fun _ => 0)).length = 4 := by decide +kernel
example : isum ((allAssign SetF.size 2 (fun _ => 1)).map
    (fun x => eval SetF 0 2 vec x * eval SB 0 4 mat (pairD true x (fun _ => 1)))) = 10 := by decide +kernel

/-- C09 (MT integer distances).  With `r` the value of the model of
    `prepost_set_mtrel<mt_distance>` at `y`: `r` is a lower bound of `d x + 1` over all reachable
    (`d x ≥ 0`) neighbours `x`, it is attained whenever it is non-negative, and it is `-1` when
    there is no reachable neighbour: one plus the minimum operand distance, or unreachable. -/
theorem distDD_eval (Ss Sr Sc : Shape) (h : ImgShapes Ss Sr Sc) (fwd : Bool) (d : DD Int)
    (b : DD Bool) (y : Assign) (hy : Assign.Valid Sc y) :
    (∀ x, Assign.Valid Ss x → 0 ≤ eval Ss 0 Ss.top d x →
        eval Sr false Sr.top b (pairD fwd x y) = true →
        0 ≤ eval Sc 0 Sc.top (distDD Ss Sr Sc fwd d b) y ∧
        eval Sc 0 Sc.top (distDD Ss Sr Sc fwd d b) y ≤ eval Ss 0 Ss.top d x + 1) ∧
    (0 ≤ eval Sc 0 Sc.top (distDD Ss Sr Sc fwd d b) y →
        ∃ x, Assign.Valid Ss x ∧ 0 ≤ eval Ss 0 Ss.top d x ∧
          eval Sr false Sr.top b (pairD fwd x y) = true ∧
          eval Sc 0 Sc.top (distDD Ss Sr Sc fwd d b) y = eval Ss 0 Ss.top d x + 1) ∧
    (eval Sc 0 Sc.top (distDD Ss Sr Sc fwd d b) y < 0 →
        eval Sc 0 Sc.top (distDD Ss Sr Sc fwd d b) y = -1) := by
  unfold distDD
  rw [h.top_s, h.top_r]
  have key := fun x0 => imageG_eval Ss Sr Sc (0:Int) false (0:Int) distMin distStep (-1) fwd h Sc.top d b y x0
    (Nat.le_refl _) hy
  refine ⟨?_, ?_, ?_⟩
  · intro x hx h0 hr
    have := relFold_lowerBound distMin_lowerBound (-1) Ss.size Sc.top
      (fun x => distStep (eval Ss 0 Sc.top d x) (eval Sr false (2 * Sc.top) b (pairD fwd x y))) x
      ((h.valid_iff x).mp hx)
    rw [← key x, hr, distStep, if_pos ⟨rfl, h0⟩] at this
    exact this (by omega)
  · intro h0
    obtain ⟨x, _, hx2, hx3⟩ := relFold_sel distMin_sel (key y).symm
      (fun e => by rw [e] at h0; exact absurd h0 (by decide))
    rw [← hx3] at h0 ⊢
    obtain ⟨hr, ha, hv⟩ := distStep_nonneg _ _ h0
    exact ⟨x, (h.valid_iff x).mpr hx2, ha, hr, hv⟩
  · intro hneg
    apply Decidable.byContradiction
    intro hne
    obtain ⟨x, _, _, e⟩ := relFold_sel distMin_sel (key y).symm hne
    rw [← e] at hneg hne
    exact hne (distStep_neg _ _ hneg)

example : eval SetF 0 2 (distDD SetF SB SetF true dist0 flip2) (fun _ => 1) = 1 := by decide +kernel   -- 0 + 1 via (0,1)
example : eval SetF 0 2 (distDD SetF SB SetF true dist0 flip2) (fun _ => 0) = -1 := by decide +kernel  -- no reachable neighbour
example : eval SetF 0 2 (distDD SetF SF SetF true dist0 set2) (fun p => if p = 2 then 1 else 0) = 1 := by decide +kernel

end DD

#print axioms Img.post_union
#print axioms Img.post_mono
#print axioms Img.pre_eq_post_converse
#print axioms DD.imageG_eval
#print axioms DD.imageG_red
#print axioms DD.imageDD_eval
#print axioms DD.post_eval
#print axioms DD.pre_eval
#print axioms DD.imageDD_red
#print axioms DD.imageDD_unique
#print axioms DD.imageG_unique
#print axioms DD.vmDD_eval
#print axioms DD.vmDD_eval_sum
#print axioms DD.mem_allAssign
#print axioms DD.distDD_eval

/- Output (Lean 4.33.0):
'Meddly.Img.post_union' depends on axioms: [Quot.sound]
'Meddly.Img.post_mono' depends on axioms: [propext, Quot.sound]
'Meddly.Img.pre_eq_post_converse' depends on axioms: [Quot.sound]
'Meddly.DD.imageG_eval' depends on axioms: [propext, Quot.sound]
'Meddly.DD.imageG_red' depends on axioms: [propext, Classical.choice, Quot.sound]
'Meddly.DD.imageDD_eval' depends on axioms: [propext, Quot.sound]
'Meddly.DD.post_eval' depends on axioms: [propext, Quot.sound]
'Meddly.DD.pre_eval' depends on axioms: [propext, Quot.sound]
'Meddly.DD.imageDD_red' depends on axioms: [propext, Classical.choice, Quot.sound]
'Meddly.DD.imageDD_unique' depends on axioms: [propext, Classical.choice, Quot.sound]
'Meddly.DD.imageG_unique' depends on axioms: [propext, Classical.choice, Quot.sound]
'Meddly.DD.vmDD_eval' depends on axioms: [propext, Quot.sound]
'Meddly.DD.vmDD_eval_sum' depends on axioms: [propext, Quot.sound]
'Meddly.DD.mem_allAssign' depends on axioms: [propext, Quot.sound]
'Meddly.DD.distDD_eval' depends on axioms: [propext, Classical.choice, Quot.sound]
-/

end Meddly
