/-
  C13 — variable reordering.

  MEDDLY reorders a forest by a *schedule of adjacent swaps*
  (`forest::reorderVariables` → `reordering_factory::create(policy)` →
  `swapAdjacentVariables(level)` repeatedly; src/reordering/*.h).  The eight
  heuristics differ only in WHICH adjacent inversion (w.r.t. the target order)
  they swap next.

  Part A (orders).  `Order = List Nat` (level ↦ variable, level 1 first),
  `swapAdj`, `inversions` w.r.t. a key (`var2level` of the target, as computed
  by the heuristics), schedules of adjacent inversions: every swap of an
  adjacent inversion removes exactly one inversion, an order without adjacent
  inversion IS the target, hence every heuristic that only swaps adjacent
  inversions ends at the target after exactly `inversions` swaps — whatever it
  picks.

  Part B (functions and trees).  `swapA k` exchanges the values of positions
  `k` and `k+1` of an assignment.  `swapAdjDD S S' zero k` is the adjacent swap
  on decision-diagram trees for forests without identity-reduced positions
  (fully-reduced and quasi-reduced multi-terminal SETS): nodes above `k+1` are
  rebuilt over their swapped children, the two levels `k+1, k` are rebuilt with
  `mkNode` (the model of `createReducedNode`) from the cofactors
  `d[i][j] ↦ [j][i]`, everything below `k` is left untouched.  This covers the
  three classes of nodes of `mtmdd_forest::swapAdjacentVariables`: upper nodes
  independent of the lower variable (they are only relabelled: `mkNode` at a
  `red` position eliminates the redundant new upper node), lower nodes
  (relabelled upwards: the rebuilt lower nodes are redundant), dependent upper
  nodes (rebuilt; the code overwrites them IN PLACE without looking for
  duplicates — `swap_canonical` is the semantic argument that none can arise).

  Part C ties A and B: the function OF THE VARIABLES denoted by a tree under an
  order (`varAssign`) is unchanged by every adjacent swap, hence by every
  schedule — inversions or not (the `lowest_memory` heuristic swaps
  tentatively and undoes).

  Relations (variable swap of four levels, identity-reduced skipping) and EV+
  edge values: `Ops/ReorderRel.lean`.  Here only the renaming `relSwapA` of the
  positions of a relation and its decomposition into four position swaps
  (`relSwap_four_level_swaps_partial`).
-/
import MeddlyModel.Core.DD
import MeddlyModel.Core.Canon
import MeddlyModel.Ops.Apply
import MeddlyModel.Ops.ApplyProofs

namespace Meddly


namespace Reorder

/-! ## Part A — orders, inversions, schedules -/

/-- level ↦ variable, level 1 first (`getVariableOrder` without the leading 0) -/
abbrev Order := List Nat

/-- exchange the entries at (0-based) indices `i` and `i+1`, i.e. the variables
    at levels `i+1` and `i+2` (`variable_order::exchange`) -/
def swapAdj : Nat → List Nat → List Nat
  | 0, x :: y :: r => y :: x :: r
  | i+1, x :: r => x :: swapAdj i r
  | _, l => l

/-- number of entries of `l` whose key is smaller than the key of `x` -/
def below (key : Nat → Nat) (x : Nat) (l : List Nat) : Nat :=
  (l.filter (fun y => decide (key y < key x))).length

/-- number of inversions of `l` w.r.t. `key` (pairs in the wrong order) -/
def inversions (key : Nat → Nat) : List Nat → Nat
  | [] => 0
  | x :: r => below key x r + inversions key r

/-- is there an inversion between indices `i` and `i+1`?  (the test
    `var2level[getVarByLevel(level)] > var2level[getVarByLevel(level+1)]` of the heuristics) -/
def adjInv (key : Nat → Nat) : List Nat → Nat → Bool
  | x :: y :: _, 0 => decide (key y < key x)
  | _ :: r, i+1 => adjInv key r i
  | _, _ => false

theorem swapAdj_perm : ∀ (i : Nat) (l : List Nat), (swapAdj i l).Perm l
  | 0, [] => List.Perm.refl _
  | 0, [_] => List.Perm.refl _
  | 0, x :: y :: r => List.Perm.swap x y r
  | _+1, [] => List.Perm.refl _
  | i+1, x :: r => List.Perm.cons x (swapAdj_perm i r)

theorem swapAdj_length (i : Nat) (l : List Nat) : (swapAdj i l).length = l.length :=
  (swapAdj_perm i l).length_eq

theorem below_cons (key : Nat → Nat) (x y : Nat) (l : List Nat) :
    below key x (y :: l) = (if key y < key x then 1 else 0) + below key x l := by
  unfold below
  rw [List.filter_cons]
  by_cases h : key y < key x
  · simp [h]; omega
  · simp [h]

theorem below_swapAdj (key : Nat → Nat) (x i : Nat) (l : List Nat) :
    below key x (swapAdj i l) = below key x l :=
  ((swapAdj_perm i l).filter _).length_eq

theorem swap_removes_one (key : Nat → Nat) :
    ∀ (i : Nat) (l : List Nat), adjInv key l i = true →
      inversions key (swapAdj i l) + 1 = inversions key l
  | 0, [], h => by cases h
  | 0, [_], h => by cases h
  | 0, x :: y :: r, h => by
    have hyx : key y < key x := of_decide_eq_true h
    simp only [swapAdj, inversions]
    rw [below_cons, below_cons, if_neg (Nat.lt_asymm hyx), if_pos hyx]
    omega
  | _+1, [], h => by cases h
  | i+1, x :: r, h => by
    have h' : adjInv key r i = true := by
      cases r with
      | nil => cases i <;> cases h
      | cons y r' => exact h
    simp only [swapAdj, inversions]
    rw [below_swapAdj key x i r]
    have := swap_removes_one key i r h'
    omega

theorem pairwise_of_no_adjInv (key : Nat → Nat) :
    ∀ (l : List Nat), (∀ i, adjInv key l i = false) → l.Pairwise (fun a b => key a ≤ key b)
  | [], _ => List.Pairwise.nil
  | [x], _ => List.pairwise_singleton _ _
  | x :: y :: r, h => by
    have h0 : key x ≤ key y := Nat.le_of_not_lt (of_decide_eq_false (h 0))
    have ih := pairwise_of_no_adjInv key (y :: r) (fun i => h (i+1))
    refine List.pairwise_cons.mpr ⟨fun b hb => ?_, ih⟩
    rcases List.mem_cons.mp hb with rfl | hb
    · exact h0
    · exact Nat.le_trans h0 ((List.pairwise_cons.mp ih).1 b hb)

theorem inversions_of_sorted (key : Nat → Nat) :
    ∀ (l : List Nat), l.Pairwise (fun a b => key a ≤ key b) → inversions key l = 0
  | [], _ => rfl
  | x :: r, hpw => by
    have ⟨hx, hr⟩ := List.pairwise_cons.mp hpw
    have hb : below key x r = 0 :=
      List.length_eq_zero_iff.mpr (List.filter_eq_nil_iff.mpr fun y hy =>
        by rw [decide_eq_true_eq]; exact Nat.not_lt_of_le (hx y hy))
    rw [inversions, hb, inversions_of_sorted key r hr]

/-- the key the heuristics compute from the target: `var2level[level2var[i]] = i` -/
def rank (target : Order) (v : Nat) : Nat := target.idxOf v

theorem target_sorted (target : Order) (hn : target.Nodup) :
    target.Pairwise (fun a b => rank target a ≤ rank target b) := by
  rw [List.pairwise_iff_getElem]
  intro i j hi hj hij
  unfold rank
  rw [hn.idxOf_getElem i hi, hn.idxOf_getElem j hj]
  omega

theorem rank_inj (target : Order) {a b : Nat} (ha : a ∈ target) (hb : b ∈ target)
    (h : rank target a = rank target b) : a = b := by
  unfold rank at h
  rw [← List.getElem_idxOf (List.idxOf_lt_length_of_mem ha),
    ← List.getElem_idxOf (List.idxOf_lt_length_of_mem hb)]
  congr 1

theorem no_adjInv_is_target (target o : Order) (hn : target.Nodup) (hp : o.Perm target)
    (h : ∀ i, adjInv (rank target) o i = false) : o = target := by
  apply List.Perm.eq_of_pairwise (le := fun a b => rank target a ≤ rank target b) _
    (pairwise_of_no_adjInv _ o h) (target_sorted target hn) hp
  intro a b ha hb h1 h2
  exact rank_inj target (hp.subset ha) hb (Nat.le_antisymm h1 h2)

/-- a schedule: the list of (0-based) indices swapped, in order -/
def applySchedule : List Nat → Order → Order
  | [], o => o
  | i :: is, o => applySchedule is (swapAdj i o)

/-- every swap of the schedule is an adjacent inversion at the time it is done -/
def ValidSchedule (key : Nat → Nat) : List Nat → Order → Prop
  | [], _ => True
  | i :: is, o => adjInv key o i = true ∧ ValidSchedule key is (swapAdj i o)

instance decValidSchedule (key : Nat → Nat) : ∀ (is : List Nat) (o : Order),
    Decidable (ValidSchedule key is o)
  | [], _ => isTrue trivial
  | i :: is, o =>
    match decEq (adjInv key o i) true, decValidSchedule key is (swapAdj i o) with
    | isTrue h1, isTrue h2 => isTrue ⟨h1, h2⟩
    | isFalse h1, _ => isFalse (fun h => h1 h.1)
    | _, isFalse h2 => isFalse (fun h => h2 h.2)

theorem applySchedule_perm : ∀ (is : List Nat) (o : Order), (applySchedule is o).Perm o
  | [], _ => List.Perm.refl _
  | i :: is, o => (applySchedule_perm is (swapAdj i o)).trans (swapAdj_perm i o)

/-- What every admissible swap step keeps, every schedule keeps.  `run` is the step iterated over
    the schedule, given by its two equations (`reorderDD`, and `reorderRel`, `reorderE` of
    `Ops/ReorderRel.lean`). -/
theorem schedule_invariant {β : Type} (step : Nat → Order → β → Order × β)
    (run : List Nat → Order → β → Order × β) (hnil : ∀ o x, run [] o x = (o, x))
    (hcons : ∀ i is o x, run (i :: is) o x = run is (step i o x).1 (step i o x).2)
    (hlen : ∀ i o x, (step i o x).1.length = o.length) (P : Order → β → Prop)
    (hP : ∀ i o x, i + 1 < o.length → P o x → P (step i o x).1 (step i o x).2) :
    ∀ (is : List Nat) (o : Order) (x : β), (∀ i, i ∈ is → i + 1 < o.length) → P o x →
      P (run is o x).1 (run is o x).2 := by
  intro is
  induction is with
  | nil => intro o x _ h; rw [hnil]; exact h
  | cons i is ih =>
    intro o x hi h
    rw [hcons]
    exact ih _ _ (fun j hj => by rw [hlen]; exact hi j (List.mem_cons_of_mem _ hj))
      (hP i o x (hi i List.mem_cons_self) h)

theorem schedule_length (key : Nat → Nat) :
    ∀ (is : List Nat) (o : Order), ValidSchedule key is o →
      inversions key (applySchedule is o) + is.length = inversions key o
  | [], o, _ => by simp [applySchedule]
  | i :: is, o, h => by
    have h1 := swap_removes_one key i o h.1
    have h2 := schedule_length key is (swapAdj i o) h.2
    simp only [applySchedule, List.length_cons]
    omega

/-- a heuristic: given the current order, which index to swap next (`none` = stop) -/
def run (pick : Order → Option Nat) : Nat → Order → Order
  | 0, o => o
  | n+1, o =>
    match pick o with
    | none => o
    | some i => run pick n (swapAdj i o)

theorem run_perm (pick : Order → Option Nat) : ∀ (n : Nat) (o : Order), (run pick n o).Perm o
  | 0, o => List.Perm.refl _
  | n+1, o => by
    unfold run
    cases pick o with
    | none => exact List.Perm.refl _
    | some i => exact (run_perm pick n (swapAdj i o)).trans (swapAdj_perm i o)

theorem run_no_adjInv (key : Nat → Nat) (pick : Order → Option Nat)
    (hsound : ∀ o i, pick o = some i → adjInv key o i = true)
    (hcomplete : ∀ o, pick o = none → ∀ i, adjInv key o i = false) :
    ∀ (n : Nat) (o : Order), inversions key o ≤ n → ∀ i, adjInv key (run pick n o) i = false
  | 0, o, hn, i => Bool.eq_false_iff.mpr fun h => by
    have := swap_removes_one key i o h
    omega
  | n+1, o, hn, i => by
    unfold run
    cases hp : pick o with
    | none => exact hcomplete o hp i
    | some j =>
      have h1 := swap_removes_one key j o (hsound o j hp)
      exact run_no_adjInv key pick hsound hcomplete n (swapAdj j o) (by omega) i

end Reorder

/-! ## Part B — the adjacent swap on functions and on trees -/

namespace DD
variable {α : Type} [DecidableEq α]

/-- exchange the values of positions `k` and `k+1` -/
def swapA (k : Nat) (a : Assign) : Assign :=
  fun p => if p = k then a (k+1) else if p = k+1 then a k else a p

/-- the function with the roles of positions `k` and `k+1` exchanged -/
def swapVars (k : Nat) (f : Assign → α) : Assign → α := fun a => f (swapA k a)

theorem swapA_lo (k : Nat) (a : Assign) : swapA k a k = a (k+1) := by simp [swapA]
theorem swapA_hi (k : Nat) (a : Assign) : swapA k a (k+1) = a k := by simp [swapA]
theorem swapA_other (k : Nat) (a : Assign) {p : Nat} (h1 : p ≠ k) (h2 : p ≠ k+1) :
    swapA k a p = a p := by simp [swapA, h1, h2]
theorem swapA_below (k : Nat) (a : Assign) {p : Nat} (h : p < k) : swapA k a p = a p :=
  swapA_other k a (Nat.ne_of_lt h) (Nat.ne_of_lt (Nat.lt_succ_of_lt h))
theorem swapA_above (k : Nat) (a : Assign) {p : Nat} (h : k + 1 < p) : swapA k a p = a p :=
  swapA_other k a (Nat.ne_of_gt (Nat.lt_of_succ_lt h)) (Nat.ne_of_gt h)
theorem swapA_swapA (k : Nat) (a : Assign) : swapA k (swapA k a) = a := by
  funext p
  by_cases h1 : p = k
  · subst h1; rw [swapA_lo, swapA_hi]
  · by_cases h2 : p = k+1
    · subst h2; rw [swapA_hi, swapA_lo]
    · rw [swapA_other k _ h1 h2, swapA_other k _ h1 h2]

/-- `S'` is `S` with the variables at positions `k` and `k+1` exchanged: same
    number of positions, same skipping modes, sizes of `k` and `k+1` exchanged. -/
structure SwapShape (S S' : Shape) (k : Nat) : Prop where
  top : S'.top = S.top
  mode : ∀ p, S'.mode p = S.mode p
  size_lo : S'.size k = S.size (k+1)
  size_hi : S'.size (k+1) = S.size k
  size_other : ∀ p, p ≠ k → p ≠ k+1 → S'.size p = S.size p

/-- no identity-reduced position: fully-reduced or quasi-reduced forests (all set forests) -/
def NoIdent (S : Shape) : Prop := ∀ p, S.mode p ≠ .ident

theorem NoIdent.elim {S : Shape} (hn : NoIdent S) {p : Nat} {β : Prop} (hm : S.mode p = .ident) : β :=
  absurd hm (hn p)

theorem SwapShape.symm {S S' : Shape} {k : Nat} (h : SwapShape S S' k) : SwapShape S' S k where
  top := h.top.symm
  mode := fun p => (h.mode p).symm
  size_lo := h.size_hi.symm
  size_hi := h.size_lo.symm
  size_other := fun p h1 h2 => (h.size_other p h1 h2).symm

theorem SwapShape.size_below {S S' : Shape} {k : Nat} (h : SwapShape S S' k) {p : Nat} (hp : p < k) :
    S'.size p = S.size p :=
  h.size_other p (Nat.ne_of_lt hp) (Nat.ne_of_lt (Nat.lt_succ_of_lt hp))

theorem SwapShape.size_above {S S' : Shape} {k : Nat} (h : SwapShape S S' k) {p : Nat}
    (hp : k + 1 < p) : S'.size p = S.size p :=
  h.size_other p (Nat.ne_of_gt (Nat.lt_of_succ_lt hp)) (Nat.ne_of_gt hp)

theorem SwapShape.noIdent {S S' : Shape} {k : Nat} (h : SwapShape S S' k) (hn : NoIdent S) :
    NoIdent S' := fun p => by rw [h.mode p]; exact hn p

theorem SwapShape.wf {S S' : Shape} {k : Nat} (h : SwapShape S S' k) (hS : S.WF) (hn : NoIdent S)
    (hk : 1 ≤ k) (hk1 : k + 1 ≤ S.top) : S'.WF where
  size_ge := by
    intro p h1 h2
    rw [h.top] at h2
    by_cases e1 : p = k
    · subst e1; rw [h.size_lo]; exact hS.size_ge _ (Nat.succ_pos _) hk1
    · by_cases e2 : p = k+1
      · subst e2; rw [h.size_hi]; exact hS.size_ge _ hk (Nat.le_of_succ_le hk1)
      · rw [h.size_other p e1 e2]; exact hS.size_ge p h1 h2
  ident_below_red := fun _ => (h.noIdent hn).elim

theorem SwapShape.valid {S S' : Shape} {k : Nat} (h : SwapShape S S' k) (hk : 1 ≤ k)
    (hk1 : k + 1 ≤ S.top) {a : Assign} (ha : Assign.Valid S' a) : Assign.Valid S (swapA k a) := by
  intro p h1 h2
  by_cases e1 : p = k
  · subst e1; rw [swapA_lo, ← h.size_hi]; exact ha _ (Nat.succ_pos _) (h.top ▸ hk1)
  · by_cases e2 : p = k+1
    · subst e2; rw [swapA_hi, ← h.size_lo]; exact ha _ hk (h.top ▸ Nat.le_of_succ_le hk1)
    · rw [swapA_other k a e1 e2, ← h.size_other p e1 e2]; exact ha p h1 (h.top ▸ h2)

theorem above_induction {k : Nat} {P : Nat → Prop} (base : P (k+1))
    (step : ∀ p, k < p → P p → P (p+1)) : ∀ p, k < p → P p
  | 0, h => nomatch h
  | p+1, h => (Nat.eq_or_lt_of_le (Nat.le_of_lt_succ h)).elim (fun e => e ▸ base)
      (fun h' => step p h' (above_induction base step p h'))

/-- The adjacent swap on trees, read from position `p` downwards. -/
def swapAdjDD (S S' : Shape) (zero : α) (k : Nat) : Nat → DD α → DD α
  | 0, d => d
  | p+1, d =>
    if p + 1 ≤ k then d
    else if p = k then
      mkNode S' zero (k+1) none ((List.range (S.size k)).map fun j =>
        mkNode S' zero k none ((List.range (S.size (k+1))).map fun i =>
          cofactor S zero k none (cofactor S zero (k+1) none d i) j))
    else
      mkNode S' zero (p+1) none ((List.range (S.size (p+1))).map fun i =>
        swapAdjDD S S' zero k p (cofactor S zero (p+1) none d i))

/-! `swapAdjDD … (p+1) d` computes to the two tests of its definition; the three equations decide
    them (likewise for `relSwapDD` and `EDD.swapAdjE` in `Ops/ReorderRel.lean`). -/

section
variable {S S' : Shape} {zero : α} {k : Nat}

theorem swapAdjDD_below {p : Nat} (h : p ≤ k) (d : DD α) :
    swapAdjDD S S' zero k p d = d := by
  cases p with
  | zero => rfl
  | succ p => exact if_pos h

theorem swapAdjDD_at (d : DD α) :
    swapAdjDD S S' zero k (k+1) d =
      mkNode S' zero (k+1) none ((List.range (S.size k)).map fun j =>
        mkNode S' zero k none ((List.range (S.size (k+1))).map fun i =>
          cofactor S zero k none (cofactor S zero (k+1) none d i) j)) :=
  (if_neg (Nat.not_succ_le_self k)).trans (if_pos rfl)

theorem swapAdjDD_above {p : Nat} (h : k < p) (d : DD α) :
    swapAdjDD S S' zero k (p+1) d =
      mkNode S' zero (p+1) none ((List.range (S.size (p+1))).map fun i =>
        swapAdjDD S S' zero k p (cofactor S zero (p+1) none d i)) :=
  (if_neg (Nat.not_le_of_gt (Nat.lt_succ_of_lt h))).trans (if_neg (Nat.ne_of_gt h))

theorem swapAdjDD_Below_WFTree (S S' : Shape) (zero : α) {k : Nat} (hk : 1 ≤ k) :
    ∀ (p : Nat) (d : DD α), Below p d ∧ WFTree d →
      Below p (swapAdjDD S S' zero k p d) ∧ WFTree (swapAdjDD S S' zero k p d) := by
  obtain ⟨k', rfl⟩ := Nat.exists_eq_add_one_of_ne_zero (Nat.ne_of_gt hk)
  intro p
  induction p with
  | zero => intro d hd; exact hd
  | succ p ih =>
    intro d hd
    rcases Nat.lt_trichotomy p (k'+1) with h | rfl | h
    · rw [swapAdjDD_below h]; exact hd
    · rw [swapAdjDD_at]
      exact mkNode_map_ok S' zero (k'+1) none _ _ fun j => mkNode_map_ok S' zero k' none _ _ fun i =>
        cofactor_ok S zero k' none _ j (cofactor_ok S zero (k'+1) none d i hd)
    · rw [swapAdjDD_above h]
      exact mkNode_map_ok S' zero p none _ _ fun i => ih _ (cofactor_ok S zero p none d i hd)

/-- `swapAdjDD` denotes the function with positions `k`, `k+1` exchanged, read from any position
    above the pair. -/
theorem swapAdjDD_eval_above (h : SwapShape S S' k)
    (hn : NoIdent S) (hk : 1 ≤ k) :
    ∀ (p : Nat), k < p → ∀ (d : DD α), p ≤ S.top → Below p d ∧ WFTree d →
      ∀ (a : Assign), Assign.Valid S' a →
      eval S' zero p (swapAdjDD S S' zero k p d) a = eval S zero p d (swapA k a) := by
  have hn' := h.noIdent hn
  have hok := swapAdjDD_Below_WFTree S S' zero hk
  obtain ⟨k', rfl⟩ := Nat.exists_eq_add_one_of_ne_zero (Nat.ne_of_gt hk)
  apply above_induction
  · -- the rebuilt pair
    intro d ht hd a ha
    have hin := fun i j => cofactor_ok S zero k' none _ j (cofactor_ok S zero (k'+1) none d i hd)
    rw [swapAdjDD_at,
      mkNode_map_eval S' zero (k'+1) none _ _ a h.size_hi.symm
        (ha _ (Nat.succ_pos _) (h.top ▸ ht))
        (fun j => (mkNode_map_ok S' zero k' none _ _ fun i => hin i j).1)
        hn'.elim,
      mkNode_map_eval S' zero k' none _ _ a h.size_lo.symm
        (ha _ hk (h.top ▸ Nat.le_of_succ_le ht))
        (fun i => (hin i _).1) hn'.elim,
      -- the untouched part below reads neither position
      eval_mode_congr S' S zero k' (fun q _ _ => h.mode q),
      eval_congr S zero k' _ a (swapA (k'+1) a)
        (fun p hp => (swapA_below (k'+1) a (Nat.lt_succ_of_le hp)).symm)
        hn.elim,
      -- and this is the double cofactor of `d` at the exchanged values
      cofactor_eval S zero (k'+1) none d (swapA (k'+1) a) hn.elim,
      cofactor_eval S zero k' none _ (swapA (k'+1) a) hn.elim,
      swapA_hi, swapA_lo]
  · intro p hp' ih d ht hd a ha
    have ho : k' + 1 + 1 < p + 1 := Nat.succ_lt_succ hp'
    rw [swapAdjDD_above hp',
      mkNode_map_eval S' zero p none _ _ a (h.size_above ho).symm
        (ha _ (Nat.succ_pos p) (h.top ▸ ht))
        (fun i => (hok _ _ (cofactor_ok S zero p none d i hd)).1)
        hn'.elim,
      ih _ (Nat.le_of_succ_le ht) (cofactor_ok S zero p none d _ hd) a ha,
      cofactor_eval S zero p none d (swapA (k'+1) a) hn.elim,
      swapA_above (k'+1) a ho]

theorem swapAdjDD_red_above (h : SwapShape S S' k)
    (hS : S.WF) (hn : NoIdent S) (hk : 1 ≤ k) (hk1 : k + 1 ≤ S.top) :
    ∀ (p : Nat), k < p → ∀ (fi : Option Nat) (d : DD α), Red S zero p fi d = true →
      Red S' zero p fi (swapAdjDD S S' zero k p d) = true := by
  have hn' := h.noIdent hn
  have hS' : S'.WF := h.wf hS hn hk hk1
  obtain ⟨k', rfl⟩ := Nat.exists_eq_add_one_of_ne_zero (Nat.ne_of_gt hk)
  apply above_induction
  · intro fi d hr
    rw [Red_fi_irrel S' zero (k'+1+1) fi none _ (hn' _), swapAdjDD_at]
    apply mkNode_map_red S' zero hS' (k'+1) none _ _ h.size_hi.symm _ (fun _ => hn' _)
    intro j hj
    rw [Red_fi_irrel S' zero (k'+1) (some j) none _ (hn' _)]
    apply mkNode_map_red S' zero hS' k' none _ _ h.size_lo.symm _ (fun _ => hn' _)
    intro i hi
    -- the grandchildren are cofactors of the reduced input; below `k` the shapes agree
    apply Red_shape_congr S S' zero k'
      (fun q hq => ⟨h.size_below (Nat.lt_succ_of_le hq), h.mode q⟩)
    rw [Red_fi_irrel S zero k' (some i) (some j) _ (hn _)]
    exact Red_cofactor S zero k' (some i) none _
      (Red_cofactor S zero (k'+1) fi none d hr i hi) j hj
  · intro p hp' ih fi d hr
    rw [Red_fi_irrel S' zero (p+1) fi none _ (hn' _), swapAdjDD_above hp']
    apply mkNode_map_red S' zero hS' p none _ _
      (h.size_above (Nat.succ_lt_succ hp')).symm _ (fun _ => hn' _)
    intro i hi
    exact ih (some i) _ (Red_cofactor S zero p fi none d hr i hi)

end

/-- the relation variable swap at the function level: variables `x` (positions `b+3` unprimed,
    `b+2` primed) and `y` (positions `b+1`, `b`) change places -/
def relSwapA (b : Nat) (a : Assign) : Assign :=
  fun p => if p = b then a (b+1+1) else if p = b+1 then a (b+1+1+1) else if p = b+1+1 then a b
           else if p = b+1+1+1 then a (b+1) else a p

theorem relSwapA_0 (b : Nat) (a : Assign) : relSwapA b a b = a (b+1+1) := by
  simp [relSwapA]
theorem relSwapA_1 (b : Nat) (a : Assign) : relSwapA b a (b+1) = a (b+1+1+1) := by
  simp [relSwapA]
theorem relSwapA_2 (b : Nat) (a : Assign) : relSwapA b a (b+1+1) = a b := by
  unfold relSwapA
  rw [if_neg (by omega), if_neg (by omega), if_pos rfl]
theorem relSwapA_3 (b : Nat) (a : Assign) : relSwapA b a (b+1+1+1) = a (b+1) := by
  unfold relSwapA
  rw [if_neg (by omega), if_neg (by omega), if_neg (by omega), if_pos rfl]

theorem block4_cases (b p : Nat) :
    p = b ∨ p = b+1 ∨ p = b+1+1 ∨ p = b+1+1+1 ∨ (p < b ∨ b+1+1+1 < p) := by omega

theorem block4_out {b p : Nat} (h : p < b ∨ b+1+1+1 < p) :
    p ≠ b ∧ p ≠ b+1 ∧ p ≠ b+1+1 ∧ p ≠ b+1+1+1 := by omega

theorem relSwapA_out (b : Nat) (a : Assign) {p : Nat} (h : p < b ∨ b+1+1+1 < p) :
    relSwapA b a p = a p := by
  have ⟨h0, h1, h2, h3⟩ := block4_out h
  unfold relSwapA
  rw [if_neg h0, if_neg h1, if_neg h2, if_neg h3]

theorem relSwapA_relSwapA (b : Nat) (a : Assign) : relSwapA b (relSwapA b a) = a := by
  funext p
  rcases block4_cases b p with rfl | rfl | rfl | rfl | ho
  · rw [relSwapA_0, relSwapA_2]
  · rw [relSwapA_1, relSwapA_3]
  · rw [relSwapA_2, relSwapA_0]
  · rw [relSwapA_3, relSwapA_1]
  · rw [relSwapA_out b _ ho, relSwapA_out b _ ho]

end DD

/-! ## Part C — orders and trees together: the function of the VARIABLES -/

namespace Reorder
open DD
variable {α : Type} [DecidableEq α]

/-- shape of a set forest over variables with sizes `dom`, whose level `i+1` holds variable `o[i]`;
    all positions follow the same rule `m` (`red` = fully reduced, `none` = quasi reduced) -/
def shapeOf (dom : Nat → Nat) (m : Mode) (o : Order) : Shape where
  top := o.length
  size := fun p => if p = 0 then 1 else dom (o.getD (p-1) 0)
  mode := fun _ => m

/-- the assignment of positions induced by an assignment `v` of VARIABLES under order `o`
    (what the harness does: the minterm slot of variable `x` is its level) -/
def varAssign (o : Order) (v : Nat → Nat) : Assign :=
  fun p => if p = 0 then 0 else v (o.getD (p-1) 0)

theorem swapAdj_getD_lo : ∀ (i : Nat) (l : List Nat) (dflt : Nat), i + 1 < l.length →
    (swapAdj i l).getD i dflt = l.getD (i+1) dflt
  | 0, [], _, h => nomatch h
  | 0, [_], _, h => absurd h (Nat.lt_irrefl 1)
  | 0, _ :: _ :: _, _, _ => rfl
  | _+1, [], _, h => nomatch h
  | i+1, _ :: r, dflt, h => swapAdj_getD_lo i r dflt (Nat.lt_of_succ_lt_succ h)

theorem swapAdj_getD_hi : ∀ (i : Nat) (l : List Nat) (dflt : Nat), i + 1 < l.length →
    (swapAdj i l).getD (i+1) dflt = l.getD i dflt
  | 0, [], _, h => nomatch h
  | 0, [_], _, h => absurd h (Nat.lt_irrefl 1)
  | 0, _ :: _ :: _, _, _ => rfl
  | _+1, [], _, h => nomatch h
  | i+1, _ :: r, dflt, h => swapAdj_getD_hi i r dflt (Nat.lt_of_succ_lt_succ h)

theorem swapAdj_getD_other : ∀ (i : Nat) (l : List Nat) (dflt j : Nat), j ≠ i → j ≠ i + 1 →
    (swapAdj i l).getD j dflt = l.getD j dflt
  | 0, [], _, _, _, _ => rfl
  | 0, [_], _, _, _, _ => rfl
  | 0, _ :: _ :: _, _, 0, h1, _ => absurd rfl h1
  | 0, _ :: _ :: _, _, 1, _, h2 => absurd rfl h2
  | 0, _ :: _ :: _, _, _+2, _, _ => rfl
  | _+1, [], _, _, _, _ => rfl
  | _+1, _ :: _, _, 0, _, _ => rfl
  | i+1, _ :: r, dflt, j+1, h1, h2 =>
    swapAdj_getD_other i r dflt j (Nat.succ_ne_succ_iff.mp h1) (Nat.succ_ne_succ_iff.mp h2)

/-- exchanging the variables at levels `i+1`, `i+2` exchanges the sizes of these positions
    (`(shapeOf dom m o).size (p+1)` and `varAssign o v (p+1)` compute to `dom (o.getD p 0)` and
    `v (o.getD p 0)`) -/
theorem shapeOf_swap (dom : Nat → Nat) (m : Mode) (o : Order) (i : Nat) (hi : i + 1 < o.length) :
    SwapShape (shapeOf dom m o) (shapeOf dom m (swapAdj i o)) (i+1) where
  top := swapAdj_length i o
  mode := fun _ => rfl
  size_lo := congrArg dom (swapAdj_getD_lo i o 0 hi)
  size_hi := congrArg dom (swapAdj_getD_hi i o 0 hi)
  size_other := by
    intro p h1 h2
    cases p with
    | zero => rfl
    | succ p =>
      exact congrArg dom (swapAdj_getD_other i o 0 p (Nat.succ_ne_succ_iff.mp h1)
        (Nat.succ_ne_succ_iff.mp h2))

theorem varAssign_swap (o : Order) (v : Nat → Nat) (i : Nat) (hi : i + 1 < o.length) :
    swapA (i+1) (varAssign (swapAdj i o) v) = varAssign o v := by
  funext p
  by_cases h1 : p = i + 1
  · subst h1; rw [swapA_lo]; exact congrArg v (swapAdj_getD_hi i o 0 hi)
  · by_cases h2 : p = i + 1 + 1
    · subst h2; rw [swapA_hi]; exact congrArg v (swapAdj_getD_lo i o 0 hi)
    · rw [swapA_other (i+1) _ h1 h2]
      cases p with
      | zero => rfl
      | succ p =>
        exact congrArg v (swapAdj_getD_other i o 0 p (Nat.succ_ne_succ_iff.mp h1)
          (Nat.succ_ne_succ_iff.mp h2))

theorem varAssign_valid (dom : Nat → Nat) (m : Mode) (o : Order) (v : Nat → Nat)
    (hv : ∀ x, v x < dom x) : Assign.Valid (shapeOf dom m o) (varAssign o v) := by
  intro p h1 _
  cases p with
  | zero => cases h1
  | succ p => exact hv _

theorem shapeOf_noIdent (dom : Nat → Nat) (m : Mode) (o : Order) (hm : m ≠ .ident) :
    NoIdent (shapeOf dom m o) := fun _ => hm

theorem shapeOf_wf (dom : Nat → Nat) (m : Mode) (o : Order) (hm : m ≠ .ident)
    (hd : ∀ x, 2 ≤ dom x) : (shapeOf dom m o).WF where
  size_ge := by
    intro p h1 _
    cases p with
    | zero => cases h1
    | succ p => exact hd _
  ident_below_red := fun _ h => absurd h hm

/-- one library swap on the pair (order, tree) -/
def swapStep (dom : Nat → Nat) (m : Mode) (zero : α) (i : Nat) (o : Order) (d : DD α) : Order × DD α :=
  (swapAdj i o,
   swapAdjDD (shapeOf dom m o) (shapeOf dom m (swapAdj i o)) zero (i+1) o.length d)

/-- a whole reordering: any list of adjacent swaps, applied left to right -/
def reorderDD (dom : Nat → Nat) (m : Mode) (zero : α) : List Nat → Order → DD α → Order × DD α
  | [], o, d => (o, d)
  | i :: is, o, d =>
    reorderDD dom m zero is (swapStep dom m zero i o d).1 (swapStep dom m zero i o d).2

theorem reorderDD_order (dom : Nat → Nat) (m : Mode) (zero : α) :
    ∀ (is : List Nat) (o : Order) (d : DD α), (reorderDD dom m zero is o d).1 = applySchedule is o
  | [], _, _ => rfl
  | _ :: is, _, _ => reorderDD_order dom m zero is _ _

end Reorder

namespace Reorder

/-- C13/schedule: every swap a heuristic performs on an adjacent inversion (the test
    `var2level[var(level)] > var2level[var(level+1)]` in src/reordering/*.h) strictly decreases
    the number of inversions w.r.t. the target (by exactly one: `swap_removes_one`). -/
theorem swap_reduces_inversions (key : Nat → Nat) (i : Nat) (l : Order)
    (h : adjInv key l i = true) : inversions key (swapAdj i l) < inversions key l := by
  have := swap_removes_one key i l h
  omega

-- order [1,2,3], target [3,1,2]: levels 2/3 hold an inversion (3 must go below 2), swapping removes it
example : adjInv (rank [3, 1, 2]) [1, 2, 3] 1 = true := by decide +kernel
example : inversions (rank [3, 1, 2]) [1, 2, 3] = 2 := by decide +kernel
example : inversions (rank [3, 1, 2]) (swapAdj 1 [1, 2, 3]) = 1 := by decide +kernel

/-- C13/schedule: a schedule that only swaps adjacent inversions has at most `inversions` swaps
    (termination bound of every such heuristic). -/
theorem schedule_bound (key : Nat → Nat) (is : List Nat) (o : Order)
    (h : ValidSchedule key is o) : is.length ≤ inversions key o := by
  have := schedule_length key is o h
  omega

example : ValidSchedule (rank [3, 1, 2]) [1, 0] [1, 2, 3] := by decide +kernel

/-- C13/schedule: a schedule of adjacent inversions that cannot be continued has reached the
    target order, and it has exactly `inversions` swaps — whichever inversions were picked
    (lowest / highest inversion, sink down, bring up, lowest cost, random, LARC). -/
theorem maximal_schedule_reaches_target (target o : Order) (hn : target.Nodup)
    (hp : o.Perm target) (is : List Nat) (hv : ValidSchedule (rank target) is o)
    (hmax : ∀ i, adjInv (rank target) (applySchedule is o) i = false) :
    applySchedule is o = target ∧ is.length = inversions (rank target) o := by
  have h1 := no_adjInv_is_target target _ hn ((applySchedule_perm is o).trans hp) hmax
  have h2 := schedule_length (rank target) is o hv
  rw [h1, inversions_of_sorted _ target (target_sorted target hn), Nat.zero_add] at h2
  exact ⟨h1, h2⟩

example : applySchedule [1, 0] [1, 2, 3] = [3, 1, 2] := by decide +kernel

/-- C13/schedule: ANY heuristic that (a) only swaps adjacent inversions and (b) stops only when
    there is none, run for `inversions` steps, ends exactly at the target order. -/
theorem schedule_terminates_at_target (target o : Order) (hn : target.Nodup) (hp : o.Perm target)
    (pick : Order → Option Nat)
    (hsound : ∀ o i, pick o = some i → adjInv (rank target) o i = true)
    (hcomplete : ∀ o, pick o = none → ∀ i, adjInv (rank target) o i = false) :
    run pick (inversions (rank target) o) o = target :=
  no_adjInv_is_target target _ hn ((run_perm pick _ o).trans hp)
    (run_no_adjInv (rank target) pick hsound hcomplete _ o (Nat.le_refl _))

/-- the `lowest_inversion` / `highest_inversion` choice functions as pickers -/
def pickLowest (key : Nat → Nat) (o : Order) : Option Nat :=
  (List.range o.length).find? (fun i => adjInv key o i)
def pickHighest (key : Nat → Nat) (o : Order) : Option Nat :=
  (List.range o.length).reverse.find? (fun i => adjInv key o i)

example : run (pickLowest (rank [4, 2, 1, 3])) (inversions (rank [4, 2, 1, 3]) [1, 2, 3, 4]) [1, 2, 3, 4]
    = [4, 2, 1, 3] := by decide +kernel
example : run (pickHighest (rank [4, 2, 1, 3])) (inversions (rank [4, 2, 1, 3]) [1, 2, 3, 4]) [1, 2, 3, 4]
    = [4, 2, 1, 3] := by decide +kernel
example : inversions (rank [4, 2, 1, 3]) [1, 2, 3, 4] = 4 := by decide +kernel

end Reorder

namespace DD
variable {α : Type} [DecidableEq α]

/-- C13/function (`swap_den` in DESIGN.md): after `swapAdjacentVariables(k)` in a fully- or
    quasi-reduced multi-terminal set forest, every tree denotes the old function with the values of positions
    `k` and `k+1` exchanged (the variables have changed places, the function of the variables is
    the same). -/
theorem swapAdjDD_eval (S S' : Shape) (zero : α) (k : Nat) (h : SwapShape S S' k)
    (hn : NoIdent S) (hk : 1 ≤ k) (hk1 : k + 1 ≤ S.top) (d : DD α) (hw : WFTree d)
    (hb : Below S.top d) (a : Assign) (ha : Assign.Valid S' a) :
    eval S' zero S'.top (swapAdjDD S S' zero k S.top d) a = eval S zero S.top d (swapA k a) := by
  rw [h.top]
  exact swapAdjDD_eval_above h hn hk S.top hk1 d (Nat.le_refl _) ⟨hb, hw⟩ a ha

/-- C13/canonical form: the swapped tree of a reduced tree is reduced for the swapped shape
    (`Canonical F → Canonical (swapAdjacent F k)` in DESIGN.md). -/
theorem swapAdjDD_red (S S' : Shape) (zero : α) (k : Nat) (h : SwapShape S S' k) (hS : S.WF)
    (hn : NoIdent S) (hk : 1 ≤ k) (hk1 : k + 1 ≤ S.top) (d : DD α)
    (hr : Red S zero S.top none d = true) :
    Red S' zero S'.top none (swapAdjDD S S' zero k S.top d) = true := by
  rw [h.top]
  exact swapAdjDD_red_above h hS hn hk hk1 S.top hk1 none d hr

/-- C13/canonical form (`swap_canonical`): the swapped tree is THE reduced tree of the swapped
    function — whatever the library builds (in place, without duplicate detection), if it is
    reduced and denotes the swapped function it is this tree.  With `swap_swap` (the swap is
    injective on reduced trees) two held edges are equal after the swap iff they were equal before. -/
theorem swap_canonical (S S' : Shape) (zero : α) (k : Nat) (h : SwapShape S S' k) (hS : S.WF)
    (hn : NoIdent S) (hk : 1 ≤ k) (hk1 : k + 1 ≤ S.top) (d : DD α)
    (hr : Red S zero S.top none d = true) (r : DD α) (hr' : Red S' zero S'.top none r = true)
    (hd : ∀ a, Assign.Valid S' a → eval S' zero S'.top r a = eval S zero S.top d (swapA k a)) :
    r = swapAdjDD S S' zero k S.top d := by
  have hS' : S'.WF := h.wf hS hn hk hk1
  obtain ⟨hb, hw⟩ := Red_WFTree S zero S.top none d hr
  apply (canon S' zero hS' r _ hr' (swapAdjDD_red S S' zero k h hS hn hk hk1 d hr)).mp
  intro a ha
  rw [hd a ha, swapAdjDD_eval S S' zero k h hn hk hk1 d hw hb a ha]

/-- C13: swapping the same pair twice restores exactly the original tree (the undo steps of the
    `lowest_memory` heuristic). -/
theorem swap_swap (S S' : Shape) (zero : α) (k : Nat) (h : SwapShape S S' k) (hS : S.WF)
    (hn : NoIdent S) (hk : 1 ≤ k) (hk1 : k + 1 ≤ S.top) (d : DD α)
    (hr : Red S zero S.top none d = true) :
    swapAdjDD S' S zero k S'.top (swapAdjDD S S' zero k S.top d) = d := by
  have hS' : S'.WF := h.wf hS hn hk hk1
  have hn' := h.noIdent hn
  obtain ⟨hb, hw⟩ := Red_WFTree S zero S.top none d hr
  have hk1' : k + 1 ≤ S'.top := h.top.symm ▸ hk1
  symm
  apply swap_canonical S' S zero k h.symm hS' hn' hk hk1' _
    (swapAdjDD_red S S' zero k h hS hn hk hk1 d hr) d hr
  intro a ha
  have ha' : Assign.Valid S' (swapA k a) := h.symm.valid hk hk1' ha
  rw [swapAdjDD_eval S S' zero k h hn hk hk1 d hw hb (swapA k a) ha', swapA_swapA]

/-- C13/relations, function level (`_partial`): exchanging two adjacent relation variables
    (four positions `x x' y y'` ↦ `y y' x x'`) is the composition of the four adjacent level swaps
    of `swapAdjacentVariablesByLevelSwap` (middle, top, bottom, middle).  The tree-level statements
    for relation forests (`swapVarRel_*`, `levelSwap4_eq_swapVarRel`) are in
    `Ops/ReorderRel.lean`. -/
theorem relSwap_four_level_swaps_partial (b : Nat) (a : Assign) :
    swapA (b+1) (swapA (b+1+1) (swapA b (swapA (b+1) a))) = relSwapA b a := by
  funext p
  rcases block4_cases b p with rfl | rfl | rfl | rfl | ho
  · rw [relSwapA_0, swapA_below (p+1) _ (by omega), swapA_below (p+1+1) _ (by omega), swapA_lo,
      swapA_lo]
  · rw [relSwapA_1, swapA_lo, swapA_lo, swapA_above b _ (by omega), swapA_above (b+1) _ (by omega)]
  · rw [relSwapA_2, swapA_hi, swapA_below (b+1+1) _ (by omega), swapA_hi,
      swapA_below (b+1) _ (by omega)]
  · rw [relSwapA_3, swapA_above (b+1) _ (by omega), swapA_hi, swapA_above b _ (by omega), swapA_hi]
  · have ⟨h0, h1, h2, h3⟩ := block4_out ho
    rw [relSwapA_out b a ho, swapA_other (b+1) _ h1 h2, swapA_other (b+1+1) _ h2 h3,
      swapA_other b _ h0 h1, swapA_other (b+1) _ h1 h2]

end DD

namespace Reorder
open DD
variable {α : Type} [DecidableEq α]

/-- C13/held edges: one adjacent swap leaves the function OF THE VARIABLES unchanged: evaluating
    the swapped tree under the new order at a variable assignment `v` gives what the old tree gave
    under the old order (this is the by-variable table the harness compares before/after). -/
theorem swap_preserves_varfunction (dom : Nat → Nat) (m : Mode) (hm : m ≠ .ident) (zero : α)
    (o : Order) (i : Nat) (hi : i + 1 < o.length) (d : DD α) (hw : WFTree d)
    (hb : Below o.length d) (v : Nat → Nat) (hv : ∀ x, v x < dom x) :
    eval (shapeOf dom m (swapStep dom m zero i o d).1) zero (swapStep dom m zero i o d).1.length
        (swapStep dom m zero i o d).2 (varAssign (swapStep dom m zero i o d).1 v)
      = eval (shapeOf dom m o) zero o.length d (varAssign o v) := by
  have h := swapAdjDD_eval (shapeOf dom m o) (shapeOf dom m (swapAdj i o)) zero (i+1)
    (shapeOf_swap dom m o i hi) (shapeOf_noIdent dom m o hm) (Nat.succ_pos i) hi d hw hb
    (varAssign (swapAdj i o) v) (varAssign_valid dom m _ v hv)
  rw [varAssign_swap o v i hi] at h
  exact h

/-- C13/held edges, whole reordering: ANY sequence of adjacent swaps (the schedule of any of the
    eight heuristics, including the tentative swaps `lowest_memory` undoes) leaves the function of
    the variables denoted by every tree unchanged. -/
theorem reorder_preserves_function (dom : Nat → Nat) (m : Mode) (hm : m ≠ .ident) (zero : α) :
    ∀ (is : List Nat) (o : Order) (d : DD α), (∀ i, i ∈ is → i + 1 < o.length) →
      WFTree d → Below o.length d → ∀ (v : Nat → Nat), (∀ x, v x < dom x) →
      eval (shapeOf dom m (reorderDD dom m zero is o d).1) zero
          (reorderDD dom m zero is o d).1.length (reorderDD dom m zero is o d).2
          (varAssign (reorderDD dom m zero is o d).1 v)
        = eval (shapeOf dom m o) zero o.length d (varAssign o v) := by
  intro is o d hi hw hb
  exact (schedule_invariant (swapStep dom m zero) (reorderDD dom m zero) (fun _ _ => rfl)
    (fun _ _ _ _ => rfl) (fun i o _ => swapAdj_length i o)
    (fun o' d' => WFTree d' ∧ Below o'.length d' ∧ ∀ (v : Nat → Nat), (∀ x, v x < dom x) →
      eval (shapeOf dom m o') zero o'.length d' (varAssign o' v)
        = eval (shapeOf dom m o) zero o.length d (varAssign o v))
    (fun i o' d' hi' ⟨hw', hb', he⟩ =>
      have hwb := swapAdjDD_Below_WFTree (shapeOf dom m o') (shapeOf dom m (swapAdj i o')) zero
        (Nat.succ_pos i) o'.length d' ⟨hb', hw'⟩
      ⟨hwb.2, (swapAdj_length i o').symm ▸ hwb.1, fun v hv =>
        (swap_preserves_varfunction dom m hm zero o' i hi' d' hw' hb' v hv).trans (he v hv)⟩)
    is o d hi ⟨hw, hb, fun _ _ => rfl⟩).2.2

/-- C13/canonical form, whole reordering: every sequence of adjacent swaps keeps the tree reduced
    for the shape of the current order. -/
theorem reorder_preserves_reduced (dom : Nat → Nat) (m : Mode) (hm : m ≠ .ident)
    (hd : ∀ x, 2 ≤ dom x) (zero : α) :
    ∀ (is : List Nat) (o : Order) (d : DD α), (∀ i, i ∈ is → i + 1 < o.length) →
      Red (shapeOf dom m o) zero o.length none d = true →
      Red (shapeOf dom m (reorderDD dom m zero is o d).1) zero
        (reorderDD dom m zero is o d).1.length none (reorderDD dom m zero is o d).2 = true :=
  schedule_invariant (swapStep dom m zero) (reorderDD dom m zero) (fun _ _ => rfl)
    (fun _ _ _ _ => rfl) (fun i o _ => swapAdj_length i o)
    (fun o d => Red (shapeOf dom m o) zero o.length none d = true)
    (fun i o d hi hr => swapAdjDD_red (shapeOf dom m o) (shapeOf dom m (swapAdj i o)) zero (i+1)
      (shapeOf_swap dom m o i hi) (shapeOf_wf dom m o hm hd) (shapeOf_noIdent dom m o hm)
      (Nat.succ_pos i) hi d hr)

end Reorder

/-! ### Non-vacuity on trees: `CanonExamples.SA` (fully reduced, sizes 2,3,2) -/

namespace ReorderExamples
open DD CanonExamples Reorder

/-- `SA` with positions 2 and 3 exchanged: sizes 2, 2, 3 -/
def SA23 : Shape where
  top := 3
  size := fun p => if p = 3 then 3 else 2
  mode := fun _ => .red

theorem SA_SA23 : SwapShape SA SA23 2 where
  top := rfl
  mode := fun _ => rfl
  size_lo := rfl
  size_hi := rfl
  size_other := by
    intro p h1 h2
    show (if p = 3 then 3 else 2) = (if p = 2 then 3 else 2)
    rw [if_neg h2, if_neg h1]

theorem SA_noIdent : NoIdent SA := fun _ h => by cases h

/-- the dependent upper node `tA1 = node 3 [mA, nA]` is rebuilt: new top variable has 3 values -/
example : swapAdjDD SA SA23 0 2 3 tA1 =
    .node 3 [xA, .node 2 [yA, xA], .node 2 [.leaf 1, yA]] := by decide +kernel
example : Red SA23 0 3 none (swapAdjDD SA SA23 0 2 3 tA1) = true := by decide +kernel
/-- a lower node that the upper level skips is only relabelled upwards … -/
example : swapAdjDD SA SA23 0 2 3 mA = .node 3 [xA, yA, .leaf 1] := by decide +kernel
example : swapAdjDD SA SA23 0 2 3 tA2 = .node 3 [xA, .node 2 [xA, yA], .node 2 [xA, .leaf 1]] := by
  decide +kernel
/-- … and an upper node independent of the lower variable is only relabelled downwards -/
example : swapAdjDD SA SA23 0 2 3 (.node 3 [xA, yA]) = (.node 2 [xA, yA] : DD Nat) := by decide +kernel
/-- swapping back restores the tree (instance of `swap_swap`) -/
example : swapAdjDD SA23 SA 0 2 3 (swapAdjDD SA SA23 0 2 3 tA1) = tA1 := by decide +kernel
/-- the hypotheses of the theorems are satisfiable: `swap_canonical` applies to `tA1` -/
example (r : DD Nat) (hr : Red SA23 0 3 none r = true)
    (hd : ∀ a, Assign.Valid SA23 a → eval SA23 0 3 r a = eval SA 0 3 tA1 (swapA 2 a)) :
    r = swapAdjDD SA SA23 0 2 3 tA1 :=
  swap_canonical SA SA23 0 2 SA_SA23 SA_WF SA_noIdent (by decide) (by decide) tA1 (by decide +kernel) r hr hd

/-- quasi reduced (`none`), sizes 2,3: redundant nodes are kept, the swap keeps the form -/
def SQ : Shape := shapeOf (fun x => if x = 2 then 3 else 2) .none [1, 2]
def SQ' : Shape := shapeOf (fun x => if x = 2 then 3 else 2) .none [2, 1]
def qT : DD Nat := .node 2 [.node 1 [.leaf 1, .leaf 1], .leaf 0, .node 1 [.leaf 0, .leaf 2]]
example : Red SQ 0 2 none qT = true := by decide +kernel
example : swapAdjDD SQ SQ' 0 1 2 qT
    = .node 2 [.node 1 [.leaf 1, .leaf 0, .leaf 0], .node 1 [.leaf 1, .leaf 0, .leaf 2]] := by decide +kernel
example : Red SQ' 0 2 none (swapAdjDD SQ SQ' 0 1 2 qT) = true := by decide +kernel

/-- function level: positions (x', x, y', y) = (1,2,3,4) hold (10,20,30,40) ↦ (30,40,10,20) -/
example : (List.range 6).map (relSwapA 1 (fun p => 10 * p)) = [0, 30, 40, 10, 20, 50] := by decide +kernel
example : (List.range 5).map (swapA 2 (fun p => 10 * p)) = [0, 10, 30, 20, 40] := by decide +kernel

/-- a whole reordering on (order, tree): [1,2,3] → [3,1,2] by the schedule [1,0] -/
example : (reorderDD (fun x => if x = 2 then 3 else 2) .red 0 [1, 0] [1, 2, 3] tA1).1 = [3, 1, 2] := by
  decide +kernel
example : Red (shapeOf (fun x => if x = 2 then 3 else 2) .red [3, 1, 2]) 0 3 none
    (reorderDD (fun x => if x = 2 then 3 else 2) .red 0 [1, 0] [1, 2, 3] tA1).2 = true := by decide +kernel

end ReorderExamples

#print axioms Reorder.swap_reduces_inversions
#print axioms Reorder.schedule_bound
#print axioms Reorder.maximal_schedule_reaches_target
#print axioms Reorder.schedule_terminates_at_target
#print axioms DD.swapAdjDD_eval
#print axioms DD.swapAdjDD_red
#print axioms DD.swap_canonical
#print axioms DD.swap_swap
#print axioms DD.relSwap_four_level_swaps_partial
#print axioms Reorder.swap_preserves_varfunction
#print axioms Reorder.reorder_preserves_function
#print axioms Reorder.reorder_preserves_reduced
/- Output (Lean 4.33.0):
'Meddly.Reorder.swap_reduces_inversions' depends on axioms: [propext, Quot.sound]
'Meddly.Reorder.schedule_bound' depends on axioms: [propext, Quot.sound]
'Meddly.Reorder.maximal_schedule_reaches_target' depends on axioms: [propext, Classical.choice, Quot.sound]
'Meddly.Reorder.schedule_terminates_at_target' depends on axioms: [propext, Classical.choice, Quot.sound]
'Meddly.DD.swapAdjDD_eval' depends on axioms: [propext, Classical.choice, Quot.sound]
'Meddly.DD.swapAdjDD_red' depends on axioms: [propext, Classical.choice, Quot.sound]
'Meddly.DD.swap_canonical' depends on axioms: [propext, Classical.choice, Quot.sound]
'Meddly.DD.swap_swap' depends on axioms: [propext, Classical.choice, Quot.sound]
'Meddly.DD.relSwap_four_level_swaps_partial' depends on axioms: [propext, Classical.choice, Quot.sound]
'Meddly.Reorder.swap_preserves_varfunction' depends on axioms: [propext, Classical.choice, Quot.sound]
'Meddly.Reorder.reorder_preserves_function' depends on axioms: [propext, Classical.choice, Quot.sound]
'Meddly.Reorder.reorder_preserves_reduced' depends on axioms: [propext, Classical.choice, Quot.sound]

  NOT proved here (kept visible):
    * the tree-level swap for RELATION forests (`mtmxd_forest::swapAdjacentVariablesByVarSwap`) and
      for EV+ forests: `Ops/ReorderRel.lean` (`swapVarRel_*`, `swapAdjE_*`); this file has only
      the function-level decomposition `relSwap_four_level_swaps_partial`;
    * `lowest_memory` is not a schedule of inversions only (it swaps tentatively and undoes):
      `reorder_preserves_function` / `reorder_preserves_reduced` / `swap_swap` cover its swaps, its
      final order is checked by the run, not derived from `schedule_terminates_at_target`.
-/

end Meddly
