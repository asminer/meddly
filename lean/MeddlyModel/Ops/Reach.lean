/-
  C08 — reachability operations return exactly the least fixed point.

  Model of `src/operations/reach_trad.cc` (the frontier / no-frontier loops over
  imageOp, accumulateOp, differenceOp) on an explicit finite state space, and the
  scheduling-independent core of `satur_sets.cc` (split of the relation by common
  diagonal, chaotic firing of the pieces).

  A state space is a list `states : List σ` that enumerates `σ` (`Complete`); a
  relation is `R : σ → σ → Bool`; a *set* is the canonical list `states.filter p`
  (the analogue of a canonical decision-diagram edge: two sets with the same
  members are the same list, so the loops' stop tests are list equalities exactly
  as the C++ compares node handles).  The distance-valued variants of the no-frontier loop
  (accumulate = DIST_MIN / MINIMUM) are `distLoop`; they return shortest-path lengths
  (`dist_eq_shortest`, `dist_nofrontier_eq_dist`).

  NOT modelled here: the decision-diagram level of saturation (`saturate_1`,
  `recFire`, their `saturate` / `satfire` compute-table entries, the explorer
  objects).  What is proved about saturation is the statement its correctness
  reduces to: the split denotes the relation (`split_union`) and ANY order of
  firing the pieces that ends in a set closed under every piece ends in exactly
  the reachable set (`chaotic_eq_lfp`).
-/
set_option linter.unusedSectionVars false

namespace Meddly
namespace Reach

variable {σ : Type} [DecidableEq σ]

/-! ## Sets as canonical lists -/

/-- `states` enumerates the whole state type -/
def Complete (states : List σ) : Prop := ∀ s : σ, s ∈ states

/-- canonical representation of `{s | s ∈ S}` -/
def norm (states : List σ) (S : List σ) : List σ := states.filter (fun s => decide (s ∈ S))

/-- one-step successors of `S` (POST_IMAGE) -/
def post (states : List σ) (R : σ → σ → Bool) (S : List σ) : List σ :=
  states.filter (fun t => S.any (fun s => R s t))

/-- one-step predecessors of `S` (PRE_IMAGE) -/
def pre (states : List σ) (R : σ → σ → Bool) (S : List σ) : List σ :=
  states.filter (fun s => S.any (fun t => R s t))

/-- converse relation -/
def conv (R : σ → σ → Bool) : σ → σ → Bool := fun a b => R b a

/-- UNION (accumulateOp of the boolean variants) -/
def union (states : List σ) (A B : List σ) : List σ :=
  states.filter (fun s => decide (s ∈ A) || decide (s ∈ B))

/-- DIFFERENCE (differenceOp) -/
def diff (states : List σ) (A B : List σ) : List σ :=
  states.filter (fun s => decide (s ∈ A) && !decide (s ∈ B))

theorem mem_norm {states S : List σ} {s : σ} : s ∈ norm states S ↔ s ∈ states ∧ s ∈ S := by
  simp [norm]

theorem mem_post {states : List σ} {R : σ → σ → Bool} {S : List σ} {t : σ} :
    t ∈ post states R S ↔ t ∈ states ∧ ∃ s, s ∈ S ∧ R s t = true := by
  simp [post]

theorem mem_pre {states : List σ} {R : σ → σ → Bool} {S : List σ} {s : σ} :
    s ∈ pre states R S ↔ s ∈ states ∧ ∃ t, t ∈ S ∧ R s t = true := by
  simp [pre]

theorem mem_union {states A B : List σ} {s : σ} :
    s ∈ union states A B ↔ s ∈ states ∧ (s ∈ A ∨ s ∈ B) := by
  simp [union]

theorem mem_diff {states A B : List σ} {s : σ} :
    s ∈ diff states A B ↔ s ∈ states ∧ s ∈ A ∧ s ∉ B := by
  simp [diff]

theorem filter_eq_filter_filter {l : List σ} {p q : σ → Bool}
    (hsub : ∀ x, x ∈ l → p x = true → q x = true) : l.filter p = (l.filter q).filter p := by
  rw [List.filter_filter]
  refine List.filter_congr fun x hx => ?_
  cases hp : p x
  · rfl
  · rw [hsub x hx hp]; rfl

theorem canon_sublist {states A B : List σ} (hA : ∃ p, A = states.filter p)
    (hB : ∃ q, B = states.filter q) (h : ∀ s, s ∈ A → s ∈ B) : A.Sublist B := by
  obtain ⟨p, rfl⟩ := hA
  obtain ⟨q, rfl⟩ := hB
  rw [filter_eq_filter_filter fun x hx hp =>
    (List.mem_filter.mp (h x (List.mem_filter.mpr ⟨hx, hp⟩))).2]
  exact List.filter_sublist

/-- canonical sets with the same members are the same list (two dd_edges for the same set are
    the same node) -/
theorem canon_ext {states A B : List σ} (hA : ∃ p, A = states.filter p)
    (hB : ∃ q, B = states.filter q) (h : ∀ s, s ∈ A ↔ s ∈ B) : A = B :=
  (canon_sublist hA hB fun s => (h s).mp).eq_of_length_le
    (canon_sublist hB hA fun s => (h s).mpr).length_le

/-! ## Reachability, paths -/

/-- the reflexive-transitive closure of `R` from `init` -/
inductive Reachable (R : σ → σ → Bool) (init : List σ) : σ → Prop
  | base {s : σ} : s ∈ init → Reachable R init s
  | step {s t : σ} : Reachable R init s → R s t = true → Reachable R init t

/-- `PathLen R init n s`: there is a path of exactly `n` steps from `init` to `s` -/
inductive PathLen (R : σ → σ → Bool) (init : List σ) : Nat → σ → Prop
  | base {s : σ} : s ∈ init → PathLen R init 0 s
  | step {n : Nat} {s t : σ} : PathLen R init n s → R s t = true → PathLen R init (n+1) t

/-- backward reachability: states from which `target` can be reached -/
inductive CoReachable (R : σ → σ → Bool) (target : List σ) : σ → Prop
  | base {s : σ} : s ∈ target → CoReachable R target s
  | step {s t : σ} : R s t = true → CoReachable R target t → CoReachable R target s

theorem PathLen.reachable {R : σ → σ → Bool} {init : List σ} {n : Nat} {s : σ}
    (h : PathLen R init n s) : Reachable R init s := by
  induction h with
  | base h => exact .base h
  | step _ hr ih => exact .step ih hr

theorem reachable_conv_iff {R : σ → σ → Bool} {init : List σ} {s : σ} :
    Reachable (conv R) init s ↔ CoReachable R init s := by
  constructor
  · intro h
    induction h with
    | base h => exact .base h
    | step _ hr ih => exact .step hr ih
  · intro h
    induction h with
    | base h => exact .base h
    | step hr _ ih => exact .step ih hr

/-! ## The fixed-point iteration -/

/-- one round of `S ↦ init ∪ S ∪ post R S` -/
def stepF (states : List σ) (R : σ → σ → Bool) (init S : List σ) : List σ :=
  states.filter (fun s => decide (s ∈ init) || decide (s ∈ S) || decide (s ∈ post states R S))

/-- `n` rounds starting from `init` -/
def lfpIter (states : List σ) (R : σ → σ → Bool) (init : List σ) : Nat → List σ
  | 0 => norm states init
  | n+1 => stepF states R init (lfpIter states R init n)

/-- the least fixed point: `|states|` rounds -/
def lfp (states : List σ) (R : σ → σ → Bool) (init : List σ) : List σ :=
  lfpIter states R init states.length

section
variable {states : List σ} {R : σ → σ → Bool} {init : List σ}

theorem mem_stepF {S : List σ} {s : σ} :
    s ∈ stepF states R init S ↔ s ∈ states ∧ (s ∈ init ∨ s ∈ S ∨ s ∈ post states R S) := by
  simp [stepF, or_assoc]

theorem lfpIter_sub_states {n : Nat} {s : σ} (h : s ∈ lfpIter states R init n) : s ∈ states := by
  cases n with
  | zero => exact (mem_norm.mp h).1
  | succ n => exact (mem_stepF.mp h).1

theorem lfpIter_mono {n : Nat} {s : σ} (h : s ∈ lfpIter states R init n) :
    s ∈ lfpIter states R init (n+1) :=
  mem_stepF.mpr ⟨lfpIter_sub_states h, Or.inr (Or.inl h)⟩

theorem lfpIter_mono_le {n m : Nat} (hnm : n ≤ m) {s : σ} (h : s ∈ lfpIter states R init n) :
    s ∈ lfpIter states R init m := by
  induction hnm with
  | refl => exact h
  | step _ ih => exact lfpIter_mono ih

theorem init_sub_lfpIter (hc : Complete states) {n : Nat} {s : σ} (h : s ∈ init) :
    s ∈ lfpIter states R init n :=
  lfpIter_mono_le (Nat.zero_le n) (mem_norm.mpr ⟨hc s, h⟩)

theorem lfpIter_iff_path (hc : Complete states) {n : Nat} {s : σ} :
    s ∈ lfpIter states R init n ↔ ∃ m, m ≤ n ∧ PathLen R init m s := by
  induction n generalizing s with
  | zero =>
    refine ⟨fun h => ⟨0, Nat.le_refl 0, .base (mem_norm.mp h).2⟩, fun ⟨m, hm, hp⟩ => ?_⟩
    cases Nat.le_zero.mp hm
    cases hp with
    | base h => exact mem_norm.mpr ⟨hc s, h⟩
  | succ n ih =>
    constructor
    · intro h
      rcases (mem_stepF.mp h).2 with h | h | h
      · exact ⟨0, Nat.zero_le _, .base h⟩
      · obtain ⟨m, hm, hp⟩ := ih.mp h
        exact ⟨m, Nat.le_succ_of_le hm, hp⟩
      · obtain ⟨_, u, hu, hr⟩ := mem_post.mp h
        obtain ⟨m, hm, hp⟩ := ih.mp hu
        exact ⟨m+1, Nat.succ_le_succ hm, .step hp hr⟩
    · rintro ⟨m, hm, hp⟩
      cases hp with
      | base h => exact init_sub_lfpIter hc h
      | @step k u _ hp hr =>
        exact mem_stepF.mpr ⟨hc s, .inr (.inr (mem_post.mpr
          ⟨hc s, u, ih.mpr ⟨k, Nat.le_of_succ_le_succ hm, hp⟩, hr⟩))⟩

/-- the iteration does not change any more after round `n` -/
def Stable (states : List σ) (R : σ → σ → Bool) (init : List σ) (n : Nat) : Prop :=
  lfpIter states R init (n+1) = lfpIter states R init n

theorem lfpIter_is_filter (n : Nat) : ∃ p, lfpIter states R init n = states.filter p := by
  cases n <;> exact ⟨_, rfl⟩

theorem unstable_grows {n : Nat} (h : ¬ Stable states R init n) :
    (lfpIter states R init n).length < (lfpIter states R init (n+1)).length :=
  Nat.lt_of_not_le fun hle => h
    ((canon_sublist (lfpIter_is_filter n) (lfpIter_is_filter (n+1))
      fun _ => lfpIter_mono).eq_of_length_le hle).symm

/-- pigeonhole: some round `k ≤ |states|` is stable -/
theorem exists_stable : ∃ k, k ≤ states.length ∧ Stable states R init k := by
  -- otherwise each of the first `|states|+1` rounds adds a state
  apply Classical.byContradiction
  intro hno
  have grow : ∀ n, n ≤ states.length + 1 → n ≤ (lfpIter states R init n).length := by
    intro n
    induction n with
    | zero => exact fun _ => Nat.zero_le _
    | succ n ih =>
      exact fun hn => Nat.lt_of_le_of_lt (ih (Nat.le_of_succ_le hn))
        (unstable_grows fun hs => hno ⟨n, Nat.le_of_succ_le_succ hn, hs⟩)
  have hlen := grow _ (Nat.le_refl _)
  obtain ⟨p, hp⟩ := lfpIter_is_filter (states := states) (R := R) (init := init) (states.length + 1)
  rw [hp] at hlen
  exact Nat.not_succ_le_self _ (Nat.le_trans hlen (List.length_filter_le ..))

theorem stable_forever {k m : Nat} (hs : Stable states R init k) (hm : k ≤ m) :
    lfpIter states R init m = lfpIter states R init k := by
  induction hm with
  | refl => rfl
  | step _ ih => exact (congrArg (stepF states R init) ih).trans hs

theorem stable_of_le {k m : Nat} (hs : Stable states R init k) (hm : k ≤ m) : Stable states R init m := by
  unfold Stable
  rw [stable_forever hs hm, stable_forever hs (Nat.le_succ_of_le hm)]

theorem stable_closed (hc : Complete states) {k : Nat} (hs : Stable states R init k)
    {s t : σ} (h : s ∈ lfpIter states R init k) (hr : R s t = true) : t ∈ lfpIter states R init k := by
  rw [← hs]
  exact mem_stepF.mpr ⟨hc t, Or.inr (Or.inr (mem_post.mpr ⟨hc t, s, h, hr⟩))⟩

theorem stable_length : Stable states R init states.length := by
  obtain ⟨k, hk, hs⟩ := exists_stable (states := states) (R := R) (init := init)
  exact stable_of_le hs hk

theorem Stable.eq_lfp {k : Nat} (hs : Stable states R init k) :
    lfpIter states R init k = lfp states R init := by
  rcases Nat.le_total k states.length with h | h
  · exact (stable_forever hs h).symm
  · exact stable_forever stable_length h

end

/-! ## The two loops of reach_trad.cc -/

/-- `reachset_no_frontier::compute`: `do { old = S; S = S ∪ post(S) } while (S != old)`.
    Returns the set and whether the loop stopped by its own test (`false`: out of fuel). -/
def noFrontierLoop (states : List σ) (R : σ → σ → Bool) : Nat → List σ → List σ × Bool
  | 0, S => (S, false)
  | fuel+1, S =>
    let next := post states R S
    let S' := union states S next
    if S' = S then (S', true) else noFrontierLoop states R fuel S'

def bfsNoFrontier (states : List σ) (R : σ → σ → Bool) (init : List σ) : List σ × Bool :=
  noFrontierLoop states R (states.length + 1) (norm states init)

/-- `reachset_frontier::compute`:
    `loop { next = post(frnt); frnt = next \ reach; if (frnt == ∅) break; reach = reach ∪ frnt }` -/
def frontierLoop (states : List σ) (R : σ → σ → Bool) : Nat → List σ → List σ → List σ × Bool
  | 0, reach, _ => (reach, false)
  | fuel+1, reach, frnt =>
    let next := post states R frnt
    let frnt' := diff states next reach
    if frnt' = [] then (reach, true)
    else frontierLoop states R fuel (union states reach frnt') frnt'

def bfsFrontier (states : List σ) (R : σ → σ → Bool) (init : List σ) : List σ × Bool :=
  frontierLoop states R (states.length + 1) (norm states init) (norm states init)

section
variable {states : List σ} {R : σ → σ → Bool} {init : List σ}

theorem union_post_eq_succ (hc : Complete states) (n : Nat) :
    union states (lfpIter states R init n) (post states R (lfpIter states R init n))
      = lfpIter states R init (n+1) := by
  -- `init` is inside every round already
  refine canon_ext ⟨_, rfl⟩ (lfpIter_is_filter (n+1)) fun x => mem_union.trans (.trans ?_ mem_stepF.symm)
  exact and_congr_right fun _ => ⟨.inr, fun h => h.elim (fun hi => .inl (init_sub_lfpIter hc hi)) id⟩

/-- A loop run with fuel `fuel+1` from round `n`, when the stop condition `P` holds in
    round `n + fuel`: it is enough to treat a stopping round and one step. -/
theorem by_fuel {P : Nat → Prop} {Q : Nat → Nat → Prop} (stop : ∀ fuel n, P n → Q fuel n)
    (step : ∀ fuel n, ¬ P n → Q fuel (n+1) → Q (fuel+1) n) : ∀ fuel n, P (n + fuel) → Q fuel n := by
  intro fuel
  induction fuel with
  | zero => exact stop 0
  | succ fuel ih =>
    intro n h
    by_cases hp : P n
    · exact stop _ n hp
    · exact step fuel n hp (ih (n+1) (by rwa [Nat.add_right_comm]))

theorem noFrontierLoop_spec (hc : Complete states) :
    ∀ fuel n, Stable states R init (n + fuel) →
      noFrontierLoop states R (fuel+1) (lfpIter states R init n) = (lfp states R init, true) := by
  refine by_fuel (fun fuel n hs => ?_) (fun fuel n hns ih => ?_)
  · unfold Stable at hs
    unfold noFrontierLoop
    simp only [union_post_eq_succ hc n]
    rw [if_pos hs, hs, Stable.eq_lfp hs]
  · unfold Stable at hns
    unfold noFrontierLoop
    simp only [union_post_eq_succ hc n]
    rw [if_neg hns]
    exact ih

/-- loop invariant of the frontier loop after `n` rounds -/
structure FrontInv (states : List σ) (R : σ → σ → Bool) (init : List σ) (n : Nat) (reach frnt : List σ) : Prop where
  reach_eq : reach = lfpIter states R init n
  frnt_sub : ∀ s, s ∈ frnt → s ∈ reach
  border : ∀ s t, s ∈ reach → R s t = true → t ∉ reach → s ∈ frnt

theorem frontier_step (hc : Complete states) {n : Nat} {reach frnt : List σ}
    (inv : FrontInv states R init n reach frnt) :
    (diff states (post states R frnt) reach = [] ↔ Stable states R init n) ∧
    FrontInv states R init (n+1) (union states reach (diff states (post states R frnt) reach))
      (diff states (post states R frnt) reach) := by
  have hU : union states reach (diff states (post states R frnt) reach) = lfpIter states R init (n+1) := by
    rw [← union_post_eq_succ hc n, ← inv.reach_eq]
    refine canon_ext ⟨_, rfl⟩ ⟨_, rfl⟩ fun x => ?_
    rw [mem_union, mem_union]
    refine and_congr_right fun hx => ⟨Or.imp_right fun h => ?_, fun h => ?_⟩
    · obtain ⟨_, u, hu, hr⟩ := mem_post.mp (mem_diff.mp h).2.1
      exact mem_post.mpr ⟨hx, u, inv.frnt_sub u hu, hr⟩
    · by_cases hin : x ∈ reach
      · exact .inl hin
      · obtain ⟨_, u, hu, hr⟩ := mem_post.mp (h.resolve_left hin)
        exact .inr (mem_diff.mpr ⟨hx, mem_post.mpr ⟨hx, u, inv.border u x hu hr hin, hr⟩, hin⟩)
  have hnew : ∀ x, x ∈ lfpIter states R init (n+1) ↔
      x ∈ reach ∨ x ∈ diff states (post states R frnt) reach := fun x => by
    rw [← hU, mem_union]; exact and_iff_right (hc x)
  refine ⟨⟨fun hnil => ?_, fun hs => ?_⟩, hU, fun s hs => mem_union.mpr ⟨hc s, Or.inr hs⟩, ?_⟩
  · refine canon_ext (lfpIter_is_filter (n+1)) (lfpIter_is_filter n) fun x => ?_
    rw [hnew, hnil, ← inv.reach_eq]
    exact or_iff_left (List.not_mem_nil)
  · refine List.eq_nil_iff_forall_not_mem.mpr fun x hx => (mem_diff.mp hx).2.2 ?_
    unfold Stable at hs
    rw [inv.reach_eq, ← hs]
    exact (hnew x).mpr (Or.inr hx)
  · intro s t hs hr hnt
    rw [hU] at hs hnt
    -- had `s` been reached before, `t` would have been added in this round
    refine ((hnew s).mp hs).resolve_left fun h => hnt ?_
    rw [inv.reach_eq] at h
    exact mem_stepF.mpr ⟨hc t, .inr (.inr (mem_post.mpr ⟨hc t, s, h, hr⟩))⟩

theorem frontierLoop_spec (hc : Complete states) :
    ∀ fuel n, Stable states R init (n + fuel) → ∀ reach frnt, FrontInv states R init n reach frnt →
      frontierLoop states R (fuel+1) reach frnt = (lfp states R init, true) := by
  refine by_fuel (fun fuel n hs reach frnt inv => ?_) (fun fuel n hns ih reach frnt inv => ?_)
  · unfold frontierLoop
    simp only [(frontier_step hc inv).1.mpr hs, if_true]
    rw [inv.reach_eq, hs.eq_lfp]
  · obtain ⟨hstop, inv'⟩ := frontier_step hc inv
    unfold frontierLoop
    simp only [mt hstop.mp hns, if_false]
    exact ih _ _ inv'

end

/-! ## Distances: shortest paths, and the distance loop of reach_trad.cc -/

/-- the successive rounds `[S, F S, F (F S), …]` (`n+1` entries), computed once -/
def layers (states : List σ) (R : σ → σ → Bool) (init : List σ) : Nat → List σ → List (List σ)
  | 0, S => [S]
  | n+1, S => S :: layers states R init n (stepF states R init S)

/-- least `k` in `[start, start+fuel)` with `p k` -/
def firstFrom (p : Nat → Bool) : Nat → Nat → Option Nat
  | 0, _ => none
  | fuel+1, k => if p k then some k else firstFrom p fuel (k+1)

/-- shortest-path length from `init` by breadth-first layers; `none` = unreachable -/
def distIn (L : List (List σ)) (s : σ) : Option Nat :=
  firstFrom (fun k => decide (s ∈ L.getD k [])) L.length 0

def dist (states : List σ) (R : σ → σ → Bool) (init : List σ) (s : σ) : Option Nat :=
  distIn (layers states R init states.length (norm states init)) s

theorem firstFrom_eq_find (p : Nat → Bool) : ∀ fuel k, firstFrom p fuel k = (List.range' k fuel).find? p
  | 0, _ => rfl
  | fuel+1, k => by
    rw [firstFrom, List.range'_succ, List.find?_cons, firstFrom_eq_find p fuel (k+1)]
    cases p k <;> rfl

theorem firstFrom_some {p : Nat → Bool} {fuel k n : Nat} :
    firstFrom p fuel k = some n ↔ k ≤ n ∧ n < k + fuel ∧ p n = true ∧ ∀ j, k ≤ j → j < n → p j = false := by
  rw [firstFrom_eq_find, List.find?_range'_eq_some, List.mem_range'_1]
  simp only [Bool.not_eq_true']
  exact ⟨fun ⟨h1, ⟨h2, h3⟩, h4⟩ => ⟨h2, h3, h1, h4⟩, fun ⟨h2, h3, h1, h4⟩ => ⟨h1, ⟨h2, h3⟩, h4⟩⟩

theorem firstFrom_none {p : Nat → Bool} {fuel k : Nat} :
    firstFrom p fuel k = none ↔ ∀ j, k ≤ j → j < k + fuel → p j = false := by
  rw [firstFrom_eq_find, List.find?_range'_eq_none]
  simp only [Bool.not_eq_true']

section
variable {states : List σ} {R : σ → σ → Bool} {init : List σ}

theorem layers_length (n : Nat) (S : List σ) : (layers states R init n S).length = n + 1 := by
  induction n generalizing S with
  | zero => rfl
  | succ n ih => simp [layers, ih]

theorem layers_getD (n k i : Nat) (hi : i ≤ n) :
    (layers states R init n (lfpIter states R init k)).getD i [] = lfpIter states R init (k + i) := by
  induction n generalizing k i with
  | zero => cases Nat.le_zero.mp hi; rfl
  | succ n ih =>
    cases i with
    | zero => rfl
    | succ i =>
      show (layers states R init n (lfpIter states R init (k+1))).getD i [] = _
      rw [ih (k+1) i (Nat.le_of_succ_le_succ hi), Nat.add_right_comm]
      rfl

theorem layers_getD_zero {i : Nat} (hi : i ≤ states.length) :
    (layers states R init states.length (norm states init)).getD i [] = lfpIter states R init i :=
  (layers_getD states.length 0 i hi).trans (by rw [Nat.zero_add])

theorem dist_eq_some_iff {s : σ} {n : Nat} :
    dist states R init s = some n ↔
      n ≤ states.length ∧ s ∈ lfpIter states R init n ∧ ∀ j, j < n → s ∉ lfpIter states R init j := by
  unfold dist distIn
  rw [firstFrom_some, layers_length, Nat.zero_add]
  constructor
  · rintro ⟨_, h2, h3, h4⟩
    have hn : n ≤ states.length := Nat.le_of_lt_succ h2
    rw [layers_getD_zero hn, decide_eq_true_eq] at h3
    refine ⟨hn, h3, fun j hj => ?_⟩
    have := h4 j (Nat.zero_le j) hj
    rwa [layers_getD_zero (Nat.le_trans (Nat.le_of_lt hj) hn), decide_eq_false_iff_not] at this
  · rintro ⟨h1, h2, h3⟩
    refine ⟨Nat.zero_le n, Nat.lt_succ_of_le h1, ?_, fun j _ hj => ?_⟩
    · rw [layers_getD_zero h1]; exact decide_eq_true h2
    · rw [layers_getD_zero (Nat.le_trans (Nat.le_of_lt hj) h1)]; exact decide_eq_false (h3 j hj)

theorem lfp_mem_iff (hc : Complete states) (s : σ) :
    s ∈ lfp states R init ↔ Reachable R init s := by
  refine ⟨fun h => ?_, fun h => ?_⟩
  · obtain ⟨m, _, hp⟩ := (lfpIter_iff_path hc).mp h
    exact hp.reachable
  · induction h with
    | base h => exact init_sub_lfpIter hc h
    | step _ hr ih => exact stable_closed hc stable_length ih hr

/-- The distance-valued variants: `dist s = some n` iff `n` is the length of a shortest path from
    the initial set to `s`. -/
theorem dist_eq_shortest (hc : Complete states) (s : σ) (n : Nat) :
    dist states R init s = some n ↔
      PathLen R init n s ∧ ∀ m, PathLen R init m s → n ≤ m := by
  have hpath : ∀ {j}, s ∈ lfpIter states R init j ↔ ∃ m, m ≤ j ∧ PathLen R init m s :=
    lfpIter_iff_path hc
  rw [dist_eq_some_iff]
  constructor
  · rintro ⟨_, h2, h3⟩
    have hmin : ∀ j, PathLen R init j s → n ≤ j := fun j hj =>
      Nat.le_of_not_lt fun h => h3 j h (hpath.mpr ⟨j, Nat.le_refl j, hj⟩)
    obtain ⟨m, hm, hp⟩ := hpath.mp h2
    cases Nat.le_antisymm hm (hmin m hp)
    exact ⟨hp, hmin⟩
  · rintro ⟨hp, hmin⟩
    obtain ⟨m, hm, hpm⟩ := hpath.mp ((lfp_mem_iff hc s).mpr hp.reachable)
    refine ⟨Nat.le_trans (hmin m hpm) hm, hpath.mpr ⟨n, Nat.le_refl n, hp⟩, fun j hj hin => ?_⟩
    obtain ⟨m', hm', hp'⟩ := hpath.mp hin
    exact absurd (Nat.le_trans (hmin m' hp') hm') (Nat.not_le.mpr hj)

/-- … and the 'unreachable' value exactly at the states that are not reachable. -/
theorem dist_none_iff (hc : Complete states) (s : σ) :
    dist states R init s = none ↔ ¬ Reachable R init s := by
  unfold dist distIn
  rw [firstFrom_none, layers_length, ← lfp_mem_iff hc, Nat.zero_add]
  constructor
  · intro h
    have := h states.length (Nat.zero_le _) (Nat.lt_succ_self _)
    rwa [layers_getD_zero (Nat.le_refl _), decide_eq_false_iff_not] at this
  · intro h j _ hj
    rw [layers_getD_zero (Nat.le_of_lt_succ hj)]
    exact decide_eq_false fun hin => h (lfpIter_mono_le (Nat.le_of_lt_succ hj) hin)

theorem dist_le_of_path (hc : Complete states) {s : σ} {n : Nat} (hp : PathLen R init n s) :
    ∃ d, d ≤ n ∧ dist states R init s = some d := by
  cases hd : dist states R init s with
  | none => exact absurd hp.reachable ((dist_none_iff hc s).mp hd)
  | some d => exact ⟨d, ((dist_eq_shortest hc s d).mp hd).2 n hp, rfl⟩

theorem dist_pred (hc : Complete states) {t : σ} {m : Nat} (ht : dist states R init t = some (m+1)) :
    ∃ s, R s t = true ∧ dist states R init s = some m := by
  obtain ⟨hp, hmin⟩ := (dist_eq_shortest hc t (m+1)).mp ht
  cases hp with
  | @step _ s _ hps hr =>
    exact ⟨s, hr, (dist_eq_shortest hc s m).mpr
      ⟨hps, fun j hj => Nat.le_of_succ_le_succ (hmin (j+1) (.step hj hr))⟩⟩

theorem dist_eq_zero_iff (hc : Complete states) (s : σ) :
    dist states R init s = some 0 ↔ s ∈ init := by
  rw [dist_eq_shortest hc]
  exact ⟨fun ⟨hp, _⟩ => by cases hp with | base h => exact h, fun h => ⟨.base h, fun m _ => Nat.zero_le m⟩⟩

end

/-- minimum of two distances, `none` = unreachable (DIST_MIN on MT integers with "negative =
    unreachable", MINIMUM on EV+ with +infinity) -/
def dmin : Option Nat → Option Nat → Option Nat
  | none, b => b
  | a, none => a
  | some a, some b => some (min a b)

def minList : List (Option Nat) → Option Nat
  | [] => none
  | x :: xs => dmin x (minList xs)

/-- POST_IMAGE on distance functions: one plus the minimum over the predecessors -/
def distImage (states : List σ) (R : σ → σ → Bool) (D : σ → Option Nat) : σ → Option Nat :=
  fun t => (minList ((states.filter (fun s => R s t)).map D)).map (· + 1)

/-- one round of the no-frontier loop on distances: `D := min(D, image(D))` -/
def distStep (states : List σ) (R : σ → σ → Bool) (D : σ → Option Nat) : σ → Option Nat :=
  fun s => dmin (D s) (distImage states R D s)

/-- `reachset_no_frontier::compute` with accumulateOp = DIST_MIN / MINIMUM -/
def distLoop (states : List σ) (R : σ → σ → Bool) : Nat → (σ → Option Nat) → (σ → Option Nat) × Bool
  | 0, D => (D, false)
  | fuel+1, D =>
    let D' := distStep states R D
    if states.all (fun s => D' s == D s) then (D', true) else distLoop states R fuel D'

def distNoFrontier (states : List σ) (R : σ → σ → Bool) (init : List σ) : (σ → Option Nat) × Bool :=
  distLoop states R (states.length + 1) (fun s => if s ∈ init then some 0 else none)

theorem minList_mem : ∀ {l : List (Option Nat)} {m : Nat}, minList l = some m → some m ∈ l
  | x :: xs, m, h => by
    rw [minList] at h
    cases x with
    | none => exact List.mem_cons_of_mem _ (minList_mem h)
    | some a =>
      cases hr : minList xs with
      | none => rw [hr] at h; exact h ▸ List.mem_cons_self
      | some b =>
        rw [hr] at h
        cases Option.some.inj h
        rcases Nat.le_total a b with hab | hab
        · rw [Nat.min_eq_left hab]; exact List.mem_cons_self
        · rw [Nat.min_eq_right hab]; exact List.mem_cons_of_mem _ (minList_mem hr)

theorem minList_le : ∀ {l : List (Option Nat)} {k : Nat}, some k ∈ l → ∃ m, minList l = some m ∧ m ≤ k
  | x :: xs, k, h => by
    rw [minList]
    rcases List.mem_cons.mp h with rfl | h
    · cases minList xs with
      | none => exact ⟨k, rfl, Nat.le_refl k⟩
      | some b => exact ⟨min k b, rfl, Nat.min_le_left k b⟩
    · obtain ⟨m, hm, hmk⟩ := minList_le h
      rw [hm]
      cases x with
      | none => exact ⟨m, rfl, hmk⟩
      | some a => exact ⟨min a m, rfl, Nat.le_trans (Nat.min_le_right a m) hmk⟩

theorem minList_none {l : List (Option Nat)} : minList l = none ↔ ∀ x, x ∈ l → x = none := by
  refine ⟨fun h x hx => ?_, fun h => ?_⟩
  · cases x with
    | none => rfl
    | some k => obtain ⟨m, hm, _⟩ := minList_le hx; rw [h] at hm; cases hm
  · cases hm : minList l with
    | none => rfl
    | some m => cases h _ (minList_mem hm)

theorem minList_some {l : List (Option Nat)} {m : Nat} :
    minList l = some m ↔ some m ∈ l ∧ ∀ k, some k ∈ l → m ≤ k := by
  refine ⟨fun h => ⟨minList_mem h, fun k hk => ?_⟩, fun ⟨h1, h2⟩ => ?_⟩
  · obtain ⟨m', hm', hle⟩ := minList_le hk
    rw [h] at hm'; cases hm'; exact hle
  · obtain ⟨m', hm', hle⟩ := minList_le h1
    rw [hm', Nat.le_antisymm hle (h2 m' (minList_mem hm'))]

section
variable {states : List σ} {R : σ → σ → Bool} {init : List σ}

/-- the distance function cut off at `n` rounds -/
def truncDist (states : List σ) (R : σ → σ → Bool) (init : List σ) (n : Nat) (s : σ) : Option Nat :=
  (dist states R init s).filter fun d => decide (d ≤ n)

theorem truncDist_some {n k : Nat} {s : σ} :
    truncDist states R init n s = some k ↔ dist states R init s = some k ∧ k ≤ n := by
  rw [truncDist, Option.filter_eq_some_iff, decide_eq_true_eq]

theorem truncDist_none {n : Nat} {s : σ} :
    truncDist states R init n s = none ↔ ∀ d, dist states R init s = some d → n < d := by
  rw [truncDist, Option.filter_eq_none_iff]
  exact forall₂_congr fun d _ => by rw [decide_eq_true_eq, Nat.not_le]

theorem truncDist_succ_of_ne {n : Nat} {s : σ} (h : dist states R init s ≠ some (n+1)) :
    truncDist states R init (n+1) s = truncDist states R init n s :=
  Option.ext fun k => by
    rw [truncDist_some, truncDist_some]
    exact ⟨fun ⟨hd, hk⟩ => ⟨hd, Nat.le_of_lt_succ (Nat.lt_of_le_of_ne hk fun e => h (by subst e; exact hd))⟩,
      fun ⟨hd, hk⟩ => ⟨hd, Nat.le_succ_of_le hk⟩⟩

theorem dmin_none_right (a : Option Nat) : dmin a none = a := by cases a <;> rfl

theorem distStep_trunc (hc : Complete states) (n : Nat) (t : σ) :
    distStep states R (truncDist states R init n) t = truncDist states R init (n+1) t := by
  have hmem : ∀ k, some k ∈ (states.filter (fun s => R s t)).map (truncDist states R init n) ↔
      ∃ s, R s t = true ∧ dist states R init s = some k ∧ k ≤ n := fun k => by
    simp only [List.mem_map, List.mem_filter]
    exact ⟨fun ⟨s, ⟨_, hr⟩, hs⟩ => ⟨s, hr, truncDist_some.mp hs⟩,
      fun ⟨s, hr, hs⟩ => ⟨s, ⟨hc s, hr⟩, truncDist_some.mpr hs⟩⟩
  unfold distStep distImage
  cases hm : minList ((states.filter (fun s => R s t)).map (truncDist states R init n)) with
  | none =>
    -- no predecessor within distance `n`: `t` is not at distance `n+1`, the old value stays
    rw [Option.map_none, dmin_none_right]
    refine (truncDist_succ_of_ne fun hdt => ?_).symm
    obtain ⟨s, hr, hs⟩ := dist_pred hc hdt
    exact nomatch minList_none.mp hm _ ((hmem n).mpr ⟨s, hr, hs, Nat.le_refl n⟩)
  | some m =>
    -- the nearest predecessor is at distance `m ≤ n`, so `t` is at distance `d ≤ m+1`
    obtain ⟨s, hr, hs, hmn⟩ := (hmem m).mp (minList_some.mp hm).1
    obtain ⟨d, hle, hd⟩ := dist_le_of_path hc (.step ((dist_eq_shortest hc s m).mp hs).1 hr)
    rcases Nat.lt_or_ge n d with hlt | hge
    · obtain rfl : d = n + 1 := by omega
      obtain rfl : m = n := by omega
      rw [truncDist_none.mpr fun d' hd' => by rw [hd] at hd'; cases hd'; exact hlt,
        truncDist_some.mpr ⟨hd, Nat.le_refl _⟩]
      rfl
    · rw [truncDist_some.mpr ⟨hd, hge⟩, truncDist_some.mpr ⟨hd, Nat.le_succ_of_le hge⟩]
      exact congrArg some (Nat.min_eq_left hle)

theorem truncDist_zero (hc : Complete states) (s : σ) :
    (if s ∈ init then some 0 else none) = truncDist states R init 0 s := by
  by_cases h : s ∈ init
  · rw [if_pos h, truncDist_some.mpr ⟨(dist_eq_zero_iff hc s).mpr h, Nat.le_refl 0⟩]
  · rw [if_neg h, truncDist_none.mpr fun d hd =>
      Nat.pos_of_ne_zero fun e => h ((dist_eq_zero_iff hc s).mp (e ▸ hd))]

/-- no state sits exactly at distance `n+1` -/
def LevelEmpty (states : List σ) (R : σ → σ → Bool) (init : List σ) (n : Nat) : Prop :=
  ∀ s, dist states R init s ≠ some (n+1)

theorem levelEmpty_all (hc : Complete states) {n : Nat} (h : LevelEmpty states R init n) :
    ∀ d s, dist states R init s = some d → d ≤ n
  | 0, _, _ => Nat.zero_le n
  | d+1, s, hd => by
    obtain ⟨u, _, hu⟩ := dist_pred hc hd
    refine Nat.lt_of_le_of_ne (levelEmpty_all hc h d u hu) fun e => ?_
    subst e; exact h s hd

theorem trunc_succ_eq_iff {n : Nat} :
    (∀ s, truncDist states R init (n+1) s = truncDist states R init n s) ↔ LevelEmpty states R init n :=
  ⟨fun h s hs => Nat.not_succ_le_self n
      (truncDist_some.mp ((h s).symm.trans (truncDist_some.mpr ⟨hs, Nat.le_refl _⟩))).2,
    fun h s => truncDist_succ_of_ne (h s)⟩

theorem distLoop_spec (hc : Complete states) :
    ∀ fuel n, LevelEmpty states R init (n + fuel) →
      ∀ D : σ → Option Nat, D = truncDist states R init n →
      (distLoop states R (fuel+1) D).2 = true ∧
        ∀ s, (distLoop states R (fuel+1) D).1 s = dist states R init s := by
  -- the loop's stop test sees exactly whether level `n+1` is empty
  have htest : ∀ n, (states.all fun s => distStep states R (truncDist states R init n) s ==
      truncDist states R init n s) = true ↔ LevelEmpty states R init n := by
    intro n
    rw [List.all_eq_true, ← trunc_succ_eq_iff]
    exact ⟨fun h s => (distStep_trunc hc n s).symm.trans (eq_of_beq (h s (hc s))),
      fun h s _ => beq_iff_eq.mpr ((distStep_trunc hc n s).trans (h s))⟩
  refine by_fuel (fun fuel n hle D hD => ?_) (fun fuel n hne ih D hD => ?_)
  · subst hD
    unfold distLoop
    simp only [(htest n).mpr hle, if_true, true_and]
    -- no state lies beyond distance `n`, so nothing is cut off
    exact fun s => (distStep_trunc hc n s).trans (Option.ext fun k => truncDist_some.trans
      ⟨And.left, fun e => ⟨e, Nat.le_succ_of_le (levelEmpty_all hc hle k s e)⟩⟩)
  · subst hD
    unfold distLoop
    simp only [mt (htest n).mp hne, if_false, Bool.false_eq_true]
    exact ih _ (funext (distStep_trunc hc n))

end

/-! ## Saturation: chaotic iteration over a split relation -/

/-- union of a list of relations -/
def unionRel (pieces : List (σ → σ → Bool)) : σ → σ → Bool := fun a b => pieces.any (fun P => P a b)

/-- `Chaotic pieces init S`: `S` is obtained from `init` by a finite sequence of steps, each of
    which keeps the current set and adds only states that some single piece `P` reaches in one
    step from the current set (a step may add any subset of `post P S`, e.g. the effect of firing
    one matrix entry of one event at one node). -/
inductive Chaotic (pieces : List (σ → σ → Bool)) (init : List σ) : (σ → Prop) → Prop
  | start : Chaotic pieces init (fun s => s ∈ init)
  | fire {S S' : σ → Prop} (P : σ → σ → Bool) : P ∈ pieces → Chaotic pieces init S →
      (∀ s, S s → S' s) → (∀ t, S' t → S t ∨ ∃ s, S s ∧ P s t = true) → Chaotic pieces init S'

/-- closed under one relation -/
def ClosedUnder (P : σ → σ → Bool) (S : σ → Prop) : Prop := ∀ s t, S s → P s t = true → S t

theorem Chaotic.contains_init {pieces : List (σ → σ → Bool)} {init : List σ} {S : σ → Prop}
    (h : Chaotic pieces init S) : ∀ s, s ∈ init → S s := by
  induction h with
  | start => intro s hs; exact hs
  | fire _ _ _ hsub _ ih => intro s hs; exact hsub s (ih s hs)

theorem Chaotic.sound {pieces : List (σ → σ → Bool)} {init : List σ} {S : σ → Prop}
    (h : Chaotic pieces init S) : ∀ s, S s → Reachable (unionRel pieces) init s := by
  induction h with
  | start => intro s hs; exact .base hs
  | fire P hP _ _ hadd ih =>
    intro t ht
    rcases hadd t ht with h | ⟨s, hs, hr⟩
    · exact ih t h
    · refine .step (ih s hs) ?_
      exact List.any_eq_true.mpr ⟨P, hP, hr⟩

/-! ## The split by common diagonal (fillSplit)

  States are vectors `x_K :: … :: x_1 :: []` (top variable first).  At the top variable of size
  `sz` the relation `M` is split into the *common diagonal* `D a b := ∀ i < sz, M (i::a) (i::b)`
  (the part that does not care about the top variable: it is continued at the next level, lifted
  with the identity on the top variable) and the rest `M \ (I × D)` (`top_exactly[k]`).  -/

/-- identity on the top variable, `P` below -/
def liftId (P : List Nat → List Nat → Bool) : List Nat → List Nat → Bool
  | i :: a, j :: b => i == j && P a b
  | _, _ => false

/-- the common diagonal of `M` at a top variable of size `sz` -/
def commonDiag (sz : Nat) (M : List Nat → List Nat → Bool) : List Nat → List Nat → Bool :=
  fun a b => (List.range sz).all (fun i => M (i :: a) (i :: b))

/-- `top_exactly`: the relation minus its lifted common diagonal -/
def topExactly (sz : Nat) (M : List Nat → List Nat → Bool) : List Nat → List Nat → Bool :=
  fun x y => M x y && !(liftId (commonDiag sz M) x y)

/-- the pieces `top_exactly[K], …, top_exactly[1]`, each lifted to full state vectors -/
def splitPieces : List Nat → (List Nat → List Nat → Bool) → List (List Nat → List Nat → Bool)
  | [], _ => []
  | sz :: rest, M => topExactly sz M :: (splitPieces rest (commonDiag sz M)).map liftId

/-- what is left at the bottom of the split: the constant `top_at_or_below[0]` (dropped by
    fillSplit: it can only relate a state to itself) -/
def splitRest : List Nat → (List Nat → List Nat → Bool) → Bool
  | [], M => M [] []
  | sz :: rest, M => splitRest rest (commonDiag sz M)

/-- state vectors of the domain with sizes `sizes` (top variable first) -/
def InDom : List Nat → List Nat → Prop
  | [], x => x = []
  | sz :: rest, x => ∃ i a, x = i :: a ∧ i < sz ∧ InDom rest a

section
variable {M P : List Nat → List Nat → Bool} {a b : List Nat}

theorem liftId_cons {i j : Nat} :
    liftId P (i :: a) (j :: b) = true ↔ i = j ∧ P a b = true := by
  simp [liftId]

theorem commonDiag_true {sz : Nat} :
    commonDiag sz M a b = true ↔ ∀ i, i < sz → M (i :: a) (i :: b) = true := by
  simp [commonDiag]

theorem splitPieces_sub {sizes : List Nat} {x y : List Nat}
    (hx : InDom sizes x) (hP : P ∈ splitPieces sizes M) (h : P x y = true) : M x y = true := by
  induction sizes generalizing M P x y with
  | nil => cases hP
  | cons sz rest ih =>
    obtain ⟨i, a, rfl, hi, ha⟩ := hx
    rcases List.mem_cons.mp hP with rfl | hP
    · simp only [topExactly, Bool.and_eq_true] at h; exact h.1
    · obtain ⟨Q, hQ, rfl⟩ := List.mem_map.mp hP
      cases y with
      | nil => simp [liftId] at h
      | cons j b =>
        obtain ⟨rfl, hq⟩ := liftId_cons.mp h
        exact commonDiag_true.mp (ih ha hQ hq) i hi

end

theorem reachable_sub_selfloops {τ : Type} {R R' : τ → τ → Bool} {init : List τ} {Dom : τ → Prop}
    (hinit : ∀ s, s ∈ init → Dom s) (hclosed : ∀ s t, Dom s → R s t = true → Dom t)
    (h : ∀ s t, Dom s → Dom t → R s t = true → R' s t = true ∨ s = t) {s : τ}
    (hr : Reachable R init s) : Reachable R' init s ∧ Dom s := by
  induction hr with
  | base hs => exact ⟨.base hs, hinit _ hs⟩
  | @step u t _ hut ih =>
    have ht := hclosed u t ih.2 hut
    rcases h u t ih.2 ht hut with h' | rfl
    · exact ⟨.step ih.1 h', ht⟩
    · exact ih

/-! ## Property theorems -/

section
variable {states : List σ} {R : σ → σ → Bool} {init : List σ}

/-- `|states|` rounds of `S ↦ init ∪ S ∪ post R S` hold exactly the states reachable from `init`
    in zero or more steps: this list is the specification every reachability operation of
    ops_builtin.h is compared with. -/
theorem lfpIter_spec (hc : Complete states) (s : σ) :
    s ∈ lfp states R init ↔ Reachable R init s :=
  lfp_mem_iff hc s

example : lfp (List.finRange 4) (fun a b => decide (b.val = a.val + 1 ∧ a.val ≠ 2)) [1] = [1, 2] := by decide +kernel

/-- REACHABLE_TRAD_NOFS (`reachset_no_frontier::compute`): the loop stops by its own test within
    `|states|+1` rounds and returns exactly the least fixed point - the identical canonical set,
    no state missing, none extra. -/
theorem bfs_nofrontier_eq_lfp (hc : Complete states) :
    bfsNoFrontier states R init = (lfp states R init, true) :=
  noFrontierLoop_spec hc states.length 0 (by rw [Nat.zero_add]; exact stable_length)

example : bfsNoFrontier (List.finRange 5) (fun a b => decide (b.val = (a.val + 2) % 5 ∧ a.val ≠ 4)) [0]
    = ([0, 2, 4], true) := by decide +kernel

/-- REACHABLE_TRAD_FS (`reachset_frontier::compute`): the frontier becomes empty within
    `|states|+1` rounds and the accumulated set is exactly the least fixed point. -/
theorem bfs_frontier_eq_lfp (hc : Complete states) :
    bfsFrontier states R init = (lfp states R init, true) :=
  frontierLoop_spec hc states.length 0 (by rw [Nat.zero_add]; exact stable_length) _ _
    ⟨rfl, fun _ h => h, fun s _ h _ _ => h⟩

example : bfsFrontier (List.finRange 5) (fun a b => decide (b.val = (a.val + 2) % 5 ∧ a.val ≠ 4)) [0]
    = ([0, 2, 4], true) := by decide +kernel

/-- Both breadth-first algorithms return the identical set (hence, in a canonical forest, the
    identical edge), and membership in it is reachability in zero or more steps. -/
theorem bfs_algorithms_agree (hc : Complete states) :
    (bfsFrontier states R init).1 = (bfsNoFrontier states R init).1 ∧
    ∀ s, s ∈ (bfsFrontier states R init).1 ↔ Reachable R init s := by
  rw [bfs_frontier_eq_lfp hc, bfs_nofrontier_eq_lfp hc]
  exact ⟨rfl, lfpIter_spec hc⟩

example : (bfsFrontier (List.finRange 3) (fun a b => decide (a = b)) [2]).1 =
    (bfsNoFrontier (List.finRange 3) (fun a b => decide (a = b)) [2]).1 := by decide +kernel

/-- PRE_IMAGE is POST_IMAGE of the converse relation. -/
theorem pre_eq_post_conv (S : List σ) : pre states R S = post states (conv R) S := rfl

/-- The backward operations (REACHABLE_TRAD_*(false)) are the forward ones on the converse
    relation and return exactly the states from which the target set can be reached. -/
theorem bfs_backward_spec (hc : Complete states) (s : σ) :
    (s ∈ (bfsNoFrontier states (conv R) init).1 ↔ CoReachable R init s) ∧
    (s ∈ (bfsFrontier states (conv R) init).1 ↔ CoReachable R init s) := by
  rw [bfs_frontier_eq_lfp hc, bfs_nofrontier_eq_lfp hc]
  exact ⟨(lfpIter_spec hc s).trans reachable_conv_iff, (lfpIter_spec hc s).trans reachable_conv_iff⟩

example : (bfsNoFrontier (List.finRange 4) (conv (fun a b => decide (b.val = a.val + 1))) [2]).1
    = [0, 1, 2] := by decide +kernel

example : (List.finRange 5).map (dist (List.finRange 5) (fun a b => decide (b.val = (a.val + 2) % 5 ∧ a.val ≠ 4)) [0])
    = [some 0, none, some 1, none, some 2] := by decide +kernel

/-- REACHABLE_TRAD_NOFS on distance functions (`reachset_no_frontier::compute` with image =
    "one plus the minimum over the predecessors" and accumulate = DIST_MIN / MINIMUM): the loop
    stops by its own test within `|states|+1` rounds and returns, for every state, the length of
    a shortest path from the initial set, and the 'unreachable' value elsewhere. -/
theorem dist_nofrontier_eq_dist (hc : Complete states) :
    (distNoFrontier states R init).2 = true ∧
    ∀ s, (distNoFrontier states R init).1 s = dist states R init s := by
  refine distLoop_spec hc states.length 0 (fun s hs => ?_) _ (funext (truncDist_zero hc))
  rw [Nat.zero_add] at hs
  exact Nat.not_succ_le_self _ (dist_eq_some_iff.mp hs).1

example : (List.finRange 5).map (distNoFrontier (List.finRange 5) (fun a b => decide (b.val = (a.val + 2) % 5 ∧ a.val ≠ 4)) [0]).1
    = [some 0, none, some 1, none, some 2] := by decide +kernel

end

/-- Chaotic iteration (what saturation's correctness reduces to): ANY sequence of firings of
    pieces of a split relation that ends in a set closed under every piece ends in exactly the
    set reachable under the union of the pieces - only reachable states are ever added, and a
    closed superset of the initial set contains every reachable state.  The order in which
    `saturate_1` / `recFire` fire events is one such schedule. -/
theorem chaotic_eq_lfp {pieces : List (σ → σ → Bool)} {init : List σ} {S : σ → Prop}
    (h : Chaotic pieces init S) (hclosed : ∀ P, P ∈ pieces → ClosedUnder P S) (s : σ) :
    S s ↔ Reachable (unionRel pieces) init s := by
  constructor
  · exact h.sound s
  · intro hr
    induction hr with
    | base hi => exact h.contains_init _ hi
    | step _ hr ih =>
      obtain ⟨P, hP, hp⟩ := List.any_eq_true.mp hr
      exact hclosed P hP _ _ ih hp

example : ∃ S : Fin 3 → Prop, Chaotic [fun a b => decide (a.val = 0 ∧ b.val = 1), fun a b => decide (a.val = 1 ∧ b.val = 2)] [0] S
    ∧ S 2 := by
  refine ⟨fun s => s ∈ [0] ∨ s = 1 ∨ s = 2, ?_, Or.inr (Or.inr rfl)⟩
  exact Chaotic.fire (S := fun s => s ∈ [0] ∨ s = 1) _ (List.mem_cons_of_mem _ List.mem_cons_self)
    (Chaotic.fire (S := fun s => s ∈ [0]) _ List.mem_cons_self Chaotic.start (by decide) (by decide))
    (by decide) (by decide)

/-- `fillSplit` (split of the relation by common diagonal into `top_exactly[K..1]`): on states of
    the domain the relation is the union of the pieces, up to the bottom constant, which can only
    relate a state to itself. -/
theorem split_union {sizes : List Nat} {M : List Nat → List Nat → Bool} {x y : List Nat}
    (hx : InDom sizes x) (hy : InDom sizes y) :
    M x y = true ↔ unionRel (splitPieces sizes M) x y = true ∨ (x = y ∧ splitRest sizes M = true) := by
  simp only [unionRel, List.any_eq_true]
  induction sizes generalizing M x y with
  | nil =>
    cases hx; cases hy
    simp [splitPieces, splitRest]
  | cons sz rest ih =>
    obtain ⟨i, a, rfl, hi, ha⟩ := hx
    obtain ⟨j, b, rfl, hj, hb⟩ := hy
    have IH := ih (M := commonDiag sz M) ha hb
    constructor
    · intro hM
      by_cases hd : liftId (commonDiag sz M) (i :: a) (j :: b) = true
      · obtain ⟨rfl, hD⟩ := liftId_cons.mp hd
        rcases IH.mp hD with ⟨Q, hQ, hq⟩ | ⟨rfl, hr⟩
        · exact Or.inl ⟨liftId Q, List.mem_cons_of_mem _ (List.mem_map.mpr ⟨Q, hQ, rfl⟩),
            liftId_cons.mpr ⟨rfl, hq⟩⟩
        · exact Or.inr ⟨rfl, hr⟩
      · refine Or.inl ⟨topExactly sz M, List.mem_cons_self, ?_⟩
        simp only [topExactly, hM, Bool.eq_false_iff.mpr hd, Bool.not_false, Bool.and_self]
    · rintro (⟨P, hP, hp⟩ | ⟨hxy, hr⟩)
      · exact splitPieces_sub (sizes := sz :: rest) ⟨i, a, rfl, hi, ha⟩ hP hp
      · obtain ⟨rfl, rfl⟩ := List.cons.inj hxy
        exact commonDiag_true.mp (IH.mpr (.inr ⟨rfl, hr⟩)) i hi

example : (splitPieces [2, 2] (fun x y => decide (x = [0, 0] ∧ y = [0, 1] ∨ x = [1, 0] ∧ y = [1, 1] ∨ x = [0, 1] ∧ y = [1, 1]))).map
    (fun P => (P [0, 0] [0, 1], P [1, 0] [1, 1], P [0, 1] [1, 1])) = [(false, false, true), (true, true, false)] := by decide +kernel

/-- The split is reachability-preserving: the states reachable under the union of the pieces
    `top_exactly[k]` are exactly the states reachable under the relation. -/
theorem reachable_split {sizes : List Nat} {M : List Nat → List Nat → Bool} {init : List (List Nat)}
    (hinit : ∀ s, s ∈ init → InDom sizes s)
    (hM : ∀ x y, InDom sizes x → M x y = true → InDom sizes y) (s : List Nat) :
    Reachable M init s ↔ Reachable (unionRel (splitPieces sizes M)) init s := by
  have hsub : ∀ x y, InDom sizes x → unionRel (splitPieces sizes M) x y = true → M x y = true :=
    fun x y hx h => by
      obtain ⟨P, hP, hp⟩ := List.any_eq_true.mp h
      exact splitPieces_sub hx hP hp
  exact ⟨fun h => (reachable_sub_selfloops hinit hM
      (fun x y hx hy h => ((split_union hx hy).mp h).imp id And.left) h).1,
    fun h => (reachable_sub_selfloops hinit (fun x y hx h => hM x y hx (hsub x y hx h))
      (fun x y hx _ h => .inl (hsub x y hx h)) h).1⟩

/-- Saturation, scheduling-independent part: any chaotic firing of the pieces produced by the
    split that ends in a set closed under every piece ends in exactly the set reachable under the
    ORIGINAL relation.  (The decision-diagram recursion that realises one such schedule is modelled in
    Ops/Saturation.lean; its compute-table entries are not modelled.) -/
theorem saturation_schedule_correct {sizes : List Nat} {M : List Nat → List Nat → Bool}
    {init : List (List Nat)} {S : List Nat → Prop}
    (hinit : ∀ s, s ∈ init → InDom sizes s)
    (hM : ∀ x y, InDom sizes x → M x y = true → InDom sizes y)
    (h : Chaotic (splitPieces sizes M) init S)
    (hclosed : ∀ P, P ∈ splitPieces sizes M → ClosedUnder P S) (s : List Nat) :
    S s ↔ Reachable M init s :=
  (chaotic_eq_lfp h hclosed s).trans (reachable_split hinit hM s).symm

/-
  The decision-diagram recursion of satur_sets.cc (`saturate_1`, `recFire`) is modelled on trees in
  Ops/Saturation.lean and proved to return the least fixed point in Ops/SaturationProofs.lean
  (`Satur.satur_eq_lfp`); its compute tables (`saturate` / `satfire`: known finding F4) and the
  per-level explorer queues are not modelled.  What this file contributes is independence of the
  schedule: any order of firing the pieces that ends closed under every piece ends in the reachable set.
-/

/-- Same statement as `saturation_schedule_correct`, under the name DESIGN.md §5 C08 uses. -/
theorem satur_eq_lfp_partial {sizes : List Nat} {M : List Nat → List Nat → Bool}
    {init : List (List Nat)} {S : List Nat → Prop}
    (hinit : ∀ s, s ∈ init → InDom sizes s)
    (hM : ∀ x y, InDom sizes x → M x y = true → InDom sizes y)
    (h : Chaotic (splitPieces sizes M) init S)
    (hclosed : ∀ P, P ∈ splitPieces sizes M → ClosedUnder P S) (s : List Nat) :
    S s ↔ Reachable M init s :=
  saturation_schedule_correct hinit hM h hclosed s

example : ∀ s, (fun x => x = [0] ∨ x = [1]) s ↔
    Reachable (fun x y => decide (x = [0] ∧ y = [1])) [[0]] s := by
  apply satur_eq_lfp_partial (sizes := [2])
  · intro s hs; simp at hs; subst hs; exact ⟨0, [], rfl, by omega, rfl⟩
  · intro x y _ h; simp at h; obtain ⟨_, rfl⟩ := h; exact ⟨1, [], rfl, by omega, rfl⟩
  · refine Chaotic.fire (S := fun x => x ∈ [[0]]) _ List.mem_cons_self Chaotic.start ?_ ?_
    · intro s hs; simp at hs; exact Or.inl hs
    · rintro t (h | h)
      · exact Or.inl (by simp [h])
      · exact Or.inr ⟨[0], by simp, by subst h; decide⟩
  · intro P hP x y hx hp
    simp only [splitPieces, List.map_nil, List.mem_cons, List.not_mem_nil, or_false] at hP
    subst hP
    simp only [topExactly, Bool.and_eq_true, decide_eq_true_eq] at hp
    exact Or.inr hp.1.2

end Reach
end Meddly

/-
  #print axioms (Lean 4.33.0), property theorems of this file:

  'Meddly.Reach.lfpIter_spec' depends on axioms: [propext, Classical.choice, Quot.sound]
  'Meddly.Reach.bfs_nofrontier_eq_lfp' depends on axioms: [propext, Classical.choice, Quot.sound]
  'Meddly.Reach.bfs_frontier_eq_lfp' depends on axioms: [propext, Classical.choice, Quot.sound]
  'Meddly.Reach.bfs_algorithms_agree' depends on axioms: [propext, Classical.choice, Quot.sound]
  'Meddly.Reach.pre_eq_post_conv' does not depend on any axioms
  'Meddly.Reach.bfs_backward_spec' depends on axioms: [propext, Classical.choice, Quot.sound]
  'Meddly.Reach.dist_eq_shortest' depends on axioms: [propext, Classical.choice, Quot.sound]
  'Meddly.Reach.dist_none_iff' depends on axioms: [propext, Classical.choice, Quot.sound]
  'Meddly.Reach.dist_nofrontier_eq_dist' depends on axioms: [propext, Classical.choice, Quot.sound]
  'Meddly.Reach.chaotic_eq_lfp' depends on axioms: [propext, Quot.sound]
  'Meddly.Reach.split_union' depends on axioms: [propext, Classical.choice, Quot.sound]
  'Meddly.Reach.reachable_split' depends on axioms: [propext, Classical.choice, Quot.sound]
  'Meddly.Reach.saturation_schedule_correct' depends on axioms: [propext, Classical.choice, Quot.sound]
  'Meddly.Reach.satur_eq_lfp_partial' depends on axioms: [propext, Classical.choice, Quot.sound]
  (Spec/ReachTables.lean)
  'Meddly.Spec.ReachTables.reachList_spec' depends on axioms: [propext, Classical.choice, Quot.sound]
  'Meddly.Spec.ReachTables.distList_spec' depends on axioms: [propext, Quot.sound]
-/
