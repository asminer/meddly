/-
  C13 — variable reordering, part 2: RELATION forests (all three reduction rules) and EV+ sets.

  `Ops/Reorder.lean` proves the adjacent swap for multi-terminal SET forests without
  identity-reduced positions.  This file adds

  A. Relations (`mtmxd_forest::swapAdjacentVariablesByVarSwap` / `swapAdjacentVariablesOf`).
     A relation over K variables is a tree over the positions 2K … 1 (position 2k = unprimed
     level k, position 2k-1 = primed level -k).  Swapping the adjacent VARIABLES k and k+1
     exchanges the position PAIRS (2k+2, 2k+1) and (2k, 2k-1).  With `b = 2k-1` the four
     positions are `b+3, b+2, b+1, b`.  `relSwapDD` rebuilds the four positions with `mkNode`
     (the model of `createReducedNode`) of the TARGET shape from the four-fold cofactors
     `[i][i'][j][j'] ↦ [j][j'][i][i']`; `cofactor` is threaded with the arriving index exactly
     as in `apply2`, so that an identity-skipped primed position is expanded to the diagonal
     (what the C++ spells out as `q != p ⇒ transparent`, `n != m ⇒ transparent`) and `mkNode`
     re-eliminates identity patterns in the new places.  Fully-, quasi- and identity-reduced
     relations are all instances of the shape hypothesis `RelSwapShape`.

  B. The decomposition of `swapAdjacentVariablesByLevelSwap` (four adjacent POSITION swaps:
     middle, top, bottom, middle) at the tree level, for shapes without `ident` positions,
     using `swapAdjDD` of `Ops/Reorder.lean`.

  C. EV+ sets (`evmdd_pluslong::swapAdjacentVariables`): `swapAdjE` rebuilds the positions
     `k+1, k` with `mkNodeEV` (`normalize_evplus` + `createReducedNode`) from the pushed-down
     child edges `cofactorE` (`sum_evs[j][k] = ev1 + ev2` in the code).

  D. Schedules: any list of adjacent variable swaps preserves the function of the (renamed)
     variables and reducedness.
-/
import MeddlyModel.Core.DD
import MeddlyModel.Core.Canon
import MeddlyModel.Ops.Apply
import MeddlyModel.Ops.ApplyProofs
import MeddlyModel.Ops.Reorder
import MeddlyModel.Core.EV
import MeddlyModel.Core.EVCanon
import MeddlyModel.Core.EVNode
import MeddlyModel.Ops.EVApply

namespace Meddly


namespace DD
variable {α : Type} [DecidableEq α]

/-! ## Part A — the variable swap on relation trees -/

/-- `S'` is `S` with the position PAIRS `(b+3, b+2)` and `(b+1, b)` exchanged — sizes and
    skipping modes travel with the variables.  `b` is the primed position of the lower
    variable (`b = 2k-1` for MEDDLY's `swapAdjacentVariables(k)`).

    Pair structure of the modes: the two upper positions of the pairs (`b+3`, `b+1`: unprimed
    levels) and the position below the block (`b-1`: the unprimed level of the next variable,
    or the terminal position 0) are not `ident`; with `Shape.WF` this says that an `ident`
    position inside the block (`b+2` or `b`) sits below the `red` partner of its own pair.
    Fully reduced (all `red`), quasi reduced (all `none`) and identity reduced (`b+3, b+1`
    `red`, `b+2, b` `ident`) relations are instances. -/
structure RelSwapShape (S S' : Shape) (b : Nat) : Prop where
  base : 1 ≤ b
  fits : b + 1 + 1 + 1 ≤ S.top
  top : S'.top = S.top
  size0 : S'.size b = S.size (b+1+1)
  size1 : S'.size (b+1) = S.size (b+1+1+1)
  size2 : S'.size (b+1+1) = S.size b
  size3 : S'.size (b+1+1+1) = S.size (b+1)
  size_other : ∀ p, p ≠ b → p ≠ b+1 → p ≠ b+1+1 → p ≠ b+1+1+1 → S'.size p = S.size p
  mode0 : S'.mode b = S.mode (b+1+1)
  mode1 : S'.mode (b+1) = S.mode (b+1+1+1)
  mode2 : S'.mode (b+1+1) = S.mode b
  mode3 : S'.mode (b+1+1+1) = S.mode (b+1)
  mode_other : ∀ p, p ≠ b → p ≠ b+1 → p ≠ b+1+1 → p ≠ b+1+1+1 → S'.mode p = S.mode p
  unprimed_lo : S.mode (b+1) ≠ .ident
  unprimed_hi : S.mode (b+1+1+1) ≠ .ident
  below : S.mode (b-1) ≠ .ident

theorem RelSwapShape.size_out {S S' : Shape} {b : Nat} (h : RelSwapShape S S' b) {p : Nat}
    (hp : p < b ∨ b+1+1+1 < p) : S'.size p = S.size p :=
  have ⟨h0, h1, h2, h3⟩ := block4_out hp
  h.size_other p h0 h1 h2 h3

theorem RelSwapShape.mode_out {S S' : Shape} {b : Nat} (h : RelSwapShape S S' b) {p : Nat}
    (hp : p < b ∨ b+1+1+1 < p) : S'.mode p = S.mode p :=
  have ⟨h0, h1, h2, h3⟩ := block4_out hp
  h.mode_other p h0 h1 h2 h3

theorem RelSwapShape.symm {S S' : Shape} {b : Nat} (h : RelSwapShape S S' b) :
    RelSwapShape S' S b where
  base := h.base
  fits := by rw [h.top]; exact h.fits
  top := h.top.symm
  size0 := h.size2.symm
  size1 := h.size3.symm
  size2 := h.size0.symm
  size3 := h.size1.symm
  size_other := fun p h0 h1 h2 h3 => (h.size_other p h0 h1 h2 h3).symm
  mode0 := h.mode2.symm
  mode1 := h.mode3.symm
  mode2 := h.mode0.symm
  mode3 := h.mode1.symm
  mode_other := fun p h0 h1 h2 h3 => (h.mode_other p h0 h1 h2 h3).symm
  unprimed_lo := by rw [h.mode1]; exact h.unprimed_hi
  unprimed_hi := by rw [h.mode3]; exact h.unprimed_lo
  below := by
    rw [h.mode_out (Or.inl (Nat.sub_lt h.base Nat.one_pos))]; exact h.below

theorem RelSwapShape.valid {S S' : Shape} {b : Nat} (h : RelSwapShape S S' b) {a : Assign}
    (ha : Assign.Valid S' a) : Assign.Valid S (relSwapA b a) := by
  intro p h1 h2
  have hf : b+1+1+1 ≤ S'.top := h.top ▸ h.fits
  have hf2 := Nat.le_of_succ_le hf
  have hf1 := Nat.le_of_succ_le hf2
  rcases block4_cases b p with rfl | rfl | rfl | rfl | ho
  · rw [relSwapA_0, ← h.size2]; exact ha _ (Nat.succ_pos _) hf2
  · rw [relSwapA_1, ← h.size3]; exact ha _ (Nat.succ_pos _) hf
  · rw [relSwapA_2, ← h.size0]; exact ha _ h.base (Nat.le_of_succ_le hf1)
  · rw [relSwapA_3, ← h.size1]; exact ha _ (Nat.succ_pos _) hf1
  · rw [relSwapA_out b a ho, ← h.size_out ho]; exact ha p h1 (h.top ▸ h2)

theorem RelSwapShape.wf {S S' : Shape} {b : Nat} (h : RelSwapShape S S' b) (hS : S.WF) :
    S'.WF where
  -- `2 ≤ size p` is validity of the constant assignment 1, which the renaming leaves alone
  size_ge := fun p h1 h2 => by
    have := h.symm.valid (a := fun _ => 1) hS.size_ge p h1 h2
    simp only [relSwapA, ite_self] at this
    exact this
  ident_below_red := by
    intro p hp
    -- an `ident` position of the block is the lower one of a pair and travels with its partner
    rcases block4_cases b p with rfl | rfl | rfl | rfl | ho
    · rw [h.mode0] at hp
      obtain ⟨_, _, hr, hsz⟩ := hS.ident_below_red _ hp
      exact ⟨h.base, by rw [h.top]; exact Nat.le_of_succ_le (Nat.le_of_succ_le h.fits),
        by rw [h.mode1]; exact hr, by rw [h.size1, h.size0]; exact hsz⟩
    · rw [h.mode1] at hp; exact absurd hp h.unprimed_hi
    · rw [h.mode2] at hp
      obtain ⟨_, _, hr, hsz⟩ := hS.ident_below_red _ hp
      exact ⟨Nat.succ_pos _, by rw [h.top]; exact h.fits, by rw [h.mode3]; exact hr,
        by rw [h.size3, h.size2]; exact hsz⟩
    · rw [h.mode3] at hp; exact absurd hp h.unprimed_lo
    · rw [h.mode_out ho] at hp
      obtain ⟨h1, h2, hr, hsz⟩ := hS.ident_below_red _ hp
      -- outside the block; not directly below it, since position `b-1` is not `ident`
      have ho' : p + 1 < b ∨ b+1+1+1 < p + 1 :=
        ho.elim (fun l => (Nat.eq_or_lt_of_le l).elim (fun e => by subst e; exact absurd hp h.below) Or.inl)
          (fun r => Or.inr (Nat.lt_succ_of_lt r))
      exact ⟨h1, by rw [h.top]; exact h2, by rw [h.mode_out ho']; exact hr,
        by rw [h.size_out ho', h.size_out ho]; exact hsz⟩

/-- the cofactor `d[i][i'][j][j']` of the block `b+3, b+2, b+1, b`, with the arriving index
    threaded as in `apply2`: the index taken at an unprimed position is what an
    identity-skipped primed position below it is compared with -/
def cof4 (S : Shape) (zero : α) (b : Nat) (fi : Option Nat) (d : DD α) (i i' j j' : Nat) : DD α :=
  cofactor S zero b (some j)
    (cofactor S zero (b+1) (some i')
      (cofactor S zero (b+1+1) (some i)
        (cofactor S zero (b+1+1+1) fi d i) i') j) j'

/-- new primed low node (`plnb`): position `b`, indexed by the old upper primed index `i'` -/
def swapNode0 (S S' : Shape) (zero : α) (b : Nat) (fi : Option Nat) (d : DD α) (j j' i : Nat) :
    DD α :=
  mkNode S' zero b (some i) ((List.range (S'.size b)).map fun i' => cof4 S zero b fi d i i' j j')

/-- new unprimed low node (`lnb`): position `b+1`, indexed by the old upper unprimed index `i` -/
def swapNode1 (S S' : Shape) (zero : α) (b : Nat) (fi : Option Nat) (d : DD α) (j j' : Nat) :
    DD α :=
  mkNode S' zero (b+1) (some j')
    ((List.range (S'.size (b+1))).map fun i => swapNode0 S S' zero b fi d j j' i)

/-- new primed high node (`phnb`): position `b+2`, indexed by the old lower primed index `j'` -/
def swapNode2 (S S' : Shape) (zero : α) (b : Nat) (fi : Option Nat) (d : DD α) (j : Nat) : DD α :=
  mkNode S' zero (b+1+1) (some j)
    ((List.range (S'.size (b+1+1))).map fun j' => swapNode1 S S' zero b fi d j j')

/-- the rebuilt block (`hnb`, `swapAdjacentVariablesOf`): position `b+3`, indexed by the old
    lower unprimed index `j` -/
def swap4 (S S' : Shape) (zero : α) (b : Nat) (fi : Option Nat) (d : DD α) : DD α :=
  mkNode S' zero (b+1+1+1) fi
    ((List.range (S'.size (b+1+1+1))).map fun j => swapNode2 S S' zero b fi d j)

/-- The variable swap on relation trees, read from position `p` downwards (arriving index
    `fi`): above the block nodes are rebuilt over their swapped children, the block is
    rebuilt by `swap4`, everything below `b` is left untouched. -/
def relSwapDD (S S' : Shape) (zero : α) (b : Nat) : Nat → Option Nat → DD α → DD α
  | 0, _, d => d
  | p+1, fi, d =>
    if p + 1 ≤ b + 1 + 1 then d
    else if p = b + 1 + 1 then swap4 S S' zero b fi d
    else
      mkNode S' zero (p+1) fi ((List.range (S'.size (p+1))).map fun i =>
        relSwapDD S S' zero b p (some i) (cofactor S zero (p+1) fi d i))

section
variable (S S' : Shape) (zero : α)

theorem relSwapDD_at (b : Nat) (fi : Option Nat) (d : DD α) :
    relSwapDD S S' zero b (b+1+1+1) fi d = swap4 S S' zero b fi d :=
  (if_neg (Nat.not_succ_le_self _)).trans (if_pos rfl)

theorem relSwapDD_above (b : Nat) {p : Nat} (h : b + 1 + 1 + 1 ≤ p)
    (fi : Option Nat) (d : DD α) :
    relSwapDD S S' zero b (p+1) fi d =
      mkNode S' zero (p+1) fi ((List.range (S'.size (p+1))).map fun i =>
        relSwapDD S S' zero b p (some i) (cofactor S zero (p+1) fi d i)) :=
  (if_neg (Nat.not_le_of_gt (Nat.lt_succ_of_lt h))).trans (if_neg (Nat.ne_of_gt h))

theorem relSwapDD_below (b : Nat) {p : Nat} (h : p ≤ b + 1 + 1)
    (fi : Option Nat) (d : DD α) : relSwapDD S S' zero b p fi d = d := by
  cases p with
  | zero => rfl
  | succ p => exact if_pos h

theorem cof4_ok (c : Nat) (fi : Option Nat) (d : DD α)
    (hd : Below (c+1+1+1+1) d ∧ WFTree d) (i i' j j' : Nat) :
    Below c (cof4 S zero (c+1) fi d i i' j j') ∧ WFTree (cof4 S zero (c+1) fi d i i' j j') :=
  cofactor_ok S zero c (some j) _ j' (cofactor_ok S zero (c+1) (some i') _ j
    (cofactor_ok S zero (c+1+1) (some i) _ i' (cofactor_ok S zero (c+1+1+1) fi d i hd)))

theorem swap4_ok (c : Nat) (fi : Option Nat) (d : DD α)
    (hd : Below (c+1+1+1+1) d ∧ WFTree d) :
    Below (c+1+1+1+1) (swap4 S S' zero (c+1) fi d) ∧ WFTree (swap4 S S' zero (c+1) fi d) :=
  mkNode_map_ok S' zero (c+1+1+1) _ _ _ fun j =>
    mkNode_map_ok S' zero (c+1+1) _ _ _ fun j' =>
      mkNode_map_ok S' zero (c+1) _ _ _ fun i =>
        mkNode_map_ok S' zero c _ _ _ fun i' => cof4_ok S zero c fi d hd i i' j j'

theorem relSwapDD_ok (b : Nat) (hb1 : 1 ≤ b) :
    ∀ (p : Nat) (fi : Option Nat) (d : DD α), Below p d ∧ WFTree d →
      Below p (relSwapDD S S' zero b p fi d) ∧ WFTree (relSwapDD S S' zero b p fi d) := by
  obtain ⟨c, rfl⟩ := Nat.exists_eq_add_one_of_ne_zero (Nat.ne_of_gt hb1)
  intro p
  induction p with
  | zero => intro fi d hd; exact hd
  | succ p ih =>
    intro fi d hd
    rcases Nat.lt_trichotomy p (c+1+1+1) with h | rfl | h
    · rw [relSwapDD_below S S' zero (c+1) h]; exact hd
    · rw [relSwapDD_at]
      exact swap4_ok S S' zero c fi d hd
    · rw [relSwapDD_above S S' zero (c+1) h]
      exact mkNode_map_ok S' zero p fi _ _ fun i => ih (some i) _ (cofactor_ok S zero p fi d i hd)

/-- reading `d` from the top of the block is reading its four-fold cofactor below the block -/
theorem cof4_eval (c : Nat) (fi : Option Nat) (d : DD α) (x : Assign)
    (h3 : S.mode (c+1+1+1+1) ≠ .ident) (h1 : S.mode (c+1+1) ≠ .ident) :
    eval S zero (c+1+1+1+1) d x
      = eval S zero c
          (cof4 S zero (c+1) fi d (x (c+1+1+1+1)) (x (c+1+1+1)) (x (c+1+1)) (x (c+1))) x := by
  unfold cof4
  rw [cofactor_eval S zero (c+1+1+1) fi d x (fun hm => absurd hm h3),
    cofactor_eval S zero (c+1+1) (some (x (c+1+1+1+1))) _ x (fun _ => rfl),
    cofactor_eval S zero (c+1) (some (x (c+1+1+1))) _ x (fun hm => absurd hm h1),
    cofactor_eval S zero c (some (x (c+1+1))) _ x (fun _ => rfl)]

theorem swap4_eval (c : Nat) (h : RelSwapShape S S' (c+1))
    (fi : Option Nat) (d : DD α) (hd : Below (c+1+1+1+1) d ∧ WFTree d)
    (a : Assign) (ha : Assign.Valid S' a) :
    eval S' zero (c+1+1+1+1) (swap4 S S' zero (c+1) fi d) a
      = eval S zero (c+1+1+1+1) d (relSwapA (c+1) a) := by
  have ht3 : c+1+1+1+1 ≤ S'.top := h.top ▸ h.fits
  have ht2 := Nat.le_of_succ_le ht3
  have ht1 := Nat.le_of_succ_le ht2
  -- the nodes of the rebuilt block, innermost first, sit where they are built
  have h0 := fun j j' i => (mkNode_map_ok S' zero c (some i) (S'.size (c+1)) _
    fun i' => cof4_ok S zero c fi d hd i i' j j')
  have h1 := fun j j' => mkNode_map_ok S' zero (c+1) (some j') (S'.size (c+1+1)) _ (h0 j j')
  have h2 := fun j => mkNode_map_ok S' zero (c+1+1) (some j) (S'.size (c+1+1+1)) _ (h1 j)
  unfold swap4
  rw [mkNode_map_eval S' zero (c+1+1+1) fi _ (swapNode2 S S' zero (c+1) fi d) a rfl
      (ha _ (Nat.succ_pos _) ht3) (fun j => (h2 j).1) (fun hm => absurd (h.mode3 ▸ hm) h.unprimed_lo)]
  unfold swapNode2
  rw [mkNode_map_eval S' zero (c+1+1) _ _ (swapNode1 S S' zero (c+1) fi d _) a rfl
      (ha _ (Nat.succ_pos _) ht2) (fun j' => (h1 _ j').1) (fun _ => rfl)]
  unfold swapNode1
  rw [mkNode_map_eval S' zero (c+1) _ _ (swapNode0 S S' zero (c+1) fi d _ _) a rfl
      (ha _ (Nat.succ_pos _) ht1) (fun i => (h0 _ _ i).1) (fun _ => rfl)]
  unfold swapNode0
  rw [mkNode_map_eval S' zero c _ _ _ a rfl (ha _ (Nat.succ_pos _) (Nat.le_of_succ_le ht1))
      (fun i' => (cof4_ok S zero c fi d hd _ i' _ _).1) (fun _ => rfl),
    -- the untouched part below the block: same modes, reads none of the four positions
    DD.eval_mode_congr S' S zero c (fun q _ hq => h.mode_out (Or.inl (Nat.lt_succ_of_le hq))),
    eval_congr S zero c _ a (relSwapA (c+1) a)
      (fun p hp => (relSwapA_out (c+1) a (Or.inl (Nat.lt_succ_of_le hp))).symm)
      (fun hm => absurd hm h.below),
    cof4_eval S zero c fi d (relSwapA (c+1) a) h.unprimed_hi h.unprimed_lo,
    relSwapA_3, relSwapA_2, relSwapA_1, relSwapA_0]

/-- `relSwapDD` denotes the function with the two variable pairs exchanged, read from any
    position above the block. -/
theorem relSwapDD_eval_above (b : Nat) (h : RelSwapShape S S' b) :
    ∀ (p : Nat), b + 1 + 1 < p → ∀ (fi : Option Nat) (d : DD α), p ≤ S.top →
      Below p d ∧ WFTree d → ∀ (a : Assign), Assign.Valid S' a →
      (S.mode p = .ident → fi = some (a (p+1))) →
      eval S' zero p (relSwapDD S S' zero b p fi d) a = eval S zero p d (relSwapA b a) := by
  obtain ⟨c, rfl⟩ := Nat.exists_eq_add_one_of_ne_zero (Nat.ne_of_gt h.base)
  apply above_induction
  · intro fi d _ hd a ha _
    rw [relSwapDD_at]
    exact swap4_eval S S' zero c h fi d hd a ha
  · intro p hp' ih fi d ht hd a ha hfi
    have ho : c+1+1+1+1 < p+1 := Nat.succ_lt_succ hp'
    rw [relSwapDD_above S S' zero (c+1) hp',
      mkNode_map_eval S' zero p fi _ _ a rfl (ha _ (Nat.succ_pos p) (h.top ▸ ht))
        (fun i => (relSwapDD_ok S S' zero (c+1) h.base _ _ _ (cofactor_ok S zero p fi d i hd)).1)
        (fun hm => hfi (h.mode_out (Or.inr ho) ▸ hm)),
      ih (some (a (p+1))) _ (Nat.le_of_succ_le ht) (cofactor_ok S zero p fi d _ hd) a ha
        (fun _ => rfl),
      cofactor_eval S zero p fi d (relSwapA (c+1) a)
        (fun hm => by
          rw [relSwapA_out (c+1) a (p := p+2) (Or.inr (Nat.lt_succ_of_lt ho))]; exact hfi hm),
      relSwapA_out (c+1) a (Or.inr ho)]

theorem cof4_red (c : Nat) (fi : Option Nat) (d : DD α)
    (hr : Red S zero (c+1+1+1+1) fi d = true) (i i' j j' : Nat)
    (hi : i < S.size (c+1+1+1+1)) (hi' : i' < S.size (c+1+1+1)) (hj : j < S.size (c+1+1))
    (hj' : j' < S.size (c+1)) :
    Red S zero c (some j') (cof4 S zero (c+1) fi d i i' j j') = true :=
  Red_cofactor S zero c (some j) (some j) _ (Red_cofactor S zero (c+1) (some i') (some i') _
    (Red_cofactor S zero (c+1+1) (some i) (some i) _
      (Red_cofactor S zero (c+1+1+1) fi fi d hr i hi) i' hi') j hj) j' hj'

theorem swap4_red (c : Nat) (h : RelSwapShape S S' (c+1))
    (hS' : S'.WF) (fi : Option Nat) (d : DD α) (hr : Red S zero (c+1+1+1+1) fi d = true) :
    Red S' zero (c+1+1+1+1) fi (swap4 S S' zero (c+1) fi d) = true := by
  unfold swap4
  apply mkNode_map_red S' zero hS' (c+1+1+1) fi _ _ rfl _
    (fun _ => by rw [h.mode3]; exact h.unprimed_lo)
  intro j hj
  unfold swapNode2
  apply mkNode_map_red S' zero hS' (c+1+1) _ _ _ rfl _ (fun e => by cases e)
  intro j' hj'
  unfold swapNode1
  apply mkNode_map_red S' zero hS' (c+1) _ _ _ rfl _ (fun e => by cases e)
  intro i hi
  unfold swapNode0
  apply mkNode_map_red S' zero hS' c _ _ _ rfl _ (fun e => by cases e)
  intro i' hi'
  -- below the block the shapes agree, and position `c` is not `ident`
  apply Red_shape_congr S S' zero c
    (fun q hq => ⟨h.size_out (Or.inl (Nat.lt_succ_of_le hq)),
      h.mode_out (Or.inl (Nat.lt_succ_of_le hq))⟩)
  rw [Red_fi_irrel S zero c (some i') (some j') _ h.below]
  exact cof4_red S zero c fi d hr i i' j j' (h.size1 ▸ hi) (h.size0 ▸ hi') (h.size3 ▸ hj)
    (h.size2 ▸ hj')

theorem relSwapDD_red_above (b : Nat) (h : RelSwapShape S S' b)
    (hS' : S'.WF) :
    ∀ (p : Nat), b + 1 + 1 < p → ∀ (fi : Option Nat) (d : DD α),
      (fi = none → S.mode p ≠ .ident) → Red S zero p fi d = true →
      Red S' zero p fi (relSwapDD S S' zero b p fi d) = true := by
  obtain ⟨c, rfl⟩ := Nat.exists_eq_add_one_of_ne_zero (Nat.ne_of_gt h.base)
  apply above_induction
  · intro fi d _ hr
    rw [relSwapDD_at]
    exact swap4_red S S' zero c h hS' fi d hr
  · intro p hp' ih fi d hfi hr
    have ho : c+1+1+1+1 < p+1 := Nat.succ_lt_succ hp'
    rw [relSwapDD_above S S' zero (c+1) hp']
    apply mkNode_map_red S' zero hS' p fi _ _ rfl _
      (fun e => by rw [h.mode_out (Or.inr ho)]; exact hfi e)
    intro i hi
    exact ih (some i) _ (fun e => by cases e)
      (Red_cofactor S zero p fi fi d hr i (h.size_out (Or.inr ho) ▸ hi))

end

/-! ## Part B — `swapAdjacentVariablesByLevelSwap`: four adjacent position swaps -/

/-- the composition of the four adjacent POSITION swaps of `swapAdjacentVariablesByLevelSwap`
    (`x x' y y'` → `x y x' y'` → `y x x' y'` → `y x y' x'` → `y y' x x'`), each done by
    `swapAdjDD` of `Ops/Reorder.lean`; `S1 … S3` are the shapes of the intermediate orders -/
def levelSwap4 (S S1 S2 S3 S4 : Shape) (zero : α) (b : Nat) (d : DD α) : DD α :=
  swapAdjDD S3 S4 zero (b+1) S3.top
    (swapAdjDD S2 S3 zero b S2.top
      (swapAdjDD S1 S2 zero (b+1+1) S1.top
        (swapAdjDD S S1 zero (b+1) S.top d)))

/-- the four position swaps exchange the two pairs: for shapes without `ident` positions whose
    modes are uniform over the two pairs, the last shape is the target shape of the variable
    swap -/
theorem RelSwapShape.of_levelSwaps {S S1 S2 S3 S4 : Shape} {b : Nat}
    (h1 : SwapShape S S1 (b+1)) (h2 : SwapShape S1 S2 (b+1+1)) (h3 : SwapShape S2 S3 b)
    (h4 : SwapShape S3 S4 (b+1)) (hn : NoIdent S) (hb : 1 ≤ b) (hf : b + 1 + 1 + 1 ≤ S.top)
    (hm0 : S.mode (b+1+1) = S.mode b) (hm1 : S.mode (b+1+1+1) = S.mode (b+1)) :
    RelSwapShape S S4 b where
  base := hb
  fits := hf
  top := by rw [h4.top, h3.top, h2.top, h1.top]
  size0 := by
    rw [h4.size_below (Nat.lt_succ_self _), h3.size_lo, h2.size_below (Nat.lt_succ_self _),
      h1.size_lo]
  size1 := by
    rw [h4.size_lo, h3.size_above (Nat.lt_succ_self _), h2.size_lo,
      h1.size_above (Nat.lt_succ_self _)]
  size2 := by
    rw [h4.size_hi, h3.size_hi, h2.size_below (Nat.lt_succ_of_lt (Nat.lt_succ_self _)),
      h1.size_below (Nat.lt_succ_self _)]
  size3 := by
    rw [h4.size_above (Nat.lt_succ_self _), h3.size_above (Nat.lt_succ_of_lt (Nat.lt_succ_self _)),
      h2.size_hi, h1.size_hi]
  size_other := by
    intro p e0 e1 e2 e3
    rw [h4.size_other p e1 e2, h3.size_other p e0 e1, h2.size_other p e2 e3, h1.size_other p e1 e2]
  mode0 := by rw [h4.mode, h3.mode, h2.mode, h1.mode, hm0]
  mode1 := by rw [h4.mode, h3.mode, h2.mode, h1.mode, hm1]
  mode2 := by rw [h4.mode, h3.mode, h2.mode, h1.mode, hm0]
  mode3 := by rw [h4.mode, h3.mode, h2.mode, h1.mode, hm1]
  mode_other := by intro p _ _ _ _; rw [h4.mode, h3.mode, h2.mode, h1.mode]
  unprimed_lo := hn _
  unprimed_hi := hn _
  below := hn _

/-- `swapAdjacentVariables(k)` on a relation tree (`swapAdjacentVariablesByVarSwap`): the
    variables at levels `k` and `k+1` change places; the block starts at the primed position
    `2k-1` of the lower variable. -/
def swapVarRel (S S' : Shape) (zero : α) (k : Nat) (d : DD α) : DD α :=
  relSwapDD S S' zero (2*k-1) S.top none d

end DD

/-! ## Part C — the adjacent swap on EV+ trees -/

namespace EDD
open DD (SwapShape NoIdent swapA swapA_lo swapA_hi swapA_other)

section
variable (S S' : Shape)

/-- `eval` depends on the shape only through the skipping modes -/
theorem eval_mode_congr (hm : ∀ p, S'.mode p = S.mode p) :
    ∀ (p : Nat) (d : EDD) (a : Assign), eval S' p d a = eval S p d a := by
  intro p
  induction p with
  | zero => intro d a; cases d <;> rfl
  | succ p ih =>
    intro d a
    rcases storedAt_cases (p+1) d with ⟨cs, rfl⟩ | hd
    · rw [eval_succ_node, eval_succ_node]; unfold evalEdge; rw [ih]
    · rw [eval_succ_skip S' p a hd, eval_succ_skip S p a hd, hm (p+1), ih]

theorem evalEdge_mode_congr (hm : ∀ p, S'.mode p = S.mode p) (p : Nat)
    (e : Int × EDD) (a : Assign) : evalEdge S' p e a = evalEdge S p e a := by
  unfold evalEdge; rw [eval_mode_congr S S' hm]

/-- `Red … p` only looks at the sizes and modes of the positions `≤ p` -/
theorem Red_shape_congr :
    ∀ (p : Nat), (∀ q, q ≤ p → S'.size q = S.size q ∧ S'.mode q = S.mode q) →
      ∀ (fi : Option Nat) (d : EDD), Red S p fi d = true → Red S' p fi d = true := by
  intro p
  induction p with
  | zero =>
    intro _ fi d hr
    exact (Red_zero_iff S' fi d).mpr ((Red_zero_iff S fi d).mp hr)
  | succ p ih =>
    intro hq fi d hr
    have hq' : ∀ q, q ≤ p → S'.size q = S.size q ∧ S'.mode q = S.mode q :=
      fun q h => hq q (Nat.le_succ_of_le h)
    obtain ⟨hsz, hmd⟩ := hq (p+1) (Nat.le_refl _)
    have hok : edgeOK S' (p+1) fi d = edgeOK S (p+1) fi d := by unfold edgeOK; rw [hmd]
    rcases storedAt_cases (p+1) d with ⟨cs, rfl⟩ | hd
    · obtain ⟨h1, h2, h3⟩ := (Red_succ_node S p fi cs).mp hr
      exact (Red_succ_node S' p fi cs).mpr
        ⟨hok ▸ h1, by rw [hsz, hmd]; exact h2, fun i hi => ih hq' (some i) _ (h3 i hi)⟩
    · obtain ⟨h1, h2⟩ := Red_succ_skip S p fi hd hr
      exact Red_skip_intro S' p fi (hok ▸ h1) (ih hq' none d h2)

/-- the pushed-down child edges of a reduced target have reduced targets -/
theorem Red_cofactorE (p : Nat) (fi fj : Option Nat) (e : Int × EDD)
    (hr : Red S (p+1) fi e.2 = true) (i : Nat) (hi : i < S.size (p+1)) :
    Red S p (some i) (cofactorE S (p+1) fj e i).2 = true := by
  obtain ⟨v, d⟩ := e
  rcases storedAt_cases (p+1) d with ⟨cs, rfl⟩ | hd
  · obtain ⟨_, hloc, hch⟩ := (Red_succ_node S p fi cs).mp hr
    have hlen := ((evLocalOK_iff _ _ _ _ _).mp hloc).1
    rw [cofactorE_node]
    exact hch i (by rw [hlen]; exact hi)
  · obtain ⟨_, h2⟩ := Red_succ_skip S p fi hd hr
    rw [cofactorE_skip S (p+1) fj (v, d) i hd]
    rcases skipE_cases S (p+1) fj (v, d) i with h | h <;> rw [h]
    · exact Red_none_some S p i d h2
    · exact Red_inf S p (some i)

theorem mkNodeEV_map_Below (k : Nat) (fi : Option Nat) (n : Nat)
    (g : Nat → Int × EDD) (h : ∀ i, i < n → Below k (g i).2) :
    Below (k+1) (mkNodeEV S (k+1) fi ((List.range n).map g)).2 := by
  apply mkNodeEV_Below
  intro e he
  obtain ⟨i, hi, rfl⟩ := List.mem_map.mp he
  exact h i (List.mem_range.mp hi)

theorem mkNodeEV_map_eval (k : Nat) (fi : Option Nat) (g : Nat → Int × EDD) (x : Assign)
    (hx : x (k+1) < S.size (k+1)) (hb : ∀ i, i < S.size (k+1) → Below k (g i).2)
    (hfi : S.mode (k+1) = .ident → fi = some (x (k+2))) :
    evalEdge S (k+1) (mkNodeEV S (k+1) fi ((List.range (S.size (k+1))).map g)) x
      = evalEdge S k (g (x (k+1))) x := by
  rw [mkNodeEV_eval S k fi _ x (DD.length_map_range _ g) hx
      (fun e he => by
        obtain ⟨i, hi, rfl⟩ := List.mem_map.mp he
        exact hb i (List.mem_range.mp hi)) hfi,
    eval_succ_node, DD.getD_map_range _ _ _ hx]

theorem mkNodeEV_map_red (hS : S.WF) (k : Nat) (fi : Option Nat) (g : Nat → Int × EDD)
    (hch : ∀ i, i < S.size (k+1) → Red S k (some i) (g i).2 = true)
    (hfi : fi = none → S.mode (k+1) ≠ .ident) :
    RedEdge S (k+1) fi (mkNodeEV S (k+1) fi ((List.range (S.size (k+1))).map g)) = true := by
  apply mkNodeEV_red_targets S hS k fi _ (DD.length_map_range _ g) _ hfi
  intro i hi
  rw [DD.length_map_range] at hi
  rw [DD.getD_map_range _ _ _ hi]
  exact hch i hi

end

/-- new lower node (`low_nb`): position `k`, entries `sum_evs[i][j]` = pushed-down values -/
def swapLowE (S S' : Shape) (k : Nat) (fi : Option Nat) (e : Int × EDD) (j : Nat) : Int × EDD :=
  mkNodeEV S' k (some j) ((List.range (S'.size k)).map fun i =>
    cofactorE S k (some i) (cofactorE S (k+1) fi e i) j)

/-- The adjacent swap on EV+ edges, read from position `p` downwards
    (`evmdd_pluslong::swapAdjacentVariables`): the positions `k+1, k` are rebuilt with
    `mkNodeEV` from the pushed-down grandchild edges `e[i][j] ↦ [j][i]`; nodes above are rebuilt
    over their swapped children; everything below `k` is untouched. -/
def swapAdjE (S S' : Shape) (k : Nat) : Nat → Option Nat → (Int × EDD) → (Int × EDD)
  | 0, _, e => e
  | p+1, fi, e =>
    if p + 1 ≤ k then e
    else if p = k then
      mkNodeEV S' (k+1) fi ((List.range (S'.size (k+1))).map fun j => swapLowE S S' k fi e j)
    else
      mkNodeEV S' (p+1) fi ((List.range (S'.size (p+1))).map fun i =>
        swapAdjE S S' k p (some i) (cofactorE S (p+1) fi e i))

section
variable (S S' : Shape)

theorem swapAdjE_at (k : Nat) (fi : Option Nat) (e : Int × EDD) :
    swapAdjE S S' k (k+1) fi e =
      mkNodeEV S' (k+1) fi ((List.range (S'.size (k+1))).map fun j => swapLowE S S' k fi e j) :=
  (if_neg (Nat.not_succ_le_self k)).trans (if_pos rfl)

theorem swapAdjE_above (k : Nat) {p : Nat} (h : k < p) (fi : Option Nat)
    (e : Int × EDD) :
    swapAdjE S S' k (p+1) fi e =
      mkNodeEV S' (p+1) fi ((List.range (S'.size (p+1))).map fun i =>
        swapAdjE S S' k p (some i) (cofactorE S (p+1) fi e i)) :=
  (if_neg (Nat.not_le_of_gt (Nat.lt_succ_of_lt h))).trans (if_neg (Nat.ne_of_gt h))

/-- the target of the doubly pushed-down edge of a reduced target is reduced at the position below
    the pair -/
theorem cof2E_red (k' : Nat) (fi : Option Nat) (e : Int × EDD)
    (hr : Red S (k'+1+1) fi e.2 = true) (i j : Nat) (hi : i < S.size (k'+1+1))
    (hj : j < S.size (k'+1)) :
    Red S k' (some j) (cofactorE S (k'+1) (some i) (cofactorE S (k'+1+1) fi e i) j).2 = true :=
  Red_cofactorE S k' (some i) (some i) _ (Red_cofactorE S (k'+1) fi fi e hr i hi) j hj

/-- From any position above the pair, the swapped edge is a reduced edge of the swapped shape and
    denotes the function with positions `k`, `k+1` exchanged; only the TARGET of the input edge has
    to be reduced.  One induction: the denotation of a rebuilt node needs its new children to be
    reduced. -/
theorem swapAdjE_above_spec (k : Nat) (h : SwapShape S S' k) (hS : S.WF)
    (hn : NoIdent S) (hk : 1 ≤ k) (hk1 : k + 1 ≤ S.top) :
    ∀ (p : Nat), k < p → ∀ (fi : Option Nat) (e : Int × EDD), Red S p fi e.2 = true →
      RedEdge S' p fi (swapAdjE S S' k p fi e) = true ∧
      (p ≤ S.top → ∀ (a : Assign), Assign.Valid S' a →
        evalEdge S' p (swapAdjE S S' k p fi e) a = evalEdge S p e (swapA k a)) := by
  have hn' := h.noIdent hn
  have hS' : S'.WF := h.wf hS hn hk hk1
  obtain ⟨k', rfl⟩ := Nat.exists_eq_add_one_of_ne_zero (Nat.ne_of_gt hk)
  apply DD.above_induction
  · -- the rebuilt pair
    intro fi e hr
    rw [swapAdjE_at]
    refine ⟨?_, fun ht a ha => ?_⟩
    · apply mkNodeEV_map_red S' hS' (k'+1) fi _ _ (fun _ => hn' _)
      intro j hj
      refine ((RedEdge_iff _ _ _ _).mp ?_).1
      unfold swapLowE
      apply mkNodeEV_map_red S' hS' k' (some j) _ _ (fun e => by cases e)
      intro i hi
      apply Red_shape_congr S S' k'
        (fun q hq => ⟨h.size_below (Nat.lt_succ_of_le hq), h.mode q⟩)
      rw [Red_fi_irrel S k' (some i) (some j) _ (hn _)]
      exact cof2E_red S k' fi e hr i j (h.size_lo ▸ hi) (h.size_hi ▸ hj)
    · have ha1 : a (k'+1+1) < S'.size (k'+1+1) := ha _ (Nat.succ_pos _) (h.top ▸ ht)
      have hcof : ∀ i j, i < S'.size (k'+1) → j < S'.size (k'+1+1) →
          Below k' (cofactorE S (k'+1) (some i) (cofactorE S (k'+1+1) fi e i) j).2 :=
        fun i j hi hj => Red_Below S k' (some j) _
          (cof2E_red S k' fi e hr i j (h.size_lo ▸ hi) (h.size_hi ▸ hj))
      rw [mkNodeEV_map_eval S' (k'+1) fi (fun j => swapLowE S S' (k'+1) fi e j) a ha1
          (fun j hj => mkNodeEV_map_Below S' k' _ _ _ (fun i hi => hcof i j hi hj))
          (fun hm => absurd hm (hn' _))]
      unfold swapLowE
      rw [mkNodeEV_map_eval S' k' _ _ a (ha _ hk (h.top ▸ Nat.le_of_succ_le ht))
          (fun i hi => hcof i _ hi ha1) (fun hm => absurd hm (hn' _)),
        -- the untouched part below reads neither position
        evalEdge_mode_congr S S' h.mode,
        evalEdge_congr S k' _ a (swapA (k'+1) a)
          (fun p hp => (DD.swapA_below (k'+1) a (Nat.lt_succ_of_le hp)).symm)
          (fun hm => absurd hm (hn _)),
        cofactorE_eval S (k'+1) fi e (swapA (k'+1) a) (fun hm => absurd hm (hn _)),
        cofactorE_eval S k' (some (a (k'+1))) _ (swapA (k'+1) a) (fun hm => absurd hm (hn _)),
        swapA_hi, swapA_lo]
  · intro p hp' ih fi e hr
    have ho : k' + 1 + 1 < p + 1 := Nat.succ_lt_succ hp'
    have hrc : ∀ i, i < S'.size (p+1) →
        Red S' p (some i) (swapAdjE S S' (k'+1) p (some i) (cofactorE S (p+1) fi e i)).2 = true :=
      fun i hi => ((RedEdge_iff _ _ _ _).mp (ih (some i) _
        (Red_cofactorE S p fi fi e hr i (h.size_above ho ▸ hi))).1).1
    rw [swapAdjE_above S S' (k'+1) hp']
    refine ⟨mkNodeEV_map_red S' hS' p fi _ hrc (fun _ => hn' _), fun ht a ha => ?_⟩
    have hax : a (p+1) < S'.size (p+1) := ha _ (Nat.succ_pos p) (h.top ▸ ht)
    rw [mkNodeEV_map_eval S' p fi _ a hax (fun i hi => Red_Below S' p (some i) _ (hrc i hi))
        (fun hm => absurd hm (hn' _)),
      (ih (some (a (p+1))) _ (Red_cofactorE S p fi fi e hr _ (h.size_above ho ▸ hax))).2
        (Nat.le_of_succ_le ht) a ha,
      cofactorE_eval S p fi e (swapA (k'+1) a) (fun hm => absurd hm (hn _)),
      DD.swapA_above (k'+1) a ho]

end

end EDD

/-! ## Part D — orders and trees together: relations and EV+ sets under a schedule -/

namespace Reorder
open DD
variable {α : Type} [DecidableEq α]

/-- (0-based) index in the order of the variable that owns position `p ≥ 1` of a relation:
    positions `2i+2` (unprimed) and `2i+1` (primed) belong to level `i+1` -/
def varIdx (p : Nat) : Nat := (p + 1) / 2 - 1

/-- shape of a relation forest over variables with sizes `dom`, whose level `i+1` holds variable
    `o[i]`: rule `mu` at the unprimed (even) positions, `mp` at the primed (odd) positions.
    `(red, red)` = fully reduced, `(none, none)` = quasi reduced, `(red, ident)` = identity
    reduced. -/
def relShapeOf (dom : Nat → Nat) (mu mp : Mode) (o : Order) : Shape where
  top := 2 * o.length
  size := fun p => if p = 0 then 1 else dom (o.getD (varIdx p) 0)
  mode := fun p => if p % 2 = 1 ∧ p ≤ 2 * o.length then mp else mu

/-- the assignment of positions induced by an assignment of the VARIABLES under order `o`:
    `v x` is the unprimed ("from") value of variable `x`, `v' x` its primed ("to") value -/
def relVarAssign (o : Order) (v v' : Nat → Nat) : Assign :=
  fun p => if p = 0 then 0
           else if p % 2 = 0 then v (o.getD (varIdx p) 0) else v' (o.getD (varIdx p) 0)

/-- the admissible pairs of rules: the unprimed rule is never `ident`, and `ident` primed
    positions sit below `red` unprimed ones -/
def RelRule (mu mp : Mode) : Prop := mu ≠ .ident ∧ (mp = .ident → mu = .red)

/-! Position `2j+1` is the primed, `2j+2` the unprimed position of the variable with index `j`;
    the definitions are characterised by their values at these two forms. -/

theorem pos_cases (p : Nat) : p = 0 ∨ ∃ j, p = 2*j+1 ∨ p = 2*j+1+1 := by
  cases p with
  | zero => exact Or.inl rfl
  | succ p => exact Or.inr ⟨p/2, by omega⟩

theorem varIdx_primed (j : Nat) : varIdx (2*j+1) = j := by unfold varIdx; omega
theorem varIdx_unprimed (j : Nat) : varIdx (2*j+1+1) = j := by unfold varIdx; omega

section
variable (dom : Nat → Nat) (mu mp : Mode)

theorem relShapeOf_size_primed (o : Order) (j : Nat) :
    (relShapeOf dom mu mp o).size (2*j+1) = dom (o.getD j 0) := by
  simp only [relShapeOf, Nat.add_one_ne_zero, if_false, varIdx_primed]

theorem relShapeOf_size_unprimed (o : Order) (j : Nat) :
    (relShapeOf dom mu mp o).size (2*j+1+1) = dom (o.getD j 0) := by
  simp only [relShapeOf, Nat.add_one_ne_zero, if_false, varIdx_unprimed]

theorem relShapeOf_mode_even (o : Order) {p : Nat}
    (hp : p % 2 = 0) : (relShapeOf dom mu mp o).mode p = mu :=
  if_neg (fun h => by omega)

theorem relShapeOf_mode_unprimed (o : Order) (j : Nat) :
    (relShapeOf dom mu mp o).mode (2*j+1+1) = mu :=
  relShapeOf_mode_even dom mu mp o (by omega)

theorem relShapeOf_mode_primed (o : Order) (j : Nat) :
    (relShapeOf dom mu mp o).mode (2*j+1) = if j < o.length then mp else mu :=
  ite_congr (propext (by omega)) (fun _ => rfl) (fun _ => rfl)

theorem relShapeOf_mode_len (o o' : Order)
    (hl : o'.length = o.length) (p : Nat) :
    (relShapeOf dom mu mp o').mode p = (relShapeOf dom mu mp o).mode p := by
  simp only [relShapeOf, hl]

theorem relVarAssign_primed (o : Order) (v v' : Nat → Nat) (j : Nat) :
    relVarAssign o v v' (2*j+1) = v' (o.getD j 0) := by
  unfold relVarAssign
  rw [if_neg (Nat.succ_ne_zero _), if_neg (by omega), varIdx_primed]

theorem relVarAssign_unprimed (o : Order) (v v' : Nat → Nat) (j : Nat) :
    relVarAssign o v v' (2*j+1+1) = v (o.getD j 0) := by
  unfold relVarAssign
  rw [if_neg (Nat.succ_ne_zero _), if_pos (by omega), varIdx_unprimed]

/-- exchanging the variables at levels `i+1`, `i+2` of a relation exchanges the two position
    pairs `(2i+4, 2i+3)` and `(2i+2, 2i+1)`; `2i+3 = 2(i+1)+1` and `2i+4 = 2(i+1)+2` by
    computation -/
theorem relShapeOf_swap (hmu : mu ≠ .ident) (o : Order) (i : Nat)
    (hi : i + 1 < o.length) :
    RelSwapShape (relShapeOf dom mu mp o) (relShapeOf dom mu mp (swapAdj i o)) (2*i+1) where
  base := Nat.succ_pos _
  fits := Nat.mul_le_mul_left 2 hi
  top := congrArg (2 * ·) (swapAdj_length i o)
  size0 := by
    rw [relShapeOf_size_primed, swapAdj_getD_lo i o 0 hi]
    exact (relShapeOf_size_primed dom mu mp o (i+1)).symm
  size1 := by
    rw [relShapeOf_size_unprimed, swapAdj_getD_lo i o 0 hi]
    exact (relShapeOf_size_unprimed dom mu mp o (i+1)).symm
  size2 := by
    rw [relShapeOf_size_primed]
    exact (relShapeOf_size_primed dom mu mp _ (i+1)).trans
      (congrArg dom (swapAdj_getD_hi i o 0 hi))
  size3 := by
    rw [relShapeOf_size_unprimed]
    exact (relShapeOf_size_unprimed dom mu mp _ (i+1)).trans
      (congrArg dom (swapAdj_getD_hi i o 0 hi))
  size_other := by
    intro p h0 h1 h2 h3
    rcases pos_cases p with rfl | ⟨j, rfl | rfl⟩
    · rfl
    · rw [relShapeOf_size_primed, relShapeOf_size_primed,
        swapAdj_getD_other i o 0 j (fun e => h0 (congrArg (2 * · + 1) e))
          (fun e => h2 (congrArg (2 * · + 1) e))]
    · rw [relShapeOf_size_unprimed, relShapeOf_size_unprimed,
        swapAdj_getD_other i o 0 j (fun e => h1 (congrArg (2 * · + 1 + 1) e))
          (fun e => h3 (congrArg (2 * · + 1 + 1) e))]
  mode0 := by
    rw [relShapeOf_mode_len dom mu mp o _ (swapAdj_length i o), relShapeOf_mode_primed,
      if_pos (Nat.lt_of_succ_lt hi)]
    exact ((relShapeOf_mode_primed dom mu mp o (i+1)).trans (if_pos hi)).symm
  mode1 := (relShapeOf_mode_unprimed dom mu mp _ i).trans
    (relShapeOf_mode_unprimed dom mu mp o (i+1)).symm
  mode2 := by
    rw [relShapeOf_mode_len dom mu mp o _ (swapAdj_length i o), relShapeOf_mode_primed,
      if_pos (Nat.lt_of_succ_lt hi)]
    exact (relShapeOf_mode_primed dom mu mp o (i+1)).trans (if_pos hi)
  mode3 := (relShapeOf_mode_unprimed dom mu mp _ (i+1)).trans
    (relShapeOf_mode_unprimed dom mu mp o i).symm
  mode_other := fun p _ _ _ _ => relShapeOf_mode_len dom mu mp o _ (swapAdj_length i o) p
  unprimed_lo := fun h => hmu ((relShapeOf_mode_unprimed dom mu mp o i).symm.trans h)
  unprimed_hi := fun h => hmu ((relShapeOf_mode_unprimed dom mu mp o (i+1)).symm.trans h)
  below := fun h =>
    hmu ((relShapeOf_mode_even dom mu mp o (p := 2*i) (Nat.mul_mod_right 2 i)).symm.trans h)

theorem relShapeOf_wf (hr : RelRule mu mp) (o : Order)
    (hd : ∀ x, 2 ≤ dom x) : (relShapeOf dom mu mp o).WF where
  size_ge := by
    intro p h1 _
    rcases pos_cases p with rfl | ⟨j, rfl | rfl⟩
    · cases h1
    · rw [relShapeOf_size_primed]; exact hd _
    · rw [relShapeOf_size_unprimed]; exact hd _
  ident_below_red := by
    intro p hp
    -- only a primed position `2j+1` of a variable of the order can be `ident`
    rcases pos_cases p with rfl | ⟨j, rfl | rfl⟩
    · exact absurd ((relShapeOf_mode_even dom mu mp o rfl).symm.trans hp) hr.1
    · rw [relShapeOf_mode_primed] at hp
      by_cases hj : j < o.length
      · rw [if_pos hj] at hp
        refine ⟨Nat.succ_pos _, Nat.mul_le_mul_left 2 hj, ?_, ?_⟩
        · rw [relShapeOf_mode_unprimed]; exact hr.2 hp
        · rw [relShapeOf_size_unprimed, relShapeOf_size_primed]
      · rw [if_neg hj] at hp; exact absurd hp hr.1
    · exact absurd ((relShapeOf_mode_unprimed dom mu mp o j).symm.trans hp) hr.1

/-- renaming the positions of the new order's assignment gives the old order's assignment: both
    are the same assignment of the VARIABLES -/
theorem relVarAssign_swap (o : Order) (v v' : Nat → Nat) (i : Nat) (hi : i + 1 < o.length) :
    relSwapA (2*i+1) (relVarAssign (swapAdj i o) v v') = relVarAssign o v v' := by
  funext p
  rcases block4_cases (2*i+1) p with rfl | rfl | rfl | rfl | ho
  · rw [relSwapA_0, relVarAssign_primed, ← swapAdj_getD_hi i o 0 hi]
    exact relVarAssign_primed _ v v' (i+1)
  · rw [relSwapA_1, relVarAssign_unprimed, ← swapAdj_getD_hi i o 0 hi]
    exact relVarAssign_unprimed _ v v' (i+1)
  · rw [relSwapA_2, relVarAssign_primed, swapAdj_getD_lo i o 0 hi]
    exact (relVarAssign_primed o v v' (i+1)).symm
  · rw [relSwapA_3, relVarAssign_unprimed, swapAdj_getD_lo i o 0 hi]
    exact (relVarAssign_unprimed o v v' (i+1)).symm
  · rw [relSwapA_out _ _ ho]
    have ⟨h0, h1, h2, h3⟩ := block4_out ho
    rcases pos_cases p with rfl | ⟨j, rfl | rfl⟩
    · rfl
    · rw [relVarAssign_primed, relVarAssign_primed,
        swapAdj_getD_other i o 0 j (fun e => h0 (congrArg (2 * · + 1) e))
          (fun e => h2 (congrArg (2 * · + 1) e))]
    · rw [relVarAssign_unprimed, relVarAssign_unprimed,
        swapAdj_getD_other i o 0 j (fun e => h1 (congrArg (2 * · + 1 + 1) e))
          (fun e => h3 (congrArg (2 * · + 1 + 1) e))]

theorem relVarAssign_valid (o : Order) (v v' : Nat → Nat)
    (hv : ∀ x, v x < dom x) (hv' : ∀ x, v' x < dom x) :
    Assign.Valid (relShapeOf dom mu mp o) (relVarAssign o v v') := by
  intro p h1 _
  rcases pos_cases p with rfl | ⟨j, rfl | rfl⟩
  · cases h1
  · rw [relShapeOf_size_primed, relVarAssign_primed]; exact hv' _
  · rw [relShapeOf_size_unprimed, relVarAssign_unprimed]; exact hv _

end

/-- one library swap on the pair (order, relation tree): `swapAdjacentVariables(i+1)` -/
def relSwapStep (dom : Nat → Nat) (mu mp : Mode) (zero : α) (i : Nat) (o : Order) (d : DD α) :
    Order × DD α :=
  (swapAdj i o,
   swapVarRel (relShapeOf dom mu mp o) (relShapeOf dom mu mp (swapAdj i o)) zero (i+1) d)

/-- a whole reordering of a relation forest: any list of adjacent variable swaps -/
def reorderRel (dom : Nat → Nat) (mu mp : Mode) (zero : α) :
    List Nat → Order → DD α → Order × DD α
  | [], o, d => (o, d)
  | i :: is, o, d =>
    reorderRel dom mu mp zero is (relSwapStep dom mu mp zero i o d).1
      (relSwapStep dom mu mp zero i o d).2

theorem reorderRel_order (dom : Nat → Nat) (mu mp : Mode) (zero : α) :
    ∀ (is : List Nat) (o : Order) (d : DD α),
      (reorderRel dom mu mp zero is o d).1 = applySchedule is o
  | [], _, _ => rfl
  | _ :: is, _, _ => reorderRel_order dom mu mp zero is _ _

/-- one library swap on the pair (order, EV+ edge) -/
def swapStepE (dom : Nat → Nat) (m : Mode) (i : Nat) (o : Order) (e : Int × EDD) :
    Order × (Int × EDD) :=
  (swapAdj i o,
   EDD.swapAdjE (shapeOf dom m o) (shapeOf dom m (swapAdj i o)) (i+1) o.length none e)

/-- a whole reordering of an EV+ set forest: any list of adjacent swaps -/
def reorderE (dom : Nat → Nat) (m : Mode) : List Nat → Order → (Int × EDD) → Order × (Int × EDD)
  | [], o, e => (o, e)
  | i :: is, o, e => reorderE dom m is (swapStepE dom m i o e).1 (swapStepE dom m i o e).2

theorem reorderE_order (dom : Nat → Nat) (m : Mode) :
    ∀ (is : List Nat) (o : Order) (e : Int × EDD), (reorderE dom m is o e).1 = applySchedule is o
  | [], _, _ => rfl
  | _ :: is, _, _ => reorderE_order dom m is _ _

end Reorder

namespace DD
variable {α : Type} [DecidableEq α]

/-- C13/relations, function (block form): the swapped tree, read from the top, denotes the old
    function at the assignment with the two position pairs exchanged. -/
theorem relSwapDD_eval_top (S S' : Shape) (zero : α) (b : Nat) (h : RelSwapShape S S' b)
    (htop : S.mode S.top ≠ .ident) (d : DD α) (hw : WFTree d) (hb : Below S.top d)
    (a : Assign) (ha : Assign.Valid S' a) :
    eval S' zero S'.top (relSwapDD S S' zero b S.top none d) a
      = eval S zero S.top d (relSwapA b a) := by
  rw [h.top]
  exact relSwapDD_eval_above S S' zero b h S.top h.fits none d (Nat.le_refl _) ⟨hb, hw⟩ a ha
    (fun hm => absurd hm htop)

/-- C13/relations, canonical form (block form): the swapped tree of a reduced tree is reduced
    for the target shape. -/
theorem relSwapDD_red_top (S S' : Shape) (zero : α) (b : Nat) (h : RelSwapShape S S' b)
    (hS : S.WF) (d : DD α) (hr : Red S zero S.top none d = true) :
    Red S' zero S'.top none (relSwapDD S S' zero b S.top none d) = true := by
  rw [h.top]
  exact relSwapDD_red_above S S' zero b h (h.wf hS) S.top h.fits none d
    (fun _ => hS.top_not_ident (Nat.le_refl _)) hr

/-- C13/relations, canonical form (block form): the swapped tree is the only reduced tree of the
    target shape with the renamed denotation (by `DD.canon`). -/
theorem relSwapDD_canonical (S S' : Shape) (zero : α) (b : Nat) (h : RelSwapShape S S' b)
    (hS : S.WF) (d : DD α) (hr : Red S zero S.top none d = true) (r : DD α)
    (hr' : Red S' zero S'.top none r = true)
    (hd : ∀ a, Assign.Valid S' a → eval S' zero S'.top r a = eval S zero S.top d (relSwapA b a)) :
    r = relSwapDD S S' zero b S.top none d := by
  obtain ⟨hb, hw⟩ := Red_WFTree S zero S.top none d hr
  apply (canon S' zero (h.wf hS) r _ hr' (relSwapDD_red_top S S' zero b h hS d hr)).mp
  intro a ha
  rw [hd a ha, relSwapDD_eval_top S S' zero b h (hS.top_not_ident (Nat.le_refl _)) d hw hb a ha]

/-- C13/relations (`swapVarRel_eval`): after `swapAdjacentVariables(k)` in a relation forest —
    fully, quasi or identity reduced — every tree denotes the old function with the values of
    the position pairs `(2k+2, 2k+1)` and `(2k, 2k-1)` exchanged: the two variables have changed
    places, the relation between the (renamed) variables is the same.  Shape hypotheses:
    `RelSwapShape` (sizes and modes of the two pairs exchanged, unprimed positions and the
    position below the block not `ident`) and a non-`ident` top position (implied by `S.WF`). -/
theorem swapVarRel_eval (S S' : Shape) (zero : α) (k : Nat) (h : RelSwapShape S S' (2*k-1))
    (htop : S.mode S.top ≠ .ident) (d : DD α) (hw : WFTree d) (hb : Below S.top d)
    (a : Assign) (ha : Assign.Valid S' a) :
    eval S' zero S'.top (swapVarRel S S' zero k d) a
      = eval S zero S.top d (relSwapA (2*k-1) a) :=
  relSwapDD_eval_top S S' zero (2*k-1) h htop d hw hb a ha

/-- C13/relations (`swapVarRel_red`): the swapped tree of a reduced tree is reduced in the TARGET
    shape, whose sizes and modes of the two pairs are exchanged — including the identity rule:
    no singleton that spells an identity survives at the new `ident` positions, although the
    primed positions now have the other variable's size. -/
theorem swapVarRel_red (S S' : Shape) (zero : α) (k : Nat) (h : RelSwapShape S S' (2*k-1))
    (hS : S.WF) (d : DD α) (hr : Red S zero S.top none d = true) :
    Red S' zero S'.top none (swapVarRel S S' zero k d) = true :=
  relSwapDD_red_top S S' zero (2*k-1) h hS d hr

/-- C13/relations (`swapVarRel_canonical`): the swapped tree is THE canonical tree of the swapped
    function (by `DD.canon`): whatever `swapAdjacentVariablesByVarSwap` builds (renumbering,
    `swapNodes`, duplicate resolution), if it is reduced for the target shape and denotes the
    renamed function, it is this tree. -/
theorem swapVarRel_canonical (S S' : Shape) (zero : α) (k : Nat) (h : RelSwapShape S S' (2*k-1))
    (hS : S.WF) (d : DD α) (hr : Red S zero S.top none d = true) (r : DD α)
    (hr' : Red S' zero S'.top none r = true)
    (hd : ∀ a, Assign.Valid S' a →
      eval S' zero S'.top r a = eval S zero S.top d (relSwapA (2*k-1) a)) :
    r = swapVarRel S S' zero k d :=
  relSwapDD_canonical S S' zero (2*k-1) h hS d hr r hr' hd

/-- C13/relations (`swapVarRel_involutive`): swapping the same two variables twice restores
    exactly the original tree. -/
theorem swapVarRel_involutive (S S' : Shape) (zero : α) (k : Nat) (h : RelSwapShape S S' (2*k-1))
    (hS : S.WF) (d : DD α) (hr : Red S zero S.top none d = true) :
    swapVarRel S' S zero k (swapVarRel S S' zero k d) = d := by
  obtain ⟨hb, hw⟩ := Red_WFTree S zero S.top none d hr
  symm
  apply swapVarRel_canonical S' S zero k h.symm (h.wf hS) _ (swapVarRel_red S S' zero k h hS d hr)
    d hr
  intro a ha
  rw [swapVarRel_eval S S' zero k h (hS.top_not_ident (Nat.le_refl _)) d hw hb _
      (h.symm.valid ha), relSwapA_relSwapA]

/-- one position swap of a reduced tree: what the next swap needs of the new shape and tree,
    and the denotation -/
theorem swapAdjDD_step (S S' : Shape) (zero : α) (k : Nat) (h : SwapShape S S' k) (hS : S.WF)
    (hn : NoIdent S) (hk : 1 ≤ k) (hk1 : k + 1 ≤ S.top) (d : DD α)
    (hr : Red S zero S.top none d = true) :
    S'.WF ∧ NoIdent S' ∧ Red S' zero S'.top none (swapAdjDD S S' zero k S.top d) = true ∧
    ∀ a, Assign.Valid S' a → Assign.Valid S (swapA k a) ∧
      eval S' zero S'.top (swapAdjDD S S' zero k S.top d) a = eval S zero S.top d (swapA k a) :=
  have ⟨hb, hw⟩ := Red_WFTree S zero S.top none d hr
  ⟨h.wf hS hn hk hk1, h.noIdent hn, swapAdjDD_red S S' zero k h hS hn hk hk1 d hr,
    fun a ha => ⟨h.valid hk hk1 ha, swapAdjDD_eval S S' zero k h hn hk hk1 d hw hb a ha⟩⟩

/-- the four position swaps are the swap of the block with base `b`, by canonicity
    (`relSwapDD_canonical`): the result of the four swaps is reduced for `S4` and, by
    `relSwap_four_level_swaps_partial`, has the denotation of the block swap -/
theorem levelSwap4_eq_relSwapDD (S S1 S2 S3 S4 : Shape) (zero : α) (b : Nat)
    (h1 : SwapShape S S1 (b+1)) (h2 : SwapShape S1 S2 (b+1+1))
    (h3 : SwapShape S2 S3 b) (h4 : SwapShape S3 S4 (b+1))
    (hS : S.WF) (hn : NoIdent S) (hb : 1 ≤ b) (hf : b+1+1+1 ≤ S.top)
    (hm0 : S.mode (b+1+1) = S.mode b) (hm1 : S.mode (b+1+1+1) = S.mode (b+1))
    (d : DD α) (hr : Red S zero S.top none d = true) :
    levelSwap4 S S1 S2 S3 S4 zero b d = relSwapDD S S4 zero b S.top none d := by
  have hf1 : b+1+1+1 ≤ S1.top := h1.top ▸ hf
  have hf2 : b+1+1+1 ≤ S2.top := h2.top ▸ hf1
  have hf3 : b+1+1+1 ≤ S3.top := h3.top ▸ hf2
  obtain ⟨hS1, hn1, r1, e1⟩ :=
    swapAdjDD_step S S1 zero _ h1 hS hn (Nat.succ_pos _) (Nat.le_of_succ_le hf) d hr
  obtain ⟨hS2, hn2, r2, e2⟩ := swapAdjDD_step S1 S2 zero _ h2 hS1 hn1 (Nat.succ_pos _) hf1 _ r1
  obtain ⟨hS3, hn3, r3, e3⟩ :=
    swapAdjDD_step S2 S3 zero _ h3 hS2 hn2 hb (Nat.le_of_succ_le (Nat.le_of_succ_le hf2)) _ r2
  obtain ⟨_, _, r4, e4⟩ :=
    swapAdjDD_step S3 S4 zero _ h4 hS3 hn3 (Nat.succ_pos _) (Nat.le_of_succ_le hf3) _ r3
  apply relSwapDD_canonical S S4 zero b
    (RelSwapShape.of_levelSwaps h1 h2 h3 h4 hn hb hf hm0 hm1) hS d hr _ r4
  intro a ha
  obtain ⟨v3, q4⟩ := e4 a ha
  obtain ⟨v2, q3⟩ := e3 _ v3
  obtain ⟨v1, q2⟩ := e2 _ v2
  exact q4.trans (q3.trans (q2.trans ((e1 _ v1).2.trans
    (congrArg _ (relSwap_four_level_swaps_partial b a)))))

/-- C13/relations, `swapAdjacentVariablesByLevelSwap` (the tree-level form of
    `relSwap_four_level_swaps_partial`): for relation forests WITHOUT `ident` positions
    whose rule is the same for both pairs (fully-fully, quasi-quasi) the composition of the four
    adjacent position swaps middle / top / bottom / middle is exactly the variable swap.

    This route cannot be used for identity-reduced relations (the code throws
    `INVALID_OPERATION`; its `swapAdjacentLevels` is moreover `NOT_IMPLEMENTED`): the
    intermediate orders `x y x' y'`, `y x x' y'`, `y x y' x'` separate a primed position from its
    unprimed partner, but the meaning of a skipped `ident` position ("same value as the position
    directly above", `DD.eval`) and the identity pattern (`edgeOK`) refer to the position directly
    above, which must be the `red` partner of the same size (`Shape.WF.ident_below_red`).  The
    intermediate shapes are not well formed — for variables of different sizes the comparison
    would even be between values of different ranges — so neither `swapAdjDD` (which needs
    `NoIdent`, see `SwapShape.wf`) nor canonicity applies to the intermediate forests. -/
theorem levelSwap4_eq_swapVarRel (S S1 S2 S3 S4 : Shape) (zero : α) (k : Nat)
    (h1 : SwapShape S S1 (2*k-1+1)) (h2 : SwapShape S1 S2 (2*k-1+1+1))
    (h3 : SwapShape S2 S3 (2*k-1)) (h4 : SwapShape S3 S4 (2*k-1+1))
    (hS : S.WF) (hn : NoIdent S) (hk : 1 ≤ k) (hf : 2*k-1+1+1+1 ≤ S.top)
    (hm0 : S.mode (2*k-1+1+1) = S.mode (2*k-1)) (hm1 : S.mode (2*k-1+1+1+1) = S.mode (2*k-1+1))
    (d : DD α) (hr : Red S zero S.top none d = true) :
    levelSwap4 S S1 S2 S3 S4 zero (2*k-1) d = swapVarRel S S4 zero k d :=
  levelSwap4_eq_relSwapDD S S1 S2 S3 S4 zero (2*k-1) h1 h2 h3 h4 hS hn (by omega) hf hm0 hm1 d hr

end DD

namespace EDD
open DD (SwapShape NoIdent swapA swapA_swapA)

/-- C13/EV+ (`swapAdjE_eval`): after `evmdd_pluslong::swapAdjacentVariables(k)` every edge denotes
    the old function (`none` = +∞) with the values of positions `k` and `k+1` exchanged; the
    pushed-down sums `ev1 + ev2` and the re-normalisation leave every value unchanged. -/
theorem swapAdjE_eval (S S' : Shape) (k : Nat) (h : SwapShape S S' k) (hS : S.WF)
    (hn : NoIdent S) (hk : 1 ≤ k) (hk1 : k + 1 ≤ S.top) (e : Int × EDD)
    (hr : Red S S.top none e.2 = true) (a : Assign) (ha : Assign.Valid S' a) :
    evalEdge S' S'.top (swapAdjE S S' k S.top none e) a = evalEdge S S.top e (swapA k a) := by
  rw [h.top]
  exact (swapAdjE_above_spec S S' k h hS hn hk hk1 S.top hk1 none e hr).2 (Nat.le_refl _) a ha

/-- C13/EV+ (`swapAdjE_red`): the swapped edge is a reduced edge of the swapped shape: minimum 0
    in every rebuilt node, the excess pulled up to the incoming edges, +∞ entries with value 0,
    no redundant node at `red` positions. -/
theorem swapAdjE_red (S S' : Shape) (k : Nat) (h : SwapShape S S' k) (hS : S.WF)
    (hn : NoIdent S) (hk : 1 ≤ k) (hk1 : k + 1 ≤ S.top) (e : Int × EDD)
    (hr : Red S S.top none e.2 = true) :
    RedEdge S' S'.top none (swapAdjE S S' k S.top none e) = true := by
  rw [h.top]
  exact (swapAdjE_above_spec S S' k h hS hn hk hk1 S.top hk1 none e hr).1

/-- C13/EV+ (`swapAdjE_canonical`): the swapped edge is THE reduced edge of the swapped function
    (by `EDD.canon`) — the code rebuilds the dependent upper nodes IN PLACE
    (`modifyReducedNodeInPlace`); if what it leaves is reduced and denotes the swapped function,
    it is this edge, edge values included. -/
theorem swapAdjE_canonical (S S' : Shape) (k : Nat) (h : SwapShape S S' k) (hS : S.WF)
    (hn : NoIdent S) (hk : 1 ≤ k) (hk1 : k + 1 ≤ S.top) (e : Int × EDD)
    (hr : Red S S.top none e.2 = true) (r : Int × EDD)
    (hr' : RedEdge S' S'.top none r = true)
    (hd : ∀ a, Assign.Valid S' a → evalEdge S' S'.top r a = evalEdge S S.top e (swapA k a)) :
    r = swapAdjE S S' k S.top none e := by
  have hS' : S'.WF := h.wf hS hn hk hk1
  apply (canon S' hS' r _ hr' (swapAdjE_red S S' k h hS hn hk hk1 e hr)).mp
  intro a ha
  rw [hd a ha, swapAdjE_eval S S' k h hS hn hk hk1 e hr a ha]

/-- C13/EV+: swapping the same pair twice restores exactly the original reduced edge. -/
theorem swapAdjE_involutive (S S' : Shape) (k : Nat) (h : SwapShape S S' k) (hS : S.WF)
    (hn : NoIdent S) (hk : 1 ≤ k) (hk1 : k + 1 ≤ S.top) (e : Int × EDD)
    (hr : RedEdge S S.top none e = true) :
    swapAdjE S' S k S'.top none (swapAdjE S S' k S.top none e) = e := by
  have hS' : S'.WF := h.wf hS hn hk hk1
  have hn' := h.noIdent hn
  have hk1' : k + 1 ≤ S'.top := by rw [h.top]; exact hk1
  have hr2 := ((RedEdge_iff _ _ _ _).mp hr).1
  have hrs := swapAdjE_red S S' k h hS hn hk hk1 e hr2
  symm
  apply swapAdjE_canonical S' S k h.symm hS' hn' hk hk1' _ ((RedEdge_iff _ _ _ _).mp hrs).1 e hr
  intro a ha
  rw [swapAdjE_eval S S' k h hS hn hk hk1 e hr2 _ (h.symm.valid hk hk1' ha), swapA_swapA]

end EDD

namespace Reorder
open DD
variable {α : Type} [DecidableEq α]

/-- C13/relations, held edges: one variable swap leaves the relation between the VARIABLES
    unchanged: the swapped tree under the new order, at the (unprimed, primed) values `v, v'` of
    the variables, gives what the old tree gave under the old order. -/
theorem relSwap_preserves_varfunction (dom : Nat → Nat) (mu mp : Mode) (hmu : mu ≠ .ident)
    (zero : α) (o : Order) (i : Nat) (hi : i + 1 < o.length) (d : DD α) (hw : WFTree d)
    (hb : Below (2 * o.length) d) (v v' : Nat → Nat) (hv : ∀ x, v x < dom x)
    (hv' : ∀ x, v' x < dom x) :
    eval (relShapeOf dom mu mp (relSwapStep dom mu mp zero i o d).1) zero
        (2 * (relSwapStep dom mu mp zero i o d).1.length) (relSwapStep dom mu mp zero i o d).2
        (relVarAssign (relSwapStep dom mu mp zero i o d).1 v v')
      = eval (relShapeOf dom mu mp o) zero (2 * o.length) d (relVarAssign o v v') := by
  -- the base `2(i+1)-1` of `swapVarRel` computes to `2i+1`
  exact (swapVarRel_eval (relShapeOf dom mu mp o) (relShapeOf dom mu mp (swapAdj i o)) zero (i+1)
    (relShapeOf_swap dom mu mp hmu o i hi)
    (fun h => hmu ((relShapeOf_mode_even dom mu mp o (Nat.mul_mod_right 2 _)).symm.trans h)) d hw hb
    (relVarAssign (swapAdj i o) v v') (relVarAssign_valid dom mu mp _ v v' hv hv')).trans
    (congrArg _ (relVarAssign_swap o v v' i hi))

/-- C13/relations, whole reordering (`reorderRel_preserves_function`): ANY sequence of adjacent
    variable swaps of a relation forest (fully, quasi or identity reduced) leaves the relation
    between the variables denoted by every tree unchanged. -/
theorem reorderRel_preserves_function (dom : Nat → Nat) (mu mp : Mode) (hmu : mu ≠ .ident)
    (zero : α) :
    ∀ (is : List Nat) (o : Order) (d : DD α), (∀ i, i ∈ is → i + 1 < o.length) →
      WFTree d → Below (2 * o.length) d → ∀ (v v' : Nat → Nat), (∀ x, v x < dom x) →
      (∀ x, v' x < dom x) →
      eval (relShapeOf dom mu mp (reorderRel dom mu mp zero is o d).1) zero
          (2 * (reorderRel dom mu mp zero is o d).1.length) (reorderRel dom mu mp zero is o d).2
          (relVarAssign (reorderRel dom mu mp zero is o d).1 v v')
        = eval (relShapeOf dom mu mp o) zero (2 * o.length) d (relVarAssign o v v') := by
  intro is o d hi hw hb
  exact (schedule_invariant (relSwapStep dom mu mp zero) (reorderRel dom mu mp zero)
    (fun _ _ => rfl) (fun _ _ _ _ => rfl) (fun i o _ => swapAdj_length i o)
    (fun o' d' => WFTree d' ∧ Below (2 * o'.length) d' ∧ ∀ (v v' : Nat → Nat),
      (∀ x, v x < dom x) → (∀ x, v' x < dom x) →
      eval (relShapeOf dom mu mp o') zero (2 * o'.length) d' (relVarAssign o' v v')
        = eval (relShapeOf dom mu mp o) zero (2 * o.length) d (relVarAssign o v v'))
    (fun i o' d' hi' ⟨hw', hb', he⟩ =>
      have hwb := relSwapDD_ok (relShapeOf dom mu mp o') (relShapeOf dom mu mp (swapAdj i o')) zero
        (2 * (i+1) - 1) (Nat.succ_pos _) (2 * o'.length) none d' ⟨hb', hw'⟩
      ⟨hwb.2, (swapAdj_length i o').symm ▸ hwb.1, fun v v' hv hv' =>
        (relSwap_preserves_varfunction dom mu mp hmu zero o' i hi' d' hw' hb' v v' hv hv').trans
          (he v v' hv hv')⟩)
    is o d hi ⟨hw, hb, fun _ _ _ _ => rfl⟩).2.2

/-- C13/relations, canonical form, whole reordering: every sequence of adjacent variable swaps
    keeps the tree reduced for the shape of the current order (all three rules). -/
theorem reorderRel_preserves_reduced (dom : Nat → Nat) (mu mp : Mode) (hrule : RelRule mu mp)
    (hd : ∀ x, 2 ≤ dom x) (zero : α) :
    ∀ (is : List Nat) (o : Order) (d : DD α), (∀ i, i ∈ is → i + 1 < o.length) →
      Red (relShapeOf dom mu mp o) zero (2 * o.length) none d = true →
      Red (relShapeOf dom mu mp (reorderRel dom mu mp zero is o d).1) zero
        (2 * (reorderRel dom mu mp zero is o d).1.length) none
        (reorderRel dom mu mp zero is o d).2 = true :=
  schedule_invariant (relSwapStep dom mu mp zero) (reorderRel dom mu mp zero)
    (fun _ _ => rfl) (fun _ _ _ _ => rfl) (fun i o _ => swapAdj_length i o)
    (fun o d => Red (relShapeOf dom mu mp o) zero (2 * o.length) none d = true)
    (fun i o d hi hr => swapVarRel_red (relShapeOf dom mu mp o)
      (relShapeOf dom mu mp (swapAdj i o)) zero (i+1) (relShapeOf_swap dom mu mp hrule.1 o i hi)
      (relShapeOf_wf dom mu mp hrule o hd) d hr)

/-- C13/EV+, whole reordering: every sequence of adjacent swaps keeps the edge reduced for the
    shape of the current order. -/
theorem reorderE_preserves_reduced (dom : Nat → Nat) (m : Mode) (hm : m ≠ .ident)
    (hd : ∀ x, 2 ≤ dom x) :
    ∀ (is : List Nat) (o : Order) (e : Int × EDD), (∀ i, i ∈ is → i + 1 < o.length) →
      EDD.RedEdge (shapeOf dom m o) o.length none e = true →
      EDD.RedEdge (shapeOf dom m (reorderE dom m is o e).1) (reorderE dom m is o e).1.length none
        (reorderE dom m is o e).2 = true :=
  schedule_invariant (swapStepE dom m) (reorderE dom m) (fun _ _ => rfl) (fun _ _ _ _ => rfl)
    (fun i o _ => swapAdj_length i o)
    (fun o e => EDD.RedEdge (shapeOf dom m o) o.length none e = true)
    (fun i o e hi hr => EDD.swapAdjE_red (shapeOf dom m o) (shapeOf dom m (swapAdj i o)) (i+1)
      (shapeOf_swap dom m o i hi) (shapeOf_wf dom m o hm hd) (shapeOf_noIdent dom m o hm)
      (Nat.succ_pos i) hi e ((EDD.RedEdge_iff _ _ _ _).mp hr).1)

/-- C13/EV+, whole reordering (`reorderE_preserves_function`): ANY sequence of adjacent swaps of an
    EV+ set forest leaves the function of the variables (values and +∞) denoted by every reduced
    edge unchanged. -/
theorem reorderE_preserves_function (dom : Nat → Nat) (m : Mode) (hm : m ≠ .ident)
    (hd : ∀ x, 2 ≤ dom x) :
    ∀ (is : List Nat) (o : Order) (e : Int × EDD), (∀ i, i ∈ is → i + 1 < o.length) →
      EDD.Red (shapeOf dom m o) o.length none e.2 = true →
      ∀ (v : Nat → Nat), (∀ x, v x < dom x) →
      EDD.evalEdge (shapeOf dom m (reorderE dom m is o e).1) (reorderE dom m is o e).1.length
          (reorderE dom m is o e).2 (varAssign (reorderE dom m is o e).1 v)
        = EDD.evalEdge (shapeOf dom m o) o.length e (varAssign o v) := by
  intro is o e hi hr
  exact (schedule_invariant (swapStepE dom m) (reorderE dom m) (fun _ _ => rfl)
    (fun _ _ _ _ => rfl) (fun i o _ => swapAdj_length i o)
    (fun o' e' => EDD.Red (shapeOf dom m o') o'.length none e'.2 = true ∧
      ∀ (v : Nat → Nat), (∀ x, v x < dom x) →
      EDD.evalEdge (shapeOf dom m o') o'.length e' (varAssign o' v)
        = EDD.evalEdge (shapeOf dom m o) o.length e (varAssign o v))
    (fun i o' e' hi' ⟨hr', he⟩ =>
      have hsh := shapeOf_swap dom m o' i hi'
      have hS := shapeOf_wf dom m o' hm hd
      have hn := shapeOf_noIdent dom m o' hm
      ⟨((EDD.RedEdge_iff _ _ _ _).mp (EDD.swapAdjE_red (shapeOf dom m o')
          (shapeOf dom m (swapAdj i o')) (i+1) hsh hS hn (Nat.succ_pos i) hi' e' hr')).1,
        fun v hv => ((EDD.swapAdjE_eval (shapeOf dom m o') (shapeOf dom m (swapAdj i o')) (i+1)
          hsh hS hn (Nat.succ_pos i) hi' e' hr' (varAssign (swapAdj i o') v)
          (varAssign_valid dom m _ v hv)).trans
            (congrArg _ (varAssign_swap o' v i hi'))).trans (he v hv)⟩)
    is o e hi ⟨hr, fun _ _ => rfl⟩).2

end Reorder

/-! ### Non-vacuity: relations over two variables of DIFFERENT sizes (2 and 3), EV+ sets -/

namespace ReorderRelExamples
open DD Reorder CanonExamples ReorderExamples EVApplyExamples

/-- variable 1 (`y`) has 2 values, variable 2 (`x`) has 3 -/
def domR : Nat → Nat := fun x => if x = 2 then 3 else 2

/-- identity-reduced relation forest, order `[y, x]`: positions 4, 3 = `x, x'` (size 3),
    positions 2, 1 = `y, y'` (size 2); positions 3 and 1 are `ident` -/
def SR : Shape := relShapeOf domR .red .ident [1, 2]
/-- the same forest after the swap, order `[x, y]`: positions 4, 3 = `y, y'` (size 2),
    positions 2, 1 = `x, x'` (size 3) -/
def SR' : Shape := relShapeOf domR .red .ident [2, 1]

example : (List.range 5).map SR.size = [1, 2, 2, 3, 3] := by decide +kernel
example : (List.range 5).map SR'.size = [1, 3, 3, 2, 2] := by decide +kernel
example : (List.range 6).map SR.mode = [.red, .ident, .red, .ident, .red, .red] := by decide +kernel

/-- `y' = 1 - y` (stored nodes at the `ident` position 1: each is a singleton, but not at the
    arriving index) -/
def flipY : DD Nat := .node 2 [.node 1 [.leaf 0, .leaf 1], .node 1 [.leaf 1, .leaf 0]]
/-- `x = 0`: position 3 identity-skipped (`x' = 0`), then `flipY`;
    `x = 1`: a stored node at the `ident` position 3: `x' = 0` ↦ 0; `x' = 1` ↦ a node stored at
    the `ident` position 1 below the SKIPPED unprimed position 2 (any `y`; value 2 or 3 by `y'`);
    `x' = 2` ↦ the terminal 1, positions 2 and 1 skipped (`y' = y`);
    `x = 2`: position 3 identity-skipped (`x' = 2`), `y = 0`, position 1 identity-skipped
    (`y' = 0`) -/
def tR : DD Nat :=
  .node 4 [flipY, .node 3 [.leaf 0, .node 1 [.leaf 2, .leaf 3], .leaf 1], .node 2 [.leaf 1, .leaf 0]]

example : Red SR 0 4 none tR = true := by decide +kernel

/-- the swapped tree, written out: `y, y'` on top (size 2), `x, x'` below (size 3); the identity
    patterns are re-eliminated at the NEW `ident` positions (position 1 now has 3 values) -/
def tR' : DD Nat :=
  .node 4
    [.node 3 [.node 2 [.leaf 0, .node 1 [.leaf 0, .leaf 2, .leaf 1], .leaf 1],
              .node 2 [.leaf 1, .leaf 3, .leaf 0]],
     .node 3 [.node 2 [.leaf 1, .leaf 2, .leaf 0],
              .node 2 [.leaf 0, .node 1 [.leaf 0, .leaf 3, .leaf 1], .leaf 0]]]

example : swapVarRel SR SR' 0 1 tR = tR' := by decide +kernel
example : Red SR' 0 4 none tR' = true := by decide +kernel
/-- swapping back restores the tree (instance of `swapVarRel_involutive`) -/
example : swapVarRel SR' SR 0 1 tR' = tR := by decide +kernel
/-- values: `x = 1, x' = 1, y = 1, y' = 1` ↦ 3 before (positions `y' y x' x`) and after
    (positions `x' x y' y`) -/
example : eval SR 0 4 tR (relVarAssign [1, 2] (fun _ => 1) (fun _ => 1)) = 3 := by decide +kernel
example : eval SR' 0 4 tR' (relVarAssign [2, 1] (fun _ => 1) (fun _ => 1)) = 3 := by decide +kernel
/-- `x = 2, x' = 2, y = 0, y' = 0` (both primed positions identity-skipped in `tR`) -/
example : eval SR 0 4 tR (relVarAssign [1, 2] (fun _ => 0) (fun _ => 0))
    = eval SR' 0 4 tR' (relVarAssign [2, 1] (fun _ => 0) (fun _ => 0)) := by decide +kernel
/-- the schedule form: `[y, x] → [x, y]` by the schedule `[0]` -/
example : reorderRel domR .red .ident 0 [0] [1, 2] tR = ([2, 1], tR') := by decide +kernel

/-- the hypotheses of the theorems are satisfiable: `swapVarRel_canonical` applies to `tR` -/
example (r : DD Nat) (hr : Red SR' 0 4 none r = true)
    (hd : ∀ a, Assign.Valid SR' a → eval SR' 0 4 r a = eval SR 0 4 tR (relSwapA 1 a)) :
    r = tR' := by
  have e : swapVarRel SR SR' 0 1 tR = tR' := by decide +kernel
  rw [← e]
  exact swapVarRel_canonical SR SR' 0 1
    (relShapeOf_swap domR .red .ident (by decide) [1, 2] 0 (by decide))
    (relShapeOf_wf domR .red .ident ⟨by decide, fun _ => rfl⟩ [1, 2]
      (fun x => by show 2 ≤ (if x = 2 then 3 else 2); split <;> omega))
    tR (by decide +kernel) r hr hd

/-- quasi-reduced relation (all positions `none`): only the transparent terminal skips -/
def SQR : Shape := relShapeOf domR .none .none [1, 2]
def SQR' : Shape := relShapeOf domR .none .none [2, 1]
def tQ : DD Nat :=
  .node 4 [.node 3 [.node 2 [.node 1 [.leaf 1, .leaf 0], .leaf 0], .leaf 0,
                    .node 2 [.leaf 0, .node 1 [.leaf 2, .leaf 2]]], .leaf 0, .leaf 0]
example : Red SQR 0 4 none tQ = true := by decide +kernel
example : swapVarRel SQR SQR' 0 1 tQ =
    .node 4
      [.node 3 [.node 2 [.node 1 [.leaf 1, .leaf 0, .leaf 0], .leaf 0, .leaf 0], .leaf 0],
       .node 3 [.node 2 [.node 1 [.leaf 0, .leaf 0, .leaf 2], .leaf 0, .leaf 0],
                .node 2 [.node 1 [.leaf 0, .leaf 0, .leaf 2], .leaf 0, .leaf 0]]] := by decide +kernel
example : Red SQR' 0 4 none (swapVarRel SQR SQR' 0 1 tQ) = true := by decide +kernel

/-- fully-reduced relation, seen as a forest over the four positions `y' y x' x` = "variables"
    `1 2 3 4`; the intermediate orders of `swapAdjacentVariablesByLevelSwap` -/
def dom4 : Nat → Nat := fun x => if x = 3 ∨ x = 4 then 3 else 2
def P0 : Shape := shapeOf dom4 .red [1, 2, 3, 4]
def P1 : Shape := shapeOf dom4 .red [1, 3, 2, 4]
def P2 : Shape := shapeOf dom4 .red [1, 3, 4, 2]
def P3 : Shape := shapeOf dom4 .red [3, 1, 4, 2]
def P4 : Shape := shapeOf dom4 .red [3, 4, 1, 2]

example : Red P0 0 4 none tR = true := by decide +kernel
/-- four position swaps = the variable swap, computed … -/
example : levelSwap4 P0 P1 P2 P3 P4 0 1 tR = swapVarRel P0 P4 0 1 tR := by decide +kernel
/-- … and as an instance of `levelSwap4_eq_swapVarRel` (its hypotheses are satisfiable) -/
example : levelSwap4 P0 P1 P2 P3 P4 0 1 tR = swapVarRel P0 P4 0 1 tR :=
  levelSwap4_eq_swapVarRel P0 P1 P2 P3 P4 0 1
    (shapeOf_swap dom4 .red [1, 2, 3, 4] 1 (by decide))
    (shapeOf_swap dom4 .red [1, 3, 2, 4] 2 (by decide))
    (shapeOf_swap dom4 .red [1, 3, 4, 2] 0 (by decide))
    (shapeOf_swap dom4 .red [3, 1, 4, 2] 1 (by decide))
    (shapeOf_wf dom4 .red _ (by decide)
      (fun x => by show 2 ≤ (if x = 3 ∨ x = 4 then 3 else 2); split <;> omega))
    (shapeOf_noIdent dom4 .red _ (by decide)) (by decide) (by decide) rfl rfl tR (by decide +kernel)
/-- the fully-reduced result spells the identities out (compare `tR'`) -/
example : swapVarRel P0 P4 0 1 tR =
    .node 4
      [.node 3 [.node 2 [.leaf 0, .node 1 [.leaf 0, .leaf 2, .leaf 1], .leaf 1],
                .node 2 [.leaf 1, .node 1 [.leaf 0, .leaf 3, .leaf 1], .leaf 1]],
       .node 3 [.node 2 [.leaf 1, .node 1 [.leaf 0, .leaf 2, .leaf 1], .leaf 0],
                .node 2 [.leaf 0, .node 1 [.leaf 0, .leaf 3, .leaf 1], .leaf 0]]] := by decide +kernel

/-! EV+ set, `CanonExamples.SA` (sizes 2, 3, 2), edge `EVApplyExamples.aE` with non-zero edge
    values; positions 2 and 3 exchanged (`ReorderExamples.SA23`: sizes 2, 2, 3) -/

/-- `aE = (1, node 3 [(0, node 2 [(0, xE), (1, yE), (0, ∞)]), (2, xE)])`: the new top variable has
    3 values; under its value 1 the entries `1 + yE`, `2 + xE` are re-normalised (1 pulled up);
    under its value 2 the entries `∞`, `2 + xE` (2 pulled up) -/
def aE' : Int × EDD :=
  (1, .node 3 [(0, .node 2 [(0, xE), (2, xE)]), (1, .node 2 [(0, yE), (1, xE)]),
               (2, .node 2 [(0, .inf), (0, xE)])])

example : EDD.RedEdge SA 3 none aE = true := by decide +kernel
example : EDD.swapAdjE SA SA23 2 3 none aE = aE' := by decide +kernel
example : EDD.RedEdge SA23 3 none aE' = true := by decide +kernel
example : EDD.swapAdjE SA23 SA 2 3 none aE' = aE := by decide +kernel
/-- values: `(x₁, x₂, x₃) = (1, 1, 0)`: `1 + 0 + 1 + 0 = 2` before; after the swap the old `x₂`
    sits at position 3, the old `x₃` at position 2: `1 + 1 + 0 + 0 = 2` -/
example : EDD.evalEdge SA 3 aE (fun p => if p = 3 then 0 else 1) = some 2 := by decide +kernel
example : EDD.evalEdge SA23 3 aE' (fun p => if p = 2 then 0 else 1) = some 2 := by decide +kernel
example : EDD.evalEdge SA23 3 aE' (fun p => if p = 3 then 2 else 0) = none := by decide +kernel
/-- a whole reordering on (order, edge): `[1,2,3] → [3,1,2]` by the schedule `[1, 0]` -/
example : (reorderE (fun x => if x = 2 then 3 else 2) .red [1, 0] [1, 2, 3] aE).1 = [3, 1, 2] := by
  decide +kernel
example : EDD.RedEdge (shapeOf (fun x => if x = 2 then 3 else 2) .red [3, 1, 2]) 3 none
    (reorderE (fun x => if x = 2 then 3 else 2) .red [1, 0] [1, 2, 3] aE).2 = true := by decide +kernel
/-- the hypotheses of `swapAdjE_canonical` are satisfiable -/
example (r : Int × EDD) (hr : EDD.RedEdge SA23 3 none r = true)
    (hd : ∀ a, Assign.Valid SA23 a → EDD.evalEdge SA23 3 r a = EDD.evalEdge SA 3 aE (swapA 2 a)) :
    r = aE' := by
  have e : EDD.swapAdjE SA SA23 2 3 none aE = aE' := by decide +kernel
  rw [← e]
  exact EDD.swapAdjE_canonical SA SA23 2 SA_SA23 SA_WF SA_noIdent (by decide) (by decide) aE
    (by decide +kernel) r hr hd

end ReorderRelExamples

#print axioms DD.swapVarRel_eval
#print axioms DD.swapVarRel_red
#print axioms DD.swapVarRel_canonical
#print axioms DD.swapVarRel_involutive
#print axioms DD.levelSwap4_eq_swapVarRel
#print axioms EDD.swapAdjE_eval
#print axioms EDD.swapAdjE_red
#print axioms EDD.swapAdjE_canonical
#print axioms EDD.swapAdjE_involutive
#print axioms Reorder.relSwap_preserves_varfunction
#print axioms Reorder.reorderRel_preserves_function
#print axioms Reorder.reorderRel_preserves_reduced
#print axioms Reorder.reorderE_preserves_function
#print axioms Reorder.reorderE_preserves_reduced
/- Output (Lean 4.33.0):
'Meddly.DD.swapVarRel_eval' depends on axioms: [propext, Classical.choice, Quot.sound]
'Meddly.DD.swapVarRel_red' depends on axioms: [propext, Classical.choice, Quot.sound]
'Meddly.DD.swapVarRel_canonical' depends on axioms: [propext, Classical.choice, Quot.sound]
'Meddly.DD.swapVarRel_involutive' depends on axioms: [propext, Classical.choice, Quot.sound]
'Meddly.DD.levelSwap4_eq_swapVarRel' depends on axioms: [propext, Classical.choice, Quot.sound]
'Meddly.EDD.swapAdjE_eval' depends on axioms: [propext, Classical.choice, Quot.sound]
'Meddly.EDD.swapAdjE_red' depends on axioms: [propext, Classical.choice, Quot.sound]
'Meddly.EDD.swapAdjE_canonical' depends on axioms: [propext, Classical.choice, Quot.sound]
'Meddly.EDD.swapAdjE_involutive' depends on axioms: [propext, Classical.choice, Quot.sound]
'Meddly.Reorder.relSwap_preserves_varfunction' depends on axioms: [propext, Classical.choice, Quot.sound]
'Meddly.Reorder.reorderRel_preserves_function' depends on axioms: [propext, Classical.choice, Quot.sound]
'Meddly.Reorder.reorderRel_preserves_reduced' depends on axioms: [propext, Classical.choice, Quot.sound]
'Meddly.Reorder.reorderE_preserves_function' depends on axioms: [propext, Classical.choice, Quot.sound]
'Meddly.Reorder.reorderE_preserves_reduced' depends on axioms: [propext, Classical.choice, Quot.sound]

  Scope (kept visible):
    * the model works on TREES: the in-place node surgery of the C++ (`setNodeLevel`, `swapNodes`,
      `modifyReducedNodeInPlace`, unique-table re-insertion, duplicate resolution) is tied to the
      model through `swapVarRel_canonical` / `swapAdjE_canonical` (any reduced result with the
      swapped denotation IS the model's tree) and the differential run, not modelled step by step;
    * `levelSwap4_eq_swapVarRel` is about the ALGORITHM of `swapAdjacentVariablesByLevelSwap`; in
      the library `mtmxd_forest::swapAdjacentLevels` throws `NOT_IMPLEMENTED`;
    * EV+ RELATIONS (EV+MxD, identity-reduced with edge values) and EV* forests are not covered:
      `swapAdjE` is stated for shapes without `ident` positions (`NoIdent`, all EV+ set forests).
-/

end Meddly
