/-
  Correctness of the decision-diagram recursion of saturation (`Ops/Saturation.lean`).

  Semantics.  A state is a valid assignment; the event of top level `m+1` fires from `x` to `y`
  (`Fires m x y`) when `ev (m+1) (x (m+1)) (y (m+1))` relates the positions `1..m` of `x` and `y`
  and every position above `m+1` is unchanged; `StepLe k` is the union of the lifted events of
  level `≤ k`, `Reach k A` the valid states reachable from `A` by them.

  Structure of the proof.
    * one level (`section Level`): for ANY firing function `fire` of level `k` that meets the
      specification `FireSpec` (denotes the `≤ k`-saturated image), the loop of level `k+1`
        - keeps every child reduced and closed under the events below (`sweep_inv`),
        - only grows the children (`sweep_mono`) and contains every firing of the initial
          children (`fold_contains`),
        - strictly grows the number of states in every sweep that changes a child — the
          children are reduced trees, so by canonicity (`canon_gen`) a changed tree is a
          changed set (`sweep_grows`) — hence stops by its own test within `numStates + 1`
          rounds at a fixed point of the sweep (`loop_fix`, `satLoop_fix`),
        - and therefore builds exactly the `≤ k+1`-reachable set of its initial children
          (`satLoop_spec`: soundness by an invariant `T`, completeness by fixed point + closure);
    * `recFire_spec`: by induction on the level, `recFire k` meets `FireSpec`;
    * `saturate_main`: by induction on the level (children first), `saturate k n` is reduced and
      denotes exactly `Reach k n`.
  Nothing is left partial with respect to the model; the modelling boundary (semantic relation,
  round-based loop instead of the index queue, no compute tables, no level jump in `recFire`) is
  described in `Ops/Saturation.lean`.
-/
import MeddlyModel.Ops.Saturation
import MeddlyModel.Ops.Reach

namespace Meddly
namespace Satur
open DD

section Sem
variable (S : Shape) (ev : Nat → Nat → Nat → Rel)

/-- the event of top level `m+1` fires from `x` to `y`: position `m+1` moves from
    `x (m+1)` to `y (m+1)`, the sub-relation `ev (m+1) _ _` holds on positions
    `1..m`, every position above `m+1` is unchanged. -/
def Fires (m : Nat) (x y : Assign) : Prop :=
  relAt m (ev (m+1) (x (m+1)) (y (m+1))) x y = true ∧ ∀ p, m+1 < p → x p = y p

/-- one step of some event of top level `≤ k` -/
def StepLe (k : Nat) (x y : Assign) : Prop := ∃ m, m < k ∧ Fires ev m x y

/-- the valid states reachable from the valid states of `A` by events of level `≤ k` -/
inductive Reach (k : Nat) (A : Assign → Prop) : Assign → Prop
  | base {x : Assign} : Assign.Valid S x → A x → Reach k A x
  | step {x y : Assign} : Reach k A x → Assign.Valid S y → StepLe ev k x y → Reach k A y

/-- image of `A` under the relation `r` read at positions `1..k` (identity above `k`) -/
def img (k : Nat) (r : Rel) (A : Assign → Prop) (y : Assign) : Prop :=
  ∃ x, Assign.Valid S x ∧ A x ∧ relAt k r x y = true ∧ ∀ p, k < p → x p = y p

/-- the set denoted by the tree `t` (read at position `k`) is closed under events of level `≤ k` -/
def ClosedT (k : Nat) (t : DD Bool) : Prop :=
  ∀ x y, Assign.Valid S x → Assign.Valid S y → eval S false k t x = true → StepLe ev k x y →
    eval S false k t y = true

end Sem

theorem trunc_zero (x : Assign) : trunc 0 x = zeroA := by
  funext p
  unfold trunc zeroA
  rw [if_neg (by omega)]

theorem trunc_apply {k p : Nat} (h1 : 1 ≤ p) (h2 : p ≤ k) (x : Assign) : trunc k x p = x p :=
  if_pos ⟨h1, h2⟩

theorem trunc_congr {k : Nat} {x y : Assign} (h : ∀ p, 1 ≤ p → p ≤ k → x p = y p) :
    trunc k x = trunc k y := by
  funext p
  unfold trunc
  by_cases hp : 1 ≤ p ∧ p ≤ k
  · rw [if_pos hp, if_pos hp, h p hp.1 hp.2]
  · rw [if_neg hp, if_neg hp]

theorem trunc_upd_above {m p : Nat} (h : m < p) (x : Assign) (v : Nat) :
    trunc m (Assign.upd x p v) = trunc m x :=
  trunc_congr (fun q _ hq => Assign.upd_other x v (by omega))

theorem trunc_succ (k : Nat) (x : Assign) :
    Assign.upd (trunc k x) (k+1) (x (k+1)) = trunc (k+1) x := by
  funext q
  unfold trunc
  by_cases hq : q = k+1
  · subst hq; rw [Assign.upd_same, if_pos (by omega)]
  · rw [Assign.upd_other _ _ hq]
    by_cases h1 : 1 ≤ q ∧ q ≤ k
    · rw [if_pos h1, if_pos (by omega)]
    · rw [if_neg h1, if_neg (by omega)]

theorem relAt_upd {m p : Nat} (h : m < p) (r : Rel) (x y : Assign) (v w : Nat) :
    relAt m r (Assign.upd x p v) (Assign.upd y p w) = relAt m r x y := by
  unfold relAt
  rw [trunc_upd_above h, trunc_upd_above h]

theorem relAt_upd_left {m p : Nat} (h : m < p) (r : Rel) (x y : Assign) (v : Nat) :
    relAt m r (Assign.upd x p v) y = relAt m r x y := by
  unfold relAt
  rw [trunc_upd_above h]

theorem relAt_succ (k : Nat) (r : Rel) (x y : Assign) :
    relAt (k+1) r x y = relAt k (sub r (k+1) (x (k+1)) (y (k+1))) x y := by
  unfold relAt sub
  rw [trunc_succ, trunc_succ]

theorem upd_self (y : Assign) (p : Nat) : Assign.upd y p (y p) = y := by
  funext q
  by_cases hq : q = p
  · subst hq; rw [Assign.upd_same]
  · rw [Assign.upd_other _ _ hq]

section StepLemmas
variable {S : Shape} {ev : Nat → Nat → Nat → Rel} {k : Nat} {A B : Assign → Prop} {x y : Assign}

theorem StepLe.mono {k' : Nat} (h : k ≤ k') (hs : StepLe ev k x y) :
    StepLe ev k' x y := by
  obtain ⟨m, hm, hf⟩ := hs
  exact ⟨m, by omega, hf⟩

theorem StepLe.above (hs : StepLe ev k x y) :
    ∀ p, k < p → x p = y p := by
  obtain ⟨m, hm, _, hf⟩ := hs
  intro p hp
  exact hf p (by omega)

theorem not_stepLe_zero : ¬ StepLe ev 0 x y := by
  rintro ⟨m, hm, _⟩
  omega

theorem Fires.upd {m p : Nat} (hp : m+1 < p) (v : Nat) (hf : Fires ev m x y) :
    Fires ev m (Assign.upd x p v) (Assign.upd y p v) := by
  obtain ⟨h1, h2⟩ := hf
  have hne : m+1 ≠ p := by omega
  refine ⟨?_, ?_⟩
  · rw [Assign.upd_other x v hne, Assign.upd_other y v hne, relAt_upd (by omega)]
    exact h1
  · intro q hq
    by_cases hqp : q = p
    · subst hqp; rw [Assign.upd_same, Assign.upd_same]
    · rw [Assign.upd_other _ _ hqp, Assign.upd_other _ _ hqp]; exact h2 q hq

theorem StepLe.upd (v : Nat) (hs : StepLe ev k x y) :
    StepLe ev (k+1) (Assign.upd x (k+1) v) (Assign.upd y (k+1) v) := by
  obtain ⟨m, hm, hf⟩ := hs
  exact ⟨m, by omega, hf.upd (by omega) v⟩

theorem Reach.valid (h : Reach S ev k A y) :
    Assign.Valid S y := by
  cases h with
  | base hv _ => exact hv
  | step _ hv _ => exact hv

/-- least-closed-superset principle -/
theorem Reach.induct (D : Assign → Prop)
    (hA : ∀ x, Assign.Valid S x → A x → D x)
    (hD : ∀ x y, Assign.Valid S x → Assign.Valid S y → D x → StepLe ev k x y → D y)
    (h : Reach S ev k A y) : D y := by
  induction h with
  | base hv ha => exact hA _ hv ha
  | step hr hv hs ih => exact hD _ _ hr.valid hv ih hs

theorem Reach.mono_reach {k' : Nat} (hk : k ≤ k')
    (hAB : ∀ x, Assign.Valid S x → A x → Reach S ev k' B x)
    (h : Reach S ev k A y) : Reach S ev k' B y := by
  induction h with
  | base hv ha => exact hAB _ hv ha
  | step _ hv hs ih => exact .step ih hv (hs.mono hk)

theorem Reach.mono
    (hAB : ∀ x, Assign.Valid S x → A x → B x)
    (h : Reach S ev k A y) : Reach S ev k B y :=
  h.mono_reach (Nat.le_refl k) (fun x hv ha => .base hv (hAB x hv ha))

theorem Reach_zero :
    Reach S ev 0 A y ↔ Assign.Valid S y ∧ A y := by
  constructor
  · intro h
    cases h with
    | base hv ha => exact ⟨hv, ha⟩
    | step _ _ hs => exact absurd hs not_stepLe_zero
  · rintro ⟨hv, ha⟩; exact .base hv ha

theorem Reach_empty (hA : ∀ x, ¬ A x) :
    ¬ Reach S ev k A y := by
  intro h
  induction h with
  | base _ ha => exact hA _ ha
  | step _ _ _ ih => exact ih

/-- a path that stays below position `k+1` keeps position `k+1` -/
theorem Reach.lift (j : Nat)
    (hAB : ∀ x, Assign.Valid S x → A x → x (k+1) = j → Reach S ev (k+1) B x)
    (h : Reach S ev k A y) : y (k+1) = j → Reach S ev (k+1) B y := by
  induction h with
  | base hv ha => exact hAB _ hv ha
  | step _ hv hs ih =>
    intro hj
    refine .step (ih ?_) hv (hs.mono (Nat.le_succ k))
    rw [hs.above (k+1) (Nat.lt_succ_self k)]; exact hj

end StepLemmas

section Trees
variable {S : Shape}

theorem eval_bot (k : Nat) (x : Assign) : eval S false k bot x = false :=
  eval_leaf_zero S false k x

theorem red_bot (k : Nat) (fi : Option Nat) : Red S false k fi bot = true :=
  Red_leaf_zero S false k fi

variable (hred : ∀ p, S.mode p = .red)
include hred

theorem not_ident (p : Nat) : S.mode p ≠ .ident := by
  rw [hred p]; intro h; cases h

/-- `eval … k` reads positions `1..k` only -/
theorem eval_congr_pos (k : Nat) (d : DD Bool) (a a' : Assign)
    (h : ∀ p, 1 ≤ p → p ≤ k → a p = a' p) : eval S false k d a = eval S false k d a' := by
  induction k generalizing d with
  | zero => cases d <;> rfl
  | succ k ih =>
    have hk1 : a (k+1) = a' (k+1) := h (k+1) (by omega) (Nat.le_refl _)
    have hlow : ∀ p, 1 ≤ p → p ≤ k → a p = a' p := fun p h1 h2 => h p h1 (by omega)
    rcases storedAt_cases (k+1) d with ⟨cs, rfl⟩ | hd
    · rw [eval_succ_node, eval_succ_node, hk1]; exact ih _ hlow
    · simp only [eval_succ_skip S false k _ hd, hred, reduceCtorEq, false_and, if_false]
      exact ih d hlow

theorem eval_upd_above {k p : Nat} (hp : k < p) (d : DD Bool)
    (x : Assign) (v : Nat) : eval S false k d (Assign.upd x p v) = eval S false k d x :=
  eval_congr_pos hred k d _ _ (fun q _ hq => Assign.upd_other x v (by omega))

/-- a pair of `r` from a state of `n` puts its target into the image of `n`: the witness is the source
    with position `k+1` moved to its value in the target -/
theorem img_of_upd {k : Nat} {r : Rel} {n : DD Bool} {x y : Assign}
    (hx : Assign.Valid S x) (hj : y (k+1) < S.size (k+1)) (hn : eval S false k n x = true)
    (hr : relAt k r x y = true) (hup : ∀ p, k+1 < p → x p = y p) :
    img S k r (fun x => eval S false k n x = true) y := by
  refine ⟨Assign.upd x (k+1) (y (k+1)), hx.upd hj,
    (eval_upd_above hred (Nat.lt_succ_self k) n x _).trans hn,
    (relAt_upd_left (Nat.lt_succ_self k) r x y _).trans hr, fun p hp => ?_⟩
  by_cases hpk : p = k+1
  · subst hpk; rw [Assign.upd_same]
  · rw [Assign.upd_other _ _ hpk]; exact hup p (by omega)

theorem eval_trunc (k : Nat) (d : DD Bool) (x : Assign) :
    eval S false k d (trunc k x) = eval S false k d x :=
  eval_congr_pos hred k d _ _ (fun _ h1 h2 => trunc_apply h1 h2 x)

theorem cofactor_eval' (k : Nat) (d : DD Bool) (x : Assign) :
    eval S false (k+1) d x = eval S false k (cofactor S false (k+1) none d (x (k+1))) x :=
  cofactor_eval S false k none d x (fun h => absurd h (not_ident hred _))

theorem unionAt_eval {k : Nat} (hk : k ≤ S.top) (a b : DD Bool)
    {x : Assign} (hx : Assign.Valid S x) :
    eval S false k (unionAt S k a b) x = (eval S false k a x || eval S false k b x) :=
  apply2_eval S S S false false false _ k none a b x hk hx
    (fun h => absurd h (not_ident hred _)) (fun h => absurd h (not_ident hred _))
    (fun h => absurd h (not_ident hred _))

theorem unionAt_red (hS : S.WF) (k : Nat) (fi : Option Nat)
    (a b : DD Bool) : Red S false k fi (unionAt S k a b) = true := by
  rw [Red_fi_irrel S false k fi none _ (not_ident hred k)]
  exact apply2_red S S S false false false _ hS k none a b (fun _ => not_ident hred k)

theorem red_leaf (v : Bool) (k : Nat) (fi : Option Nat) :
    Red S false k fi (.leaf v) = true := by
  induction k generalizing fi with
  | zero => rfl
  | succ k ih =>
    rw [Red, Bool.and_eq_true]
    refine ⟨?_, ih none⟩
    unfold edgeOK
    rw [hred]

theorem eval_leaf (v : Bool) (x : Assign) (k : Nat) :
    eval S false k (.leaf v) x = v := by
  induction k with
  | zero => rfl
  | succ k ih =>
    simp only [eval_succ_skip S false k x (d := .leaf v) rfl, hred, reduceCtorEq, false_and, if_false]
    exact ih

end Trees

section Lists
variable {S : Shape}

theorem addTo_length (k : Nat) (cs : List (DD Bool)) (j : Nat) (t : DD Bool) :
    (addTo S k cs j t).length = cs.length := List.length_set

theorem addTo_getD (k : Nat) (cs : List (DD Bool)) (j j' : Nat) (t : DD Bool) :
    (addTo S k cs j t).getD j' bot =
      if j' = j ∧ j < cs.length then unionAt S k (cs.getD j bot) t else cs.getD j' bot := by
  unfold addTo
  rw [List.getD_eq_getElem?_getD, List.getElem?_set]
  by_cases h : j = j'
  · subst h
    by_cases hl : j < cs.length
    · rw [if_pos rfl, if_pos hl, if_pos ⟨rfl, hl⟩]; rfl
    · rw [if_pos rfl, if_neg hl, if_neg (fun h => hl h.2), List.getD_eq_getElem?_getD,
        List.getElem?_eq_none (by omega)]
  · rw [if_neg h, if_neg (fun h' => h h'.1.symm), List.getD_eq_getElem?_getD]

theorem mem_pairs {n : Nat} {p : Nat × Nat} : p ∈ pairs n ↔ p.1 < n ∧ p.2 < n := by
  unfold pairs
  rw [List.mem_flatMap]
  constructor
  · rintro ⟨i, hi, hp⟩
    obtain ⟨j, hj, rfl⟩ := List.mem_map.mp hp
    exact ⟨List.mem_range.mp hi, List.mem_range.mp hj⟩
  · rintro ⟨h1, h2⟩
    exact ⟨p.1, List.mem_range.mpr h1, List.mem_map.mpr ⟨p.2, List.mem_range.mpr h2, rfl⟩⟩

def AllP (n : Nat) (P : Nat → DD Bool → Prop) (cs : List (DD Bool)) : Prop :=
  cs.length = n ∧ ∀ j, j < n → P j (cs.getD j bot)

theorem fold_inv (k n : Nat) (P : Nat → DD Bool → Prop)
    (g : List (DD Bool) → Nat × Nat → DD Bool) (L : List (Nat × Nat))
    (hstep : ∀ cs p, p ∈ L → AllP n P cs → p.2 < n →
      P p.2 (unionAt S k (cs.getD p.2 bot) (g cs p)))
    (cs : List (DD Bool)) (h : AllP n P cs) :
    AllP n P (L.foldl (fun cs p => addTo S k cs p.2 (g cs p)) cs) := by
  induction L generalizing cs with
  | nil => exact h
  | cons q L ih =>
    rw [List.foldl_cons]
    apply ih (fun cs p hp => hstep cs p (List.mem_cons_of_mem _ hp))
    refine ⟨by rw [addTo_length]; exact h.1, ?_⟩
    intro j hj
    rw [addTo_getD]
    by_cases hc : j = q.2 ∧ q.2 < cs.length
    · rw [if_pos hc, hc.1]
      exact hstep cs q List.mem_cons_self h (by rw [← hc.1]; exact hj)
    · rw [if_neg hc]; exact h.2 j hj

theorem loop_inv (f : List (DD Bool) → List (DD Bool)) (I : List (DD Bool) → Prop)
    (hf : ∀ cs, I cs → I (f cs)) (n : Nat) (cs : List (DD Bool)) (h : I cs) : I (loop f n cs) := by
  induction n generalizing cs with
  | zero => exact h
  | succ n ih =>
    unfold loop
    split
    · exact h
    · exact ih _ (hf cs h)

/-- the loop stops by its own test when a bounded measure grows in every non-final round -/
theorem loop_fix (f : List (DD Bool) → List (DD Bool)) (μ : List (DD Bool) → Nat) (N : Nat)
    (I : List (DD Bool) → Prop) (hf : ∀ cs, I cs → I (f cs)) (hB : ∀ cs, I cs → μ cs ≤ N)
    (hG : ∀ cs, I cs → f cs ≠ cs → μ cs < μ (f cs)) (n : Nat) (cs : List (DD Bool)) (h : I cs)
    (hn : N < n + μ cs) : f (loop f n cs) = loop f n cs := by
  induction n generalizing cs with
  | zero =>
    have := hB cs h
    omega
  | succ n ih =>
    unfold loop
    by_cases he : f cs = cs
    · rw [if_pos he]; exact he
    · rw [if_neg he]
      have := hG cs h he
      exact ih _ (hf cs h) (by omega)

def LeL (S : Shape) (k : Nat) (cs cs' : List (DD Bool)) : Prop :=
  ∀ j x, Assign.Valid S x → eval S false k (cs.getD j bot) x = true →
    eval S false k (cs'.getD j bot) x = true

variable (hred : ∀ p, S.mode p = .red) {k : Nat} (hk : k ≤ S.top)
include hred hk

theorem addTo_le (cs : List (DD Bool)) (j : Nat) (t : DD Bool) : LeL S k cs (addTo S k cs j t) := by
  intro j' x hx h
  rw [addTo_getD]
  by_cases hc : j' = j ∧ j < cs.length
  · rw [if_pos hc, unionAt_eval hred hk _ _ hx, ← hc.1, h]; rfl
  · rw [if_neg hc]; exact h

theorem fold_mono (g : List (DD Bool) → Nat × Nat → DD Bool) (L : List (Nat × Nat)) (cs : List (DD Bool)) :
    LeL S k cs (L.foldl (fun cs p => addTo S k cs p.2 (g cs p)) cs) := by
  induction L generalizing cs with
  | nil => exact fun j x _ h => h
  | cons q L ih => exact fun j x hx h => ih _ j x hx (addTo_le hred hk cs _ _ j x hx h)

theorem fold_contains (n : Nat)
    (g : List (DD Bool) → Nat × Nat → DD Bool)
    (gmono : ∀ cs cs' p x, LeL S k cs cs' → Assign.Valid S x →
      eval S false k (g cs p) x = true → eval S false k (g cs' p) x = true)
    (L : List (Nat × Nat)) (cs : List (DD Bool)) (hlen : cs.length = n) (p : Nat × Nat) (hp : p ∈ L)
    (hpn : p.2 < n) (x : Assign) (hx : Assign.Valid S x) (h : eval S false k (g cs p) x = true) :
    eval S false k ((L.foldl (fun cs p => addTo S k cs p.2 (g cs p)) cs).getD p.2 bot) x = true := by
  induction L generalizing cs with
  | nil => cases hp
  | cons q L ih =>
    rw [List.foldl_cons]
    rcases List.mem_cons.mp hp with rfl | hpL
    · apply fold_mono hred hk g L _ _ x hx
      rw [addTo_getD, if_pos ⟨rfl, by rw [hlen]; exact hpn⟩, unionAt_eval hred hk _ _ hx, h,
        Bool.or_true]
    · apply ih _ (by rw [addTo_length]; exact hlen) hpL
      exact gmono cs _ p x (addTo_le hred hk cs _ _) hx h

end Lists

section Count
variable {S : Shape}

theorem enum_spec (hS : S.WF) (k : Nat) (hk : k ≤ S.top) (x : Assign) (hx : x ∈ enum S k) :
    Assign.Valid S x ∧ ∀ p, k < p → x p = 0 := by
  induction k generalizing x with
  | zero =>
    have : x = zeroA := by simpa [enum] using hx
    subst this
    exact ⟨Assign.valid_const_zero hS, fun _ _ => rfl⟩
  | succ k ih =>
    obtain ⟨i, hi, hx⟩ := List.mem_flatMap.mp hx
    obtain ⟨x0, hx0, rfl⟩ := List.mem_map.mp hx
    obtain ⟨hv, hz⟩ := ih (by omega) x0 hx0
    refine ⟨hv.upd (List.mem_range.mp hi), ?_⟩
    intro p hp
    rw [Assign.upd_other _ _ (by omega)]
    exact hz p (by omega)

theorem mem_enum {a : Assign} (ha : Assign.Valid S a) (k : Nat) (hk : k ≤ S.top) :
    trunc k a ∈ enum S k := by
  induction k with
  | zero => rw [trunc_zero]; simp [enum]
  | succ k ih =>
    rw [← trunc_succ]
    exact List.mem_flatMap.mpr ⟨a (k+1), List.mem_range.mpr (ha (k+1) (by omega) hk),
      List.mem_map.mpr ⟨trunc k a, ih (by omega), rfl⟩⟩

theorem length_flatMap_const {α β : Type} (c : Nat) (f : α → List β) (l : List α)
    (h : ∀ a, a ∈ l → (f a).length = c) : (l.flatMap f).length = l.length * c := by
  induction l with
  | nil => simp
  | cons a l ih =>
    rw [List.flatMap_cons, List.length_append, h a List.mem_cons_self,
      ih (fun b hb => h b (List.mem_cons_of_mem _ hb)), List.length_cons, Nat.succ_mul, Nat.add_comm]

theorem enum_length (k : Nat) : (enum S k).length = numStates S k := by
  induction k with
  | zero => rfl
  | succ k ih =>
    show (List.flatMap _ _).length = S.size (k+1) * numStates S k
    rw [length_flatMap_const (numStates S k) _ _ (fun i _ => by rw [List.length_map, ih]),
      List.length_range]

end Count

section Level
variable {S : Shape} {ev : Nat → Nat → Nat → Rel}

/-- specification of the firing function of level `k` used by the loop of level `k+1`:
    `fire n r` denotes the `≤ k`-saturated image of `n` under `r` -/
def FireSpec (S : Shape) (ev : Nat → Nat → Nat → Rel) (k : Nat)
    (fire : DD Bool → Rel → DD Bool) : Prop :=
  ∀ n r y, Assign.Valid S y →
    (eval S false k (fire n r) y = true ↔
      Reach S ev k (img S k r (fun x => eval S false k n x = true)) y)

theorem FireSpec.mono {k : Nat} {fire : DD Bool → Rel → DD Bool} (hf : FireSpec S ev k fire)
    {n n' : DD Bool}
    (h : ∀ x, Assign.Valid S x → eval S false k n x = true → eval S false k n' x = true)
    (r : Rel) {y : Assign} (hy : Assign.Valid S y) :
    eval S false k (fire n r) y = true → eval S false k (fire n' r) y = true := by
  intro h1
  rw [hf n' r y hy]
  refine ((hf n r y hy).mp h1).mono ?_
  rintro x hx ⟨x0, hx0, ha, hr, hu⟩
  exact ⟨x0, hx0, h x0 hx0 ha, hr, hu⟩

theorem closedT_of_reach {k : Nat} {t : DD Bool} {A : Assign → Prop}
    (h : ∀ y, Assign.Valid S y → (eval S false k t y = true ↔ Reach S ev k A y)) :
    ClosedT S ev k t :=
  fun x y hx hy hx' hs => (h y hy).mpr (.step ((h x hx).mp hx') hy hs)

theorem FireSpec.closed {k : Nat} {fire : DD Bool → Rel → DD Bool} (hf : FireSpec S ev k fire)
    (n : DD Bool) (r : Rel) : ClosedT S ev k (fire n r) :=
  closedT_of_reach (hf n r)

/-- the setting of the loop of level `k+1`: a well-formed, fully reduced forest with at least `k+1`
    levels and a firing function of level `k` that meets its specification -/
structure Lev (S : Shape) (ev : Nat → Nat → Nat → Rel) (k : Nat)
    (fire : DD Bool → Rel → DD Bool) : Prop where
  wf : S.WF
  red : ∀ p, S.mode p = .red
  le : k+1 ≤ S.top
  spec : FireSpec S ev k fire

variable {k : Nat} {fire : DD Bool → Rel → DD Bool}

theorem closedT_bot (k : Nat) : ClosedT S ev k bot := by
  intro x y _ _ h _
  rw [eval_bot] at h; cases h

/-- invariant of child `j` of the node under construction: reduced, closed under the events
    of the levels below, inside the target set `T j` -/
def ChildP (S : Shape) (ev : Nat → Nat → Nat → Rel) (k : Nat) (T : Nat → Assign → Prop)
    (j : Nat) (t : DD Bool) : Prop :=
  Red S false k none t = true ∧ ClosedT S ev k t ∧
    ∀ x, Assign.Valid S x → eval S false k t x = true → T j x

/-- children of a node of level `k+1` under construction: reduced, closed under the events below -/
def Good (S : Shape) (ev : Nat → Nat → Nat → Rel) (k : Nat) (cs : List (DD Bool)) : Prop :=
  AllP (S.size (k+1)) (ChildP S ev k (fun _ _ => True)) cs

/-- the measure: number of states of level `k+1` in the node with children `cs` -/
def mu (S : Shape) (k : Nat) (cs : List (DD Bool)) : Nat :=
  ((enum S (k+1)).filter (fun x => eval S false k (cs.getD (x (k+1)) bot) x)).length

theorem mu_le (k : Nat) (cs : List (DD Bool)) : mu S k cs ≤ numStates S (k+1) := by
  unfold mu
  rw [← enum_length]
  exact List.length_filter_le _ _

/-- soundness of one firing at level `k+1`: if the states of `n`, put below index `i`, are reachable, then
    so are the states of `fire n (ev (k+1) i j)` put below index `j` (fire the entry `i → j`, then lift
    the steps of the levels below) -/
theorem FireSpec.lift (hf : FireSpec S ev k fire)
    {A : Assign → Prop} {i j : Nat} (hj : j < S.size (k+1)) {n : DD Bool}
    (hn : ∀ x, Assign.Valid S x → eval S false k n x = true →
      Reach S ev (k+1) A (Assign.upd x (k+1) i))
    {y : Assign} (hy : Assign.Valid S y) (he : eval S false k (fire n (ev (k+1) i j)) y = true) :
    Reach S ev (k+1) A (Assign.upd y (k+1) j) := by
  refine Reach.induct (fun y => Reach S ev (k+1) A (Assign.upd y (k+1) j)) ?_ ?_
    ((hf n _ y hy).mp he)
  · rintro y hy ⟨x, hx, hnx, hrel, hup⟩
    refine .step (hn x hx hnx) (hy.upd hj) ⟨k, Nat.lt_succ_self k, ?_, ?_⟩
    · rw [Assign.upd_same, Assign.upd_same, relAt_upd (Nat.lt_succ_self k)]; exact hrel
    · intro p hp
      rw [Assign.upd_other _ _ (by omega), Assign.upd_other _ _ (by omega)]
      exact hup p (by omega)
  · intro x y hx hy hTx hs
    exact .step hTx (hy.upd hj) (hs.upd j)

variable (L : Lev S ev k fire)
include L

theorem Lev.le' : k ≤ S.top := Nat.le_of_succ_le L.le

theorem Lev.lt {x : Assign} (hx : Assign.Valid S x) :
    x (k+1) < S.size (k+1) :=
  hx (k+1) (Nat.succ_pos k) L.le

theorem ChildP.union {T : Nat → Assign → Prop} {j : Nat} {a b : DD Bool}
    (ha : ChildP S ev k T j a) (hb : ClosedT S ev k b)
    (hT : ∀ x, Assign.Valid S x → eval S false k b x = true → T j x) :
    ChildP S ev k T j (unionAt S k a b) := by
  have hu : ∀ {x}, Assign.Valid S x → (eval S false k (unionAt S k a b) x = true ↔
      eval S false k a x = true ∨ eval S false k b x = true) :=
    fun hx => by rw [unionAt_eval L.red L.le' _ _ hx, Bool.or_eq_true]
  refine ⟨unionAt_red L.red L.wf k none _ _, fun x y hx hy h hs => ?_, fun x hx he => ?_⟩
  · exact (hu hy).mpr (((hu hx).mp h).imp (ha.2.1 x y hx hy · hs) (hb x y hx hy · hs))
  · exact ((hu hx).mp he).elim (ha.2.2 x hx) (hT x hx)

theorem sweep_inv (T : Nat → Assign → Prop)
    (hT : ∀ i j, i < S.size (k+1) → j < S.size (k+1) → ∀ n,
      (∀ x, Assign.Valid S x → eval S false k n x = true → T i x) →
      ∀ y, Assign.Valid S y → eval S false k (fire n (ev (k+1) i j)) y = true → T j y)
    (cs : List (DD Bool)) (h : AllP (S.size (k+1)) (ChildP S ev k T) cs) :
    AllP (S.size (k+1)) (ChildP S ev k T) (sweep S ev fire k cs) := by
  refine fold_inv k _ _ _ _ (fun cs p hp hc hp2 => ?_) cs h
  have hp1 := (mem_pairs.mp hp).1
  exact (hc.2 p.2 hp2).union L (L.spec.closed _ _)
    (hT p.1 p.2 hp1 hp2 _ (hc.2 p.1 hp1).2.2)

theorem sweep_good (cs : List (DD Bool))
    (h : Good S ev k cs) : Good S ev k (sweep S ev fire k cs) :=
  sweep_inv L _ (fun _ _ _ _ _ _ _ _ _ => trivial) cs h

theorem sweep_mono (cs : List (DD Bool)) :
    LeL S k cs (sweep S ev fire k cs) :=
  fold_mono L.red L.le' _ _ cs

/-- canonicity at work: a sweep that changes some child (as a tree) adds a state -/
theorem sweep_grows (cs : List (DD Bool)) (h : Good S ev k cs)
    (hne : sweep S ev fire k cs ≠ cs) : mu S k cs < mu S k (sweep S ev fire k cs) := by
  have h' := sweep_good L cs h
  have hmono := sweep_mono L cs
  by_cases hex : ∃ j a, j < S.size (k+1) ∧ Assign.Valid S a ∧
      eval S false k ((sweep S ev fire k cs).getD j bot) a = true ∧
      eval S false k (cs.getD j bot) a = false
  · obtain ⟨j, a, hj, ha, h1, h2⟩ := hex
    -- the state `a` below index `j` is counted after the sweep and was not before
    have key : ∀ c : List (DD Bool),
        eval S false k (c.getD (Assign.upd (trunc k a) (k+1) j (k+1)) bot)
          (Assign.upd (trunc k a) (k+1) j) = eval S false k (c.getD j bot) a := fun c => by
      rw [Assign.upd_same, eval_upd_above L.red (Nat.lt_succ_self k), eval_trunc L.red]
    refine Pregen.filter_length_lt (a := Assign.upd (trunc k a) (k+1) j) ?_ ?_
      ((key _).trans h1) ((key _).trans h2)
    · intro x hx hp
      exact hmono _ x (enum_spec L.wf (k+1) L.le x hx).1 hp
    · exact List.mem_flatMap.mpr ⟨j, List.mem_range.mpr hj,
        List.mem_map.mpr ⟨trunc k a, mem_enum ha k L.le', rfl⟩⟩
  · exfalso
    apply hne
    apply list_ext_getD _ _ bot (by rw [h'.1, h.1])
    intro j hj
    rw [h'.1] at hj
    apply canon_gen S false L.wf k L.le' none _ _ (fun i hi => nomatch hi)
      (h'.2 j hj).1 (h.2 j hj).1
    intro a ha _
    refine Bool.eq_iff_iff.mpr ⟨fun h1 => ?_, hmono j a ha⟩
    cases h2 : eval S false k (cs.getD j bot) a with
    | true => rfl
    | false => exact absurd ⟨j, a, hj, ha, h1, h2⟩ hex

theorem satLoop_good (cs : List (DD Bool))
    (h : Good S ev k cs) : Good S ev k (satLoop S ev fire k cs) :=
  loop_inv _ _ (sweep_good L) _ cs h

theorem satLoop_mono (cs : List (DD Bool)) :
    LeL S k cs (satLoop S ev fire k cs) :=
  loop_inv _ (fun cs' => LeL S k cs cs')
    (fun cs' h j x hx he => sweep_mono L cs' j x hx (h j x hx he)) _ cs
    (fun _ _ _ he => he)

/-- the loop of `saturateHelper` stops by its own test: its result is a fixed point of the sweep -/
theorem satLoop_fix (cs : List (DD Bool)) (h : Good S ev k cs) :
    sweep S ev fire k (satLoop S ev fire k cs) = satLoop S ev fire k cs := by
  unfold satLoop
  apply loop_fix _ (mu S k) (numStates S (k+1)) _
    (sweep_good L)
    (fun cs _ => mu_le k cs) (fun cs hc hne => sweep_grows L cs hc hne) _ cs h
  omega

theorem node_eval (T : Nat → Assign → Prop) (cs : List (DD Bool))
    (h : AllP (S.size (k+1)) (ChildP S ev k T) cs) {y : Assign} (hy : Assign.Valid S y) :
    eval S false (k+1) (mkNode S false (k+1) none cs) y
      = eval S false k (cs.getD (y (k+1)) bot) y := by
  apply mkNode_eval S false k none cs y L.le h.1 hy
  · intro c hc
    obtain ⟨j, hj, rfl⟩ := List.getElem_of_mem hc
    have hr := (h.2 j (h.1 ▸ hj)).1
    rw [List.getD_eq_getElem?_getD, List.getElem?_eq_getElem hj] at hr
    exact (Red_WFTree S false k none _ hr).1
  · intro hm; exact absurd hm (not_ident L.red _)

theorem node_red (T : Nat → Assign → Prop) (cs : List (DD Bool))
    (h : AllP (S.size (k+1)) (ChildP S ev k T) cs) (fi : Option Nat) :
    Red S false (k+1) fi (mkNode S false (k+1) none cs) = true := by
  rw [Red_fi_irrel S false (k+1) fi none _ (not_ident L.red _)]
  apply mkNode_red S false L.wf k none cs h.1
  · intro i hi
    rw [Red_fi_irrel S false k (some i) none _ (not_ident L.red _)]
    exact (h.2 i (by rw [← h.1]; exact hi)).1
  · intro _; exact not_ident L.red _

/-- The node built by the loop of level `k+1` from children that are closed under the events
    of the levels below denotes exactly the states reachable, by events of level `≤ k+1`,
    from the states of the initial children. -/
theorem satLoop_spec (cs0 : List (DD Bool))
    (h0 : Good S ev k cs0)
    {y : Assign} (hy : Assign.Valid S y) :
    eval S false (k+1) (mkNode S false (k+1) none (satLoop S ev fire k cs0)) y = true ↔
      Reach S ev (k+1) (fun x => eval S false k (cs0.getD (x (k+1)) bot) x = true) y := by
  have h0T : AllP (S.size (k+1)) (ChildP S ev k (fun j x => Reach S ev (k+1)
      (fun x => eval S false k (cs0.getD (x (k+1)) bot) x = true) (Assign.upd x (k+1) j))) cs0 := by
    refine ⟨h0.1, fun j hj => ⟨(h0.2 j hj).1, (h0.2 j hj).2.1, fun x hx he => ?_⟩⟩
    refine .base (hx.upd hj) ?_
    show _ = true
    rw [Assign.upd_same, eval_upd_above L.red (Nat.lt_succ_self k)]; exact he
  have hr : AllP _ (ChildP S ev k _) (satLoop S ev fire k cs0) :=
    loop_inv _ _ (sweep_inv L _ (fun i j _ hj n hn y hy he => L.spec.lift hj hn hy he)) _ cs0 h0T
  have hfix := satLoop_fix L cs0 h0
  rw [node_eval L _ _ hr hy]
  constructor
  · intro he
    have := (hr.2 _ (L.lt hy)).2.2 y hy he
    simp only [upd_self] at this
    exact this
  · intro hreach
    refine Reach.induct
      (fun y => eval S false k ((satLoop S ev fire k cs0).getD (y (k+1)) bot) y = true) ?_ ?_ hreach
    · exact fun x => satLoop_mono L cs0 _ x
    · rintro x y hx hy hD ⟨m, hm, hfire⟩
      by_cases hmk : m < k
      · show _ = true
        rw [← hfire.2 (k+1) (by omega)]
        exact (hr.2 _ (L.lt hx)).2.1 x y hx hy hD ⟨m, hmk, hfire⟩
      · obtain rfl : m = k := by omega
        have hj := L.lt hy
        show _ = true
        rw [← hfix]
        -- the fold function is read off the goal (`sweep`); `by exact` delays the monotonicity
        -- argument until it is known
        refine fold_contains L.red L.le' _ _
          (by exact fun cs cs' p x hle hx he => L.spec.mono (hle p.1) _ hx he)
          _ _ hr.1 (_, _) (mem_pairs.mpr ⟨L.lt hx, hj⟩) hj y hy
          ((L.spec _ _ y hy).mpr (.base hy (img_of_upd L.red hx hj hD hfire.1 hfire.2)))

end Level

section RecFire
variable {S : Shape} {ev : Nat → Nat → Nat → Rel}

theorem getD_replicate_bot (n j : Nat) : (List.replicate n bot).getD j bot = bot := by
  rw [List.getD_eq_getElem?_getD, List.getElem?_replicate]
  split <;> rfl

/-- the first pass of `recFire` (`nb[j] ∪= recFire(A[i], R[i][j])` over all `i`, `j`) -/
theorem firstPass_spec {k : Nat} {fire : DD Bool → Rel → DD Bool}
    (L : Lev S ev k fire) (n : DD Bool) (r : Rel) :
    Good S ev k (firstPass S fire k n r) ∧
    ∀ j, j < S.size (k+1) → ∀ y, Assign.Valid S y →
      (eval S false k ((firstPass S fire k n r).getD j bot) y = true ↔
        ∃ i, i < S.size (k+1) ∧
          eval S false k (fire (cofactor S false (k+1) none n i) (sub r (k+1) i j)) y = true) := by
  have h0 : AllP (S.size (k+1)) (ChildP S ev k (fun j y => ∃ i, i < S.size (k+1) ∧
      eval S false k (fire (cofactor S false (k+1) none n i) (sub r (k+1) i j)) y = true))
      (List.replicate (S.size (k+1)) bot) := by
    refine ⟨List.length_replicate, fun j _ => ?_⟩
    rw [getD_replicate_bot]
    exact ⟨red_bot _ _, closedT_bot _, fun x _ h => by rw [eval_bot] at h; cases h⟩
  have h1 : AllP _ (ChildP S ev k _) (firstPass S fire k n r) :=
    fold_inv k _ _ _ _ (fun cs p hp hc hp2 => (hc.2 p.2 hp2).union L
      (L.spec.closed _ _) (fun x _ he => ⟨p.1, (mem_pairs.mp hp).1, he⟩)) _ h0
  refine ⟨⟨h1.1, fun j hj => ⟨(h1.2 j hj).1, (h1.2 j hj).2.1, fun _ _ _ => trivial⟩⟩, ?_⟩
  intro j hj y hy
  constructor
  · exact (h1.2 j hj).2.2 y hy
  · rintro ⟨i, hi, he⟩
    exact fold_contains L.red L.le' _ _ (by exact fun _ _ _ _ _ _ h => h) _ _ List.length_replicate (i, j)
      (mem_pairs.mpr ⟨hi, hj⟩) hj y hy he

theorem recFire_zero (n : DD Bool) (r : Rel) :
    recFire S ev 0 n r = .leaf (leafVal false n && r zeroA zeroA) := rfl

theorem recFire_succ (k : Nat) (n : DD Bool) (r : Rel) :
    recFire S ev (k+1) n r =
      if n = bot then bot else
      mkNode S false (k+1) none
        (satLoop S ev (recFire S ev k) k (firstPass S (recFire S ev k) k n r)) := rfl

/-- `recFire k n r` denotes exactly the states reachable by events of level `≤ k` from the image
    of `n` under `r` -/
theorem recFire_spec (hS : S.WF) (hred : ∀ p, S.mode p = .red) (k : Nat) (hk : k ≤ S.top) :
    FireSpec S ev k (recFire S ev k) := by
  induction k with
  | zero =>
    intro n r y hy
    rw [recFire_zero, eval_zero_leaf, Reach_zero]
    constructor
    · intro h
      rw [Bool.and_eq_true] at h
      refine ⟨hy, y, hy, ?_, ?_, fun _ _ => rfl⟩
      · exact (eval_zero_eq_leafVal S false n y).trans h.1
      · unfold relAt; rw [trunc_zero]; exact h.2
    · rintro ⟨_, x, _, h1, h2, _⟩
      rw [eval_zero_eq_leafVal] at h1
      unfold relAt at h2
      rw [trunc_zero, trunc_zero] at h2
      rw [h1, h2]; rfl
  | succ k ih =>
    intro n r y hy
    have L : Lev S ev k (recFire S ev k) := ⟨hS, hred, hk, ih (by omega)⟩
    have hf := L.spec
    rw [recFire_succ]
    by_cases hn : n = bot
    · rw [if_pos hn, eval_bot]
      refine ⟨(nomatch ·), fun h => absurd h (Reach_empty ?_)⟩
      rintro x ⟨x0, _, h1, _⟩
      rw [hn, eval_bot] at h1; cases h1
    · rw [if_neg hn]
      obtain ⟨hA, hB⟩ := firstPass_spec L n r
      rw [satLoop_spec L _ hA hy]
      constructor
      · intro h
        refine h.mono_reach (Nat.le_refl _) ?_
        intro x hx hb
        have hjx := L.lt hx
        obtain ⟨i, hi, he⟩ := (hB _ hjx x hx).mp hb
        refine Reach.lift (x (k+1)) ?_ ((hf _ _ x hx).mp he) rfl
        rintro x' hx' ⟨x0, hx0, h1, h2, h3⟩ hj'
        refine .base hx' ⟨Assign.upd x0 (k+1) i, hx0.upd hi, ?_, ?_, ?_⟩
        · show _ = true
          rw [cofactor_eval' hred, Assign.upd_same, eval_upd_above hred (Nat.lt_succ_self k)]
          exact h1
        · rw [relAt_succ, Assign.upd_same, relAt_upd_left (Nat.lt_succ_self k), hj']; exact h2
        · intro p hp
          rw [Assign.upd_other _ _ (by omega)]; exact h3 p (by omega)
      · refine fun h => h.mono ?_
        rintro x hx ⟨x0, hx0, h1, h2, h3⟩
        have hjx := L.lt hx
        exact (hB _ hjx x hx).mpr ⟨x0 (k+1), L.lt hx0, (hf _ _ x hx).mpr (.base hx
          (img_of_upd hred hx0 hjx ((cofactor_eval' hred k n x0).symm.trans h1)
            ((relAt_succ k r x0 x).symm.trans h2) h3))⟩

theorem recFire_red (hS : S.WF) (hred : ∀ p, S.mode p = .red) (k : Nat) (hk : k ≤ S.top)
    (fi : Option Nat) (n : DD Bool) (r : Rel) : Red S false k fi (recFire S ev k n r) = true := by
  cases k with
  | zero => rw [recFire_zero]; rfl
  | succ k =>
    rw [recFire_succ]
    by_cases hn : n = bot
    · rw [if_pos hn]; exact red_bot _ _
    · rw [if_neg hn]
      have L : Lev S ev k (recFire S ev k) := ⟨hS, hred, hk, recFire_spec hS hred k (by omega)⟩
      exact node_red L _ _ (satLoop_good L _ (firstPass_spec L n r).1) fi

end RecFire

section Saturate
variable {S : Shape} {ev : Nat → Nat → Nat → Rel}

theorem saturate_zero (n : DD Bool) : saturate S ev 0 n = .leaf (leafVal false n) := rfl

theorem saturate_succ (k : Nat) (n : DD Bool) :
    saturate S ev (k+1) n = mkNode S false (k+1) none (satLoop S ev (recFire S ev k) k
      ((List.range (S.size (k+1))).map fun i =>
        saturate S ev k (cofactor S false (k+1) none n i))) := rfl

/-- the induction statement: reduced, and exactly the `≤ k`-reachable states -/
theorem saturate_main (hS : S.WF) (hred : ∀ p, S.mode p = .red) (k : Nat) (hk : k ≤ S.top)
    (n : DD Bool) :
    Red S false k none (saturate S ev k n) = true ∧
      ∀ y, Assign.Valid S y →
        (eval S false k (saturate S ev k n) y = true ↔
          Reach S ev k (fun x => eval S false k n x = true) y) := by
  induction k generalizing n with
  | zero =>
    rw [saturate_zero]
    refine ⟨rfl, fun y hy => ?_⟩
    rw [eval_zero_leaf, Reach_zero, eval_zero_eq_leafVal]
    exact ⟨fun h => ⟨hy, h⟩, fun h => h.2⟩
  | succ k ih =>
    have L : Lev S ev k (recFire S ev k) := ⟨hS, hred, hk, recFire_spec hS hred k (by omega)⟩
    have hA : Good S ev k
        ((List.range (S.size (k+1))).map fun i =>
          saturate S ev k (cofactor S false (k+1) none n i)) := by
      refine ⟨length_map_range _ _, fun j hj => ?_⟩
      rw [getD_map_range _ _ _ hj]
      obtain ⟨hr, hsp⟩ := ih (by omega) (cofactor S false (k+1) none n j)
      exact ⟨hr, closedT_of_reach hsp, fun _ _ _ => trivial⟩
    rw [saturate_succ]
    refine ⟨node_red L _ _ (satLoop_good L _ hA) none, ?_⟩
    intro y hy
    rw [satLoop_spec L _ hA hy]
    constructor
    · intro h
      refine h.mono_reach (Nat.le_refl _) ?_
      intro x hx hb
      have hjx := L.lt hx
      rw [getD_map_range _ _ _ hjx, (ih (by omega) _).2 x hx] at hb
      refine Reach.lift (x (k+1)) ?_ hb rfl
      intro x' hx' h1 hj'
      exact .base hx' ((cofactor_eval' hred k n x').trans (hj' ▸ h1))
    · refine fun h => h.mono fun x hx h1 => ?_
      show _ = true
      rw [getD_map_range _ _ _ (L.lt hx), (ih (by omega) _).2 x hx]
      exact .base hx ((cofactor_eval' hred k n x).symm.trans h1)

end Saturate

section Bridge
variable {S : Shape} {ev : Nat → Nat → Nat → Rel}

theorem ofList_toList (K : Nat) (x : Assign) : ofList (toList K x) = trunc K x := by
  funext p
  unfold ofList toList trunc
  cases p with
  | zero => rw [if_pos rfl, if_neg (by omega)]
  | succ q =>
    rw [if_neg (by omega)]
    show List.getD _ q 0 = _
    by_cases hq : q < K
    · rw [getD_map_range _ _ _ hq, if_pos (by omega)]
    · rw [if_neg (by omega), List.getD_eq_getElem?_getD,
        List.getElem?_eq_none (by rw [length_map_range]; omega)]
      rfl

theorem toList_trunc (K : Nat) (x : Assign) : toList K (trunc K x) = toList K x :=
  List.map_congr_left fun i hi => trunc_apply (Nat.succ_pos i) (List.mem_range.mp hi) x

theorem valid_trunc {x : Assign} (hx : Assign.Valid S x) : Assign.Valid S (trunc S.top x) := by
  intro p h1 h2
  rw [trunc_apply h1 h2]; exact hx p h1 h2

theorem trunc_trunc {m K : Nat} (h : m ≤ K) (x : Assign) : trunc m (trunc K x) = trunc m x :=
  trunc_congr (fun _ h1 h2 => trunc_apply h1 (Nat.le_trans h2 h) x)

theorem mem_dom_iff (hS : S.WF) {u : List Nat} :
    u ∈ dom S ↔ ∃ x, Assign.Valid S x ∧ u = toList S.top x := by
  unfold dom
  constructor
  · intro h
    obtain ⟨x, hx, rfl⟩ := List.mem_map.mp h
    exact ⟨x, (enum_spec hS _ (Nat.le_refl _) x hx).1, rfl⟩
  · rintro ⟨x, hx, rfl⟩
    rw [← toList_trunc]
    exact List.mem_map.mpr ⟨_, mem_enum hx _ (Nat.le_refl _), rfl⟩

theorem StepLe.trunc {K : Nat} {x y : Assign} (h : StepLe ev K x y) :
    StepLe ev K (trunc K x) (trunc K y) := by
  obtain ⟨m, hm, h1, h2⟩ := h
  refine ⟨m, hm, ?_, ?_⟩
  · rw [trunc_apply (Nat.succ_pos m) hm, trunc_apply (Nat.succ_pos m) hm]
    unfold relAt at h1 ⊢
    rw [trunc_trunc (by omega), trunc_trunc (by omega)]; exact h1
  · intro p hp
    show (if 1 ≤ p ∧ p ≤ K then x p else 0) = (if 1 ≤ p ∧ p ≤ K then y p else 0)
    rw [h2 p hp]

theorem stepRel_iff (x y : Assign) :
    stepRel S ev (toList S.top x) (toList S.top y) = true ↔
      StepLe ev S.top (trunc S.top x) (trunc S.top y) := by
  unfold stepRel StepLe Fires
  rw [ofList_toList, ofList_toList]
  simp only [List.any_eq_true, List.mem_range, Bool.and_eq_true, List.all_eq_true,
    Bool.or_eq_true, decide_eq_true_eq, beq_iff_eq]
  refine exists_congr fun m => and_congr_right fun hm => and_congr_right fun _ =>
    ⟨fun h2 p hp => ?_, fun h2 p hp => ?_⟩
  · by_cases hpK : p ≤ S.top
    · rcases h2 (p-1) (by omega) with h | h
      · omega
      · rw [show p - 1 + 1 = p by omega] at h; exact h
    · unfold trunc
      rw [if_neg (by omega), if_neg (by omega)]
  · by_cases hpm : p ≤ m
    · exact Or.inl hpm
    · exact Or.inr (h2 (p+1) (by omega))

/-- reachability on tuples (the notion `Pregen.reachFix` computes) is reachability on assignments -/
theorem reach_bridge (hS : S.WF) (hred : ∀ p, S.mode p = .red) (init : DD Bool)
    {u : List Nat} (hu : u ∈ dom S) :
    Pregen.Reach (dom S) (setOf S init) (stepRel S ev) u ↔
      Reach S ev S.top (fun x => eval S false S.top init x = true) (ofList u) := by
  constructor
  · intro h
    induction h with
    | @base s hd hi =>
      obtain ⟨x, hx, rfl⟩ := (mem_dom_iff hS).mp hd
      rw [ofList_toList]
      refine .base (valid_trunc hx) ?_
      have : eval S false S.top init (ofList (toList S.top x)) = true := hi
      rw [ofList_toList] at this; exact this
    | @step s t hs hd hr ih =>
      obtain ⟨x, hx, rfl⟩ := (mem_dom_iff hS).mp hs.mem_dom
      obtain ⟨y, hy, rfl⟩ := (mem_dom_iff hS).mp hd
      have ih' := ih hs.mem_dom
      rw [ofList_toList] at ih' ⊢
      exact .step ih' (valid_trunc hy) ((stepRel_iff x y).mp hr)
  · intro h
    obtain ⟨x, hx, rfl⟩ := (mem_dom_iff hS).mp hu
    have := Reach.induct
      (fun x => Pregen.Reach (dom S) (setOf S init) (stepRel S ev) (toList S.top x)) ?_ ?_ h
    · rw [ofList_toList, toList_trunc] at this
      exact this
    · intro x hv ha
      refine .base ((mem_dom_iff hS).mpr ⟨x, hv, rfl⟩) ?_
      show eval S false S.top init (ofList (toList S.top x)) = true
      rw [ofList_toList, eval_trunc hred]; exact ha
    · exact fun x y _ hv ih hs =>
        .step ih ((mem_dom_iff hS).mpr ⟨y, hv, rfl⟩) ((stepRel_iff x y).mpr hs.trunc)

end Bridge

section Properties
variable {S : Shape} {ev : Nat → Nat → Nat → Rel}

/-- SOUNDNESS of `recFire`: every state of `recFire k n r` is reachable, by events of level `≤ k`
    (acting below the unchanged upper part), from a state of the image of `n` under `r`. -/
theorem recFire_sound (hS : S.WF) (hred : ∀ p, S.mode p = .red) {k : Nat} (hk : k ≤ S.top)
    (n : DD Bool) (r : Rel) {y : Assign} (hy : Assign.Valid S y)
    (h : eval S false k (recFire S ev k n r) y = true) :
    Reach S ev k (img S k r (fun x => eval S false k n x = true)) y :=
  (recFire_spec hS hred k hk n r y hy).mp h

/-- COMPLETENESS of `recFire`: the result contains the image of `n` under `r` and is closed under
    every event of level `≤ k` ("saturated"). -/
theorem recFire_closed (hS : S.WF) (hred : ∀ p, S.mode p = .red) {k : Nat} (hk : k ≤ S.top)
    (n : DD Bool) (r : Rel) :
    (∀ x y, Assign.Valid S x → Assign.Valid S y → eval S false k n x = true →
      relAt k r x y = true → (∀ p, k < p → x p = y p) →
      eval S false k (recFire S ev k n r) y = true) ∧
    ClosedT S ev k (recFire S ev k n r) := by
  refine ⟨?_, (recFire_spec hS hred k hk).closed n r⟩
  intro x y hx hy h1 h2 h3
  rw [recFire_spec hS hred k hk n r y hy]
  exact .base hy ⟨x, hx, h1, h2, h3⟩

/-- SOUNDNESS of `saturate`: every state of `saturate k n` is reachable from a state of `n` by
    events of level `≤ k`. -/
theorem saturate_sound (hS : S.WF) (hred : ∀ p, S.mode p = .red) {k : Nat} (hk : k ≤ S.top)
    (n : DD Bool) {y : Assign} (hy : Assign.Valid S y)
    (h : eval S false k (saturate S ev k n) y = true) :
    Reach S ev k (fun x => eval S false k n x = true) y :=
  ((saturate_main hS hred k hk n).2 y hy).mp h

/-- CLOSEDNESS of `saturate`: the result contains `n` and is closed under every (lifted) event of
    level `≤ k`: the fixed-point loops really reached their fixed points. -/
theorem saturate_closed (hS : S.WF) (hred : ∀ p, S.mode p = .red) {k : Nat} (hk : k ≤ S.top)
    (n : DD Bool) :
    (∀ x, Assign.Valid S x → eval S false k n x = true →
      eval S false k (saturate S ev k n) x = true) ∧
    ClosedT S ev k (saturate S ev k n) := by
  have hsp := (saturate_main (ev := ev) hS hred k hk n).2
  exact ⟨fun x hx h => (hsp x hx).mpr (.base hx h), closedT_of_reach hsp⟩

/-- TERMINATION by the loop's own test: the result of `saturateHelper`'s loop is a fixed point of a
    whole sweep (no child changes any more) — the fuel `numStates + 1` is never what stops it,
    because every non-final sweep adds a state (children are reduced, so a changed child is a
    changed set: canonicity) and there are only `numStates` states. -/
theorem satLoop_stops (hS : S.WF) (hred : ∀ p, S.mode p = .red) {k : Nat} (hk : k+1 ≤ S.top)
    (cs : List (DD Bool)) (hlen : cs.length = S.size (k+1))
    (hcs : ∀ j, j < S.size (k+1) →
      Red S false k none (cs.getD j bot) = true ∧ ClosedT S ev k (cs.getD j bot)) :
    sweep S ev (recFire S ev k) k (satLoop S ev (recFire S ev k) k cs)
      = satLoop S ev (recFire S ev k) k cs :=
  satLoop_fix ⟨hS, hred, hk, recFire_spec hS hred k (by omega)⟩ cs
    ⟨hlen, fun j hj => ⟨(hcs j hj).1, (hcs j hj).2, fun _ _ _ => trivial⟩⟩

/-- `satur_eq_lfp`: the tree returned by saturation denotes exactly the least fixed point — a
    valid state is in `saturate K init` iff it is reachable from a state of `init` under the
    union of all lifted events. -/
theorem satur_eq_lfp (hS : S.WF) (hred : ∀ p, S.mode p = .red) (init : DD Bool)
    {x : Assign} (hx : Assign.Valid S x) :
    eval S false S.top (saturate S ev S.top init) x = true ↔
      Reach S ev S.top (fun s => eval S false S.top init s = true) x :=
  (saturate_main hS hred S.top (Nat.le_refl _) init).2 x hx

/-- minimality (the `chaotic_eq_lfp` argument): any set that contains `init` and is closed under
    all events contains the result of saturation -/
theorem saturate_least (hS : S.WF) (hred : ∀ p, S.mode p = .red) (init : DD Bool)
    (D : Assign → Prop)
    (hinit : ∀ x, Assign.Valid S x → eval S false S.top init x = true → D x)
    (hD : ∀ x y, Assign.Valid S x → Assign.Valid S y → D x → StepLe ev S.top x y → D y)
    {x : Assign} (hx : Assign.Valid S x)
    (h : eval S false S.top (saturate S ev S.top init) x = true) : D x :=
  Reach.induct D hinit hD ((satur_eq_lfp hS hred init hx).mp h)

/-- `satur_eq_lfp` against the executable specification of the project (`Pregen.reachFix`, the
    naive breadth-first least fixed point on explicit tuples, `Pregen.reachFix_eq_lfp`): on the
    state space, the tuples of `saturate K init` are exactly the tuples of the least fixed point
    of the union of all lifted events from the tuples of `init`. -/
theorem satur_eq_reachFix (hS : S.WF) (hred : ∀ p, S.mode p = .red) (init : DD Bool)
    {u : List Nat} (hu : u ∈ dom S) :
    setOf S (saturate S ev S.top init) u = true ↔
      u ∈ Pregen.reachFix (dom S) (setOf S init) (stepRel S ev) := by
  rw [Pregen.reachFix_eq_lfp, reach_bridge hS hred init hu]
  obtain ⟨x, hx, rfl⟩ := (mem_dom_iff hS).mp hu
  have hv : Assign.Valid S (ofList (toList S.top x)) := by
    rw [ofList_toList]; exact valid_trunc hx
  exact satur_eq_lfp hS hred init hv

/-- The result of `saturate` is a reduced tree of the forest. -/
theorem saturate_red (hS : S.WF) (hred : ∀ p, S.mode p = .red) {k : Nat} (hk : k ≤ S.top)
    (n : DD Bool) : Red S false k none (saturate S ev k n) = true :=
  (saturate_main hS hred k hk n).1

/-- `satur_eq_bfs`: by canonicity, `saturate K init` is THE reduced tree of the reachable set: any
    reduced tree that denotes the reachable set — in particular the edge a breadth-first search
    built from `union` and image operations returns (`union_red`) — is the same tree. -/
theorem satur_eq_bfs (hS : S.WF) (hred : ∀ p, S.mode p = .red) (init b : DD Bool)
    (hb : Red S false S.top none b = true)
    (hden : ∀ x, Assign.Valid S x →
      (eval S false S.top b x = true ↔
        Reach S ev S.top (fun s => eval S false S.top init s = true) x)) :
    saturate S ev S.top init = b := by
  apply (canon S false hS _ _ (saturate_red hS hred (Nat.le_refl _) init) hb).mp
  intro a ha
  exact Bool.eq_iff_iff.mpr ((satur_eq_lfp hS hred init ha).trans (hden a ha).symm)

/-- the shortcut `if (isTerminalNode(mdd)) return mdd` of `saturate` is transparent: the
    recursion returns the terminal itself (the empty set and the full set are closed) -/
theorem saturate_terminal (hS : S.WF) (hred : ∀ p, S.mode p = .red) {k : Nat} (hk : k ≤ S.top)
    (b : Bool) : saturate S ev k (.leaf b) = .leaf b := by
  apply canon_gen S false hS k hk none _ _ (fun i hi => nomatch hi)
    (saturate_red hS hred hk _) (red_leaf hred b k none)
  intro a ha _
  rw [eval_leaf hred]
  cases b with
  | true =>
    exact ((saturate_main hS hred k hk _).2 a ha).mpr (.base ha (eval_leaf hred true a k))
  | false =>
    refine Bool.eq_false_iff.mpr fun hs =>
      Reach_empty (fun x hx => ?_) (((saturate_main hS hred k hk _).2 a ha).mp hs)
    rw [eval_leaf hred] at hx; cases hx

/-- the shortcut "the relation is the identity → return the set node" of `recFire` is transparent
    for the nodes it is applied to (reduced and already saturated below): the recursion returns
    the very same tree -/
theorem recFire_identity (hS : S.WF) (hred : ∀ p, S.mode p = .red) {k : Nat} (hk : k ≤ S.top)
    (n : DD Bool) (hn : Red S false k none n = true) (hcl : ClosedT S ev k n) (r : Rel)
    (hr : ∀ x y, relAt k r x y = true ↔ ∀ p, 1 ≤ p → p ≤ k → x p = y p) :
    recFire S ev k n r = n := by
  apply canon_gen S false hS k hk none _ _ (fun i hi => nomatch hi)
    (recFire_red hS hred k hk none n r) hn
  intro a ha _
  refine Bool.eq_iff_iff.mpr ((recFire_spec hS hred k hk n r a ha).trans ⟨fun h => ?_, fun hb => ?_⟩)
  · -- the image of `n` under the identity is `n`, and `n` is closed
    refine Reach.induct (fun y => eval S false k n y = true) ?_ hcl h
    rintro y _ ⟨x, _, h1, h2, _⟩
    rw [← eval_congr_pos hred k n x y ((hr x y).mp h2)]; exact h1
  · exact .base ha ⟨a, ha, hb, (hr a a).mpr (fun _ _ _ => rfl), fun _ _ => rfl⟩

/-! ### against `Reach.lfp` (Ops/Reach.lean): the state type is the finite type of the tuples of
    the domain, the relation is the union of all lifted events -/

abbrev St (S : Shape) := {u : List Nat // u ∈ dom S}

def states (S : Shape) : List (St S) := (dom S).attach

def stepSt (S : Shape) (ev : Nat → Nat → Nat → Rel) : St S → St S → Bool :=
  fun a b => stepRel S ev a.val b.val

def initSt (S : Shape) (init : DD Bool) : List (St S) :=
  (states S).filter fun a => setOf S init a.val

theorem states_complete : Meddly.Reach.Complete (states S) := fun s => List.mem_attach _ s

theorem reachable_bridge (init : DD Bool) (s : St S) :
    Meddly.Reach.Reachable (stepSt S ev) (initSt S init) s ↔
      Pregen.Reach (dom S) (setOf S init) (stepRel S ev) s.val := by
  constructor
  · intro h
    induction h with
    | @base s hs => exact .base s.property (List.mem_filter.mp hs).2
    | @step s t _ hr ih => exact .step ih t.property hr
  · obtain ⟨u, hu⟩ := s
    intro (h : Pregen.Reach _ _ _ u)
    induction h with
    | base hd hi => exact .base (List.mem_filter.mpr ⟨List.mem_attach _ _, hi⟩)
    | step hs hd hr ih => exact .step (ih hs.mem_dom) hr

/-- `satur_eq_lfp` in the terms of Ops/Reach.lean: the states of `saturate K init` are
    exactly the members of `Reach.lfp` (the set every breadth-first reachability operation is
    proved to return: `bfs_frontier_eq_lfp`, `bfs_nofrontier_eq_lfp`) for the union of all lifted
    events, from the states of `init`. -/
theorem satur_eq_reach_lfp (hS : S.WF) (hred : ∀ p, S.mode p = .red) (init : DD Bool)
    (s : St S) :
    setOf S (saturate S ev S.top init) s.val = true ↔
      s ∈ Meddly.Reach.lfp (states S) (stepSt S ev) (initSt S init) := by
  rw [Meddly.Reach.lfpIter_spec states_complete, reachable_bridge, ← Pregen.reachFix_eq_lfp]
  exact satur_eq_reachFix hS hred init s.property

/-- … hence saturation and both breadth-first loops of reach_trad.cc compute the same set -/
theorem satur_eq_bfs_set (hS : S.WF) (hred : ∀ p, S.mode p = .red) (init : DD Bool)
    (s : St S) :
    setOf S (saturate S ev S.top init) s.val = true ↔
      s ∈ (Meddly.Reach.bfsFrontier (states S) (stepSt S ev) (initSt S init)).1 := by
  rw [Meddly.Reach.bfs_frontier_eq_lfp states_complete]
  exact satur_eq_reach_lfp hS hred init s

end Properties

namespace Ex

/-- two variables of size 3 -/
def S2 : Shape := { top := 2, size := fun _ => 3, mode := fun _ => .red }

theorem S2_WF : S2.WF where
  size_ge _ _ _ := Nat.le_succ 2
  ident_below_red _ h := nomatch h

/-- level 1: `x₁ : 0 → 1`;  level 2: `x₂ : i → i+1` when `x₁ = 1`, resetting `x₁` to `0` -/
def ev2 : Nat → Nat → Nat → Rel
  | 1, i, j => fun _ _ => i == 0 && j == 1
  | 2, i, j => fun x y => j == i + 1 && x 1 == 1 && y 1 == 0
  | _, _, _ => fun _ _ => false

/-- the initial state `(x₂, x₁) = (0, 0)` -/
def init2 : DD Bool :=
  .node 2 [.node 1 [.leaf true, .leaf false, .leaf false], .leaf false, .leaf false]

/-- reachable: `x₁ ∈ {0, 1}`, any `x₂` — the node at position 2 is redundant and eliminated -/
def result2 : DD Bool := .node 1 [.leaf true, .leaf true, .leaf false]

theorem saturate_init2 : saturate S2 ev2 2 init2 = result2 := by decide +kernel

set_option maxRecDepth 100000 in
example : saturate S2 ev2 2 init2 = result2 := saturate_init2

example : Red S2 false 2 none result2 = true := by decide +kernel

/-- `recFire` alone: firing the level-2 entry `0 → 1` from `{x₁ = 1}` and saturating below gives
    `x₁ ∈ {0, 1}` -/
example : recFire S2 ev2 1 (.node 1 [.leaf false, .leaf true, .leaf false]) (ev2 2 0 1)
    = .node 1 [.leaf true, .leaf true, .leaf false] := by decide +kernel

example : dom S2 = [[0,0],[1,0],[2,0],[0,1],[1,1],[2,1],[0,2],[1,2],[2,2]] := by decide +kernel

/-- the executable least fixed point on explicit tuples (index 0 = variable 1) -/
example : Pregen.reachFix (dom S2) (setOf S2 init2) (stepRel S2 ev2)
    = [[0,0],[1,0],[0,1],[1,1],[0,2],[1,2]] := by decide +kernel

set_option maxRecDepth 100000 in
/-- the evaluated result of `saturate` has exactly the tuples of the least fixed point -/
example : (dom S2).filter (setOf S2 (saturate S2 ev2 2 init2))
    = [[0,0],[1,0],[0,1],[1,1],[0,2],[1,2]] := by
  rw [saturate_init2]
  decide +kernel

/-- the general theorem applies to the concrete instance -/
example (u : List Nat) (hu : u ∈ dom S2) :
    setOf S2 (saturate S2 ev2 S2.top init2) u = true ↔
      u ∈ Pregen.reachFix (dom S2) (setOf S2 init2) (stepRel S2 ev2) :=
  satur_eq_reachFix S2_WF (fun _ => rfl) init2 hu

example : saturate S2 ev2 2 (.leaf true) = .leaf true := by decide +kernel

set_option maxRecDepth 100000 in
/-- compared with `Reach.lfp` on the finite state type -/
example : (Meddly.Reach.lfp (states S2) (stepSt S2 ev2) (initSt S2 init2)).map (·.val)
    = (dom S2).filter (setOf S2 (saturate S2 ev2 2 init2)) := by
  rw [saturate_init2]
  decide +kernel

/-- three binary variables -/
def S3 : Shape := { top := 3, size := fun _ => 2, mode := fun _ => .red }

theorem S3_WF : S3.WF where
  size_ge _ _ _ := Nat.le_refl 2
  ident_below_red _ h := nomatch h

/-- level 1: `x₁ : 0 → 1`;  level 2: `x₂ : 0 → 1` when `x₁ = 1` (kept);
    level 3: `x₃ : 0 → 1` when `x₂ = 1`, resetting `x₂` and `x₁` to `0` -/
def ev3 : Nat → Nat → Nat → Rel
  | 1, i, j => fun _ _ => i == 0 && j == 1
  | 2, i, j => fun x y => i == 0 && j == 1 && x 1 == 1 && y 1 == 1
  | 3, i, j => fun x y => i == 0 && j == 1 && x 2 == 1 && y 2 == 0 && y 1 == 0
  | _, _, _ => fun _ _ => false

def init3 : DD Bool :=
  .node 3 [.node 2 [.node 1 [.leaf true, .leaf false], .leaf false], .leaf false]

/-- reachable: `x₂ = 1 → x₁ = 1`, any `x₃` -/
def result3 : DD Bool := .node 2 [.leaf true, .node 1 [.leaf false, .leaf true]]

theorem saturate_init3 : saturate S3 ev3 3 init3 = result3 := by decide +kernel

set_option maxRecDepth 100000 in
example : saturate S3 ev3 3 init3 = result3 := saturate_init3

example : Pregen.reachFix (dom S3) (setOf S3 init3) (stepRel S3 ev3)
    = [[0,0,0],[1,0,0],[1,1,0],[0,0,1],[1,0,1],[1,1,1]] := by decide +kernel

set_option maxRecDepth 100000 in
example : (dom S3).filter (setOf S3 (saturate S3 ev3 3 init3))
    = [[0,0,0],[1,0,0],[1,1,0],[0,0,1],[1,0,1],[1,1,1]] := by
  rw [saturate_init3]
  decide +kernel

/-- canonicity on the instance: a reduced tree with the reachable set as denotation IS the result -/
example (b : DD Bool) (hb : Red S3 false 3 none b = true)
    (hden : ∀ x, Assign.Valid S3 x → (eval S3 false 3 b x = true ↔
      Reach S3 ev3 3 (fun s => eval S3 false 3 init3 s = true) x)) :
    saturate S3 ev3 3 init3 = b :=
  satur_eq_bfs S3_WF (fun _ => rfl) init3 b hb hden

end Ex

end Satur
end Meddly

#print axioms Meddly.Satur.recFire_sound
#print axioms Meddly.Satur.recFire_closed
#print axioms Meddly.Satur.saturate_sound
#print axioms Meddly.Satur.saturate_closed
#print axioms Meddly.Satur.satLoop_stops
#print axioms Meddly.Satur.satur_eq_lfp
#print axioms Meddly.Satur.saturate_least
#print axioms Meddly.Satur.satur_eq_reachFix
#print axioms Meddly.Satur.saturate_red
#print axioms Meddly.Satur.satur_eq_bfs
#print axioms Meddly.Satur.saturate_terminal
#print axioms Meddly.Satur.recFire_identity
#print axioms Meddly.Satur.satur_eq_reach_lfp
#print axioms Meddly.Satur.satur_eq_bfs_set
/- Output (Lean 4.33.0):
'Meddly.Satur.recFire_sound' depends on axioms: [propext, Classical.choice, Quot.sound]
'Meddly.Satur.recFire_closed' depends on axioms: [propext, Classical.choice, Quot.sound]
'Meddly.Satur.saturate_sound' depends on axioms: [propext, Classical.choice, Quot.sound]
'Meddly.Satur.saturate_closed' depends on axioms: [propext, Classical.choice, Quot.sound]
'Meddly.Satur.satLoop_stops' depends on axioms: [propext, Classical.choice, Quot.sound]
'Meddly.Satur.satur_eq_lfp' depends on axioms: [propext, Classical.choice, Quot.sound]
'Meddly.Satur.saturate_least' depends on axioms: [propext, Classical.choice, Quot.sound]
'Meddly.Satur.satur_eq_reachFix' depends on axioms: [propext, Classical.choice, Quot.sound]
'Meddly.Satur.saturate_red' depends on axioms: [propext, Classical.choice, Quot.sound]
'Meddly.Satur.satur_eq_bfs' depends on axioms: [propext, Classical.choice, Quot.sound]
'Meddly.Satur.saturate_terminal' depends on axioms: [propext, Classical.choice, Quot.sound]
'Meddly.Satur.recFire_identity' depends on axioms: [propext, Classical.choice, Quot.sound]
'Meddly.Satur.satur_eq_reach_lfp' depends on axioms: [propext, Classical.choice, Quot.sound]
'Meddly.Satur.satur_eq_bfs_set' depends on axioms: [propext, Classical.choice, Quot.sound]
-/
