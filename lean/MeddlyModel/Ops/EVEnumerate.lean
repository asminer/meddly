/-
  C11 (EV+ part) — enumeration and counting on EV+ trees.

  `enumerateE` mirrors `iterator_templ<EdgeOp_plus<…>>::first_unpr / first_pri / next`
  (src/dd_edge.cc) for edge-valued forests: the traversal is the one of `DD.enumerate`
  (`Ops/Enumerate.lean`: positions top-down, indices ascending, a skipped `red` position expanded
  over all values — `initRedundant` —, a skipped `ident` position forced to the value chosen at the
  position above — `initIdentity` —, the transparent terminal never entered: `if (0==p) return
  false`, and for EV+ the transparent terminal is `OMEGA_INFINITY = 0`), and in addition the edge
  values are ACCUMULATED along the path:
      `ev_from(k) = EOP::applyOp(ev_from(k+1), U->edgeval(z))`   (= the sum, `EdgeOp_plus`)
  starting from the root edge value (`ev_from[1+K] = root_ev`); a skipped position passes the
  value on unchanged (`ev_from(k) = up`); at the bottom the accumulated value is reported
  (`M_setTerm(ev_from(1), p)`).

  `cardE` mirrors `card_templ::_compute` (src/operations/cardinality.cc) on an EV+ target: the
  edge values play no role (`compute(L, in, av, ap, result)` drops `av`), `OMEGA_INFINITY` counts 0,
  the other terminal 1, skipped positions scale by the variable size except primed positions of
  identity-reduced forests.

  Assignments are digit lists, most significant (top position) first (`lexAll`, `withDigits`).

  Theorems
    `enumerateE_spec`     = all digit lists in lexicographic order, filtered by
                            `evalEdge ≠ none`, paired with the value `evalEdge`
    `enumerateE_mem_iff`, `enumerateE_sorted`, `enumerateE_nodup`, `enumerateE_value`
    `cardE_eq_length`     CARDINALITY = number of visited assignments
-/
import MeddlyModel.Ops.EVApply
import MeddlyModel.Ops.Enumerate

namespace Meddly

namespace EDD

/-! ## The iterator -/

/-- target of entry `i` of a stored node (∞ for terminals) -/
def childAt : EDD → Nat → EDD
  | .node _ cs, i => (cs.getD i dflt).2
  | _, _ => .inf

/-- entry `i` of the stored target of the edge `e`, with the value accumulated so far:
    `ev(k) = ev(k+1) + edgeval(i)` -/
def childE (e : Int × EDD) (i : Nat) : Int × EDD :=
  match e.2 with
  | .node _ cs => (e.1 + (cs.getD i dflt).1, (cs.getD i dflt).2)
  | _ => dflt

/-- Enumeration from position `k` downwards of the edge `e` = (value accumulated above `k`,
    target); `up` is the value chosen at position `k+1`.  Result: (digits for `k … 1`,
    accumulated value) in visiting order. -/
def enumerateE (S : Shape) : Nat → Nat → (Int × EDD) → List (List Nat × Int)
  | 0, _, e =>
    match leafValE e with
    | some v => [([], v)]
    | none => []
  | k+1, up, e =>
    if e.2 = .inf then [] else
    if e.2.isNodeAt (k+1) = true then
      (List.range (S.size (k+1))).flatMap (fun i =>
        (enumerateE S k i (childE e i)).map (fun r => (i :: r.1, r.2)))
    else if S.mode (k+1) = .ident then
      if up < S.size (k+1) then (enumerateE S k up e).map (fun r => (up :: r.1, r.2)) else []
    else
      (List.range (S.size (k+1))).flatMap (fun i =>
        (enumerateE S k i e).map (fun r => (i :: r.1, r.2)))

/-- `card_templ::_compute` on an EV+ target -/
def cardE (S : Shape) : Nat → EDD → Nat
  | 0, .omega => 1
  | 0, _ => 0
  | k+1, d =>
    if d = .inf then 0 else
    if d.isNodeAt (k+1) = true then
      ((List.range (S.size (k+1))).map (fun i => cardE S k (childAt d i))).sum
    else if S.mode (k+1) = .ident then cardE S k d
    else S.size (k+1) * cardE S k d

/-! ## Unfolding lemmas -/

theorem enumerateE_zero (S : Shape) (up : Nat) (e : Int × EDD) :
    enumerateE S 0 up e = match leafValE e with
      | some v => [([], v)]
      | none => [] := rfl

theorem enumerateE_succ (S : Shape) (k up : Nat) (e : Int × EDD) :
    enumerateE S (k+1) up e =
    if e.2 = .inf then [] else
    if e.2.isNodeAt (k+1) = true then
      (List.range (S.size (k+1))).flatMap (fun i =>
        (enumerateE S k i (childE e i)).map (fun r => (i :: r.1, r.2)))
    else if S.mode (k+1) = .ident then
      if up < S.size (k+1) then (enumerateE S k up e).map (fun r => (up :: r.1, r.2)) else []
    else
      (List.range (S.size (k+1))).flatMap (fun i =>
        (enumerateE S k i e).map (fun r => (i :: r.1, r.2))) := rfl

theorem cardE_succ (S : Shape) (k : Nat) (d : EDD) :
    cardE S (k+1) d =
    if d = .inf then 0 else
    if d.isNodeAt (k+1) = true then
      ((List.range (S.size (k+1))).map (fun i => cardE S k (childAt d i))).sum
    else if S.mode (k+1) = .ident then cardE S k d
    else S.size (k+1) * cardE S k d := rfl

theorem childE_snd (e : Int × EDD) (i : Nat) : (childE e i).2 = childAt e.2 i := by
  obtain ⟨v, d⟩ := e
  cases d <;> rfl

theorem enumerateE_inf (S : Shape) (k up : Nat) (v : Int) : enumerateE S k up (v, .inf) = [] := by
  cases k <;> rfl

/-- The iterator in terms of `cofactorE`: trying EVERY index of position `k+1` on the pushed-down
    child edge gives the same list — the indices the iterator does not try (off the diagonal of a
    skipped `ident` position) and the children it does not enter (∞) contribute nothing. -/
theorem enumerateE_cofactor (S : Shape) (k up : Nat) (e : Int × EDD) :
    enumerateE S (k+1) up e =
      (List.range (S.size (k+1))).flatMap (fun i =>
        (enumerateE S k i (cofactorE S (k+1) (some up) e i)).map (fun r => (i :: r.1, r.2))) := by
  rw [enumerateE_succ]
  obtain ⟨v, d⟩ := e
  by_cases hz : d = .inf
  · subst hz
    rw [if_pos rfl]
    symm
    refine List.flatMap_eq_nil_iff.mpr fun i _ => ?_
    rw [cofactorE_skip _ _ _ _ _ rfl]
    rcases skipE_cases S (k+1) (some up) (v, .inf) i with h | h <;>
      · rw [h, enumerateE_inf]; rfl
  · rw [if_neg hz]
    rcases storedAt_cases (k+1) d with ⟨cs, rfl⟩ | hd
    · rw [if_pos (by simp [isNodeAt])]
      exact flatMap_congr' fun i _ => by rw [cofactorE_node]; rfl
    · rw [if_neg fun h => Bool.false_ne_true (hd.symm.trans h)]
      by_cases hm : S.mode (k+1) = .ident
      · rw [if_pos hm,
          flatMap_congr' (g := fun i => if i = up then (enumerateE S k i (v, d)).map
            (fun r => (i :: r.1, r.2)) else []) fun i _ => by
          rw [cofactorE_skip _ _ _ _ _ hd, skipE, if_pos hm]
          split
          · rfl
          · exact congrArg _ (enumerateE_inf S k i 0),
          flatMap_range_single]
      · rw [if_neg hm]
        exact flatMap_congr' fun i _ => by rw [cofactorE_skip _ _ _ _ _ hd, skipE, if_neg hm]

/-! ## Specification -/

/-- what the specification lists for the digit list `ds`: nothing when the value is ∞ -/
def specEntryE (S : Shape) (k : Nat) (e : Int × EDD) (a : Assign) (ds : List Nat) :
    Option (List Nat × Int) :=
  (evalEdge S k e (withDigits a k ds)).map (fun v => (ds, v))

end EDD

/-! ## Concrete instances (non-vacuity) -/

namespace EVEnumExamples
open EDD CanonExamples ApplyExamples EVApplyExamples

/-- `EVApplyExamples.aE` over `CanonExamples.SA` (positions 3, 2, 1 of sizes 2, 3, 2, fully
    reduced): root value 1, the shared `xE`, child 1 of position 3 skips position 2, an ∞ entry -/
def aE_list : List (List Nat × Int) :=
  [([0, 0, 0], 1), ([0, 0, 1], 3), ([0, 1, 0], 5), ([0, 1, 1], 2),
   ([1, 0, 0], 3), ([1, 0, 1], 5), ([1, 1, 0], 3), ([1, 1, 1], 5), ([1, 2, 0], 3), ([1, 2, 1], 5)]

/-- `EVApplyExamples.bI` over the identity-reduced `CanonExamples.SB` (positions 4, 2 unprimed,
    3, 1 primed): below `x₂ = 1` the `ident` position 3 is skipped (forced: `x₂' = 1`), the `ident`
    position 1 is skipped everywhere (forced: `x₁' = x₁`) -/
def bI_list : List (List Nat × Int) :=
  [([0, 1, 0, 0], 4), ([0, 1, 1, 1], 4), ([1, 1, 0, 0], 1), ([1, 1, 1, 1], 1)]

end EVEnumExamples

namespace EDD

/-! ## Property theorems -/

/-- The iterator of `dd_edge` on an EV+ edge visits, in lexicographic order of the assignments
    (top position most significant), exactly the assignments at which the function is finite
    (`evalEdge ≠ none`), each once, and reports the ACCUMULATED value there: the root edge value
    plus the edge values along the path = `evalEdge`.  `a` supplies the positions above `k`
    (only `a (k+1) = up` matters, at a skipped `ident` position `k`). -/
theorem enumerateE_spec (S : Shape) (k up : Nat) (e : Int × EDD) (a : Assign)
    (h : a (k+1) = up) :
    enumerateE S k up e = (lexAll S k).filterMap (fun ds =>
      (evalEdge S k e (withDigits a k ds)).map (fun v => (ds, v))) := by
  show _ = (lexAll S k).filterMap (specEntryE S k e a)
  induction k generalizing up e a with
  | zero =>
    rw [enumerateE_zero, lexAll]
    simp only [specEntryE, List.filterMap_cons, List.filterMap_nil, withDigits_zero,
      evalEdge_zero_eq_leafValE]
    cases leafValE e <;> rfl
  | succ k ih =>
    have hpt : ∀ i ds, specEntryE S (k+1) e a (i :: ds) =
        (specEntryE S k (cofactorE S (k+1) (some up) e i) (Assign.upd a (k+1) i) ds).map
          fun r => (i :: r.1, r.2) := fun i ds => by
      obtain ⟨hb1, hb2⟩ := withDigits_cons a k i ds
      unfold specEntryE
      rw [withDigits, cofactorE_eval S k (some up) e _ (fun _ => by rw [hb2, h]), hb1, Option.map_map]
      rfl
    rw [enumerateE_cofactor, DD.filterMap_lexAll_succ S k hpt]
    exact flatMap_congr' fun i _ => by rw [ih i _ _ (Assign.upd_same a (k+1) i)]

/-- Completeness and correctness of the values: a pair is visited iff it is an in-range digit
    list at which the function is finite, paired with the function's value. -/
theorem enumerateE_mem_iff (S : Shape) (k up : Nat) (e : Int × EDD) (a : Assign)
    (h : a (k+1) = up) (ds : List Nat) (v : Int) :
    (ds, v) ∈ enumerateE S k up e ↔
      ds ∈ lexAll S k ∧ evalEdge S k e (withDigits a k ds) = some v := by
  rw [enumerateE_spec S k up e a h, List.mem_filterMap]
  constructor
  · rintro ⟨x, hx, hy⟩
    obtain ⟨_, hev, ⟨⟩⟩ := Option.map_eq_some_iff.mp hy
    exact ⟨hx, hev⟩
  · rintro ⟨h1, h2⟩
    exact ⟨ds, h1, by rw [h2]; rfl⟩

/-- every reported value is the value of the function at the reported assignment -/
theorem enumerateE_value (S : Shape) (k up : Nat) (e : Int × EDD) (a : Assign)
    (h : a (k+1) = up) (r : List Nat × Int) (hr : r ∈ enumerateE S k up e) :
    evalEdge S k e (withDigits a k r.1) = some r.2 :=
  ((enumerateE_mem_iff S k up e a h r.1 r.2).mp hr).2

/-- The visited assignments are strictly increasing in lexicographic order. -/
theorem enumerateE_sorted (S : Shape) (k up : Nat) (e : Int × EDD) :
    (enumerateE S k up e).Pairwise (fun r1 r2 => lexLt r1.1 r2.1 = true) := by
  rw [enumerateE_spec S k up e (fun _ => up) rfl]
  refine pairwise_filterMap_fst _ (fun ds r h => ?_) (lexAll_pairwise S k)
  obtain ⟨_, _, rfl⟩ := Option.map_eq_some_iff.mp h
  rfl

/-- No assignment is visited twice. -/
theorem enumerateE_nodup (S : Shape) (k up : Nat) (e : Int × EDD) :
    ((enumerateE S k up e).map Prod.fst).Nodup := by
  rw [List.Nodup, List.pairwise_map]
  refine (enumerateE_sorted S k up e).imp fun hlt heq => ?_
  rw [heq, lexLt_irrefl] at hlt
  cases hlt

/-- … hence the list of (assignment, value) pairs has no duplicates either. -/
theorem enumerateE_nodup' (S : Shape) (k up : Nat) (e : Int × EDD) :
    (enumerateE S k up e).Nodup :=
  (List.pairwise_map.mp (enumerateE_nodup S k up e)).imp fun h heq => h (congrArg Prod.fst heq)

/-- The value reported for a visited assignment does not depend on how the edge spreads its
    values: two edges with the same denotation are enumerated identically. -/
theorem enumerateE_congr (S : Shape) (k up : Nat) (e1 e2 : Int × EDD)
    (h : ∀ x, evalEdge S k e1 x = evalEdge S k e2 x) :
    enumerateE S k up e1 = enumerateE S k up e2 := by
  rw [enumerateE_spec S k up e1 (fun _ => up) rfl, enumerateE_spec S k up e2 (fun _ => up) rfl]
  exact filterMap_congr' fun ds _ => by rw [h]

/-- CARDINALITY of an EV+ edge = the number of assignments the iterator visits = the number of
    assignments with a finite value, for every reduction rule (primed positions of
    identity-reduced forests are not scaled; the edge values play no role).  The hypotheses say
    that a primed variable is at least as large as its unprimed partner. -/
theorem cardE_eq_length (S : Shape)
    (hS : ∀ p, S.mode p = .ident → S.size (p+1) ≤ S.size p) :
    ∀ (k up : Nat) (e : Int × EDD), (S.mode k = .ident → up < S.size k) →
      cardE S k e.2 = (enumerateE S k up e).length := by
  intro k
  induction k with
  | zero =>
    intro up e _
    obtain ⟨v, d⟩ := e
    cases d <;> rfl
  | succ k ih =>
    intro up e hup
    rw [cardE_succ, enumerateE_succ]
    exact card_step
      (fun i hi => childE_snd e i ▸ ih i (childE e i) (lt_size_below hS hi))
      (fun i hi => ih i e (lt_size_below hS hi)) hup

/-- CARDINALITY counts exactly the in-range digit lists with a finite value. -/
theorem cardE_eq_count (S : Shape)
    (hS : ∀ p, S.mode p = .ident → S.size (p+1) ≤ S.size p)
    (k up : Nat) (e : Int × EDD) (a : Assign) (h : a (k+1) = up)
    (hup : S.mode k = .ident → up < S.size k) :
    cardE S k e.2 =
      ((lexAll S k).filter (fun ds => (evalEdge S k e (withDigits a k ds)).isSome)).length := by
  rw [cardE_eq_length S hS k up e hup, enumerateE_spec S k up e a h, List.length_filterMap_eq_countP,
    List.countP_eq_length_filter]
  simp only [Option.isSome_map]

section Examples
open EVEnumExamples CanonExamples ApplyExamples EVApplyExamples

/-- 3 positions, sharing, non-zero values, an ∞ entry: `([0,2,_])` is not visited (∞), below
    `x₃ = 1` the skipped position 2 is expanded; values = 1 + path sums -/
example : enumerateE SA 3 0 aE = aE_list := by decide +kernel
example : cardE SA 3 aE.2 = 10 := by decide +kernel
/-- the negative root value of `bE` is accumulated too; the ∞ entry of `zE` is skipped -/
example : enumerateE SA 3 0 bE =
    [([0, 0, 0], 2), ([0, 0, 1], -1), ([0, 1, 0], -2), ([0, 2, 0], -2), ([0, 2, 1], 0),
     ([1, 0, 0], 2), ([1, 0, 1], 2), ([1, 1, 0], 2), ([1, 1, 1], 2), ([1, 2, 0], 2),
     ([1, 2, 1], 2)] := by decide +kernel
/-- identity-reduced relation: skipped `ident` positions are forced to the value above -/
example : enumerateE SB 4 0 bI = bI_list := by decide +kernel
example : cardE SB 4 bI.2 = 4 := by decide +kernel
/-- the identity relation with value 2: the diagonal -/
example : enumerateE SB 4 0 aI =
    [([0, 0, 0, 0], 2), ([0, 0, 1, 1], 2), ([1, 1, 0, 0], 2), ([1, 1, 1, 1], 2)] := by decide +kernel
/-- ∞ edge: nothing is visited, whatever the (stale) value -/
example : enumerateE SA 3 0 (5, .inf) = [] := by decide +kernel
/-- an un-normalised edge with the same denotation is enumerated identically -/
example : enumerateE SA 3 0 (0, .node 3 [(1, .node 2 [(0, xE), (1, yE), (5, .inf)]), (3, xE)])
    = aE_list := by decide +kernel
/-- the general theorems on the written-out list -/
example (ds : List Nat) (v : Int) :
    (ds, v) ∈ aE_list ↔ ds ∈ lexAll SA 3 ∧ evalEdge SA 3 aE (withDigits (fun _ => 0) 3 ds) = some v := by
  have h := enumerateE_mem_iff SA 3 0 aE (fun _ => 0) rfl ds v
  have e : enumerateE SA 3 0 aE = aE_list := by decide +kernel
  rw [e] at h
  exact h
example : (lexAll SA 3).length = 12 := by decide +kernel
example : aE_list.length = cardE SA 3 aE.2 := by decide +kernel

end Examples

end EDD

#print axioms EDD.enumerateE_cofactor
#print axioms EDD.enumerateE_spec
#print axioms EDD.enumerateE_mem_iff
#print axioms EDD.enumerateE_value
#print axioms EDD.enumerateE_sorted
#print axioms EDD.enumerateE_nodup
#print axioms EDD.enumerateE_nodup'
#print axioms EDD.enumerateE_congr
#print axioms EDD.cardE_eq_length
#print axioms EDD.cardE_eq_count

/- Output (Lean 4.33.0):
'Meddly.EDD.enumerateE_cofactor' depends on axioms: [propext, Classical.choice, Quot.sound]
'Meddly.EDD.enumerateE_spec' depends on axioms: [propext, Classical.choice, Quot.sound]
'Meddly.EDD.enumerateE_mem_iff' depends on axioms: [propext, Classical.choice, Quot.sound]
'Meddly.EDD.enumerateE_value' depends on axioms: [propext, Classical.choice, Quot.sound]
'Meddly.EDD.enumerateE_sorted' depends on axioms: [propext, Classical.choice, Quot.sound]
'Meddly.EDD.enumerateE_nodup' depends on axioms: [propext, Classical.choice, Quot.sound]
'Meddly.EDD.enumerateE_nodup'' depends on axioms: [propext, Classical.choice, Quot.sound]
'Meddly.EDD.enumerateE_congr' depends on axioms: [propext, Classical.choice, Quot.sound]
'Meddly.EDD.cardE_eq_length' depends on axioms: [propext, Quot.sound]
'Meddly.EDD.cardE_eq_count' depends on axioms: [propext, Classical.choice, Quot.sound]
-/

end Meddly
