/-
  Layer 2 for C05: element-wise arithmetic on decision-diagram trees.

  `applyE2 f` is `DD.apply2` for a *partial* scalar operation
  `f : α → β → Except ε γ` (division by zero, subtracting infinity …): the same
  position-by-position recursion (operands and result in forests with their own
  reduction rules, skipped positions expanded by `cofactor`, result rebuilt through
  `mkNode` = `forest::createReducedNode`), run in the `Except` monad: the first
  invalid leaf pair aborts the whole operation with its error code.

  This is the skeleton shared by `arith_compat / arith_factor / arith_pushdn`
  (arith_templ.h) and `compare_mt / compare_ev` (compare.cc) with the terminal
  shortcuts and the compute table removed; edge values are pushed down to the
  leaves (the tree model stores the function value in the leaf).

  What the model visits: every valid assignment (`applyE2_error_iff`): it raises
  exactly when the scalar operation is invalid at SOME assignment of the variables,
  including the off-diagonal assignments of identity-skipped positions, where both
  operands take their transparent value.  The library visits fewer pairs: a shortcut
  (`x op x`, absorbing / neutral terminal operand) answers for a whole sub-domain
  without looking at the other operand, so an invalid pair `(v, v)` (0/0, inf-inf) or
  `0 * inf` inside such a sub-domain is decided by the shortcut, not by the scalar
  rule (see docs/NOTES_arith.md, FINDINGS).  On every other input model and library agree.

  The facts about `mapE`, about folds with a selective / lower-bound operation (`foldl_sel`,
  `LowerBound`) and about assignments (`agree_upd`, `top_fi`) that `Ops/Image`, `Ops/EVApply`
  and `Ops/EVImage` also use are stated here.
-/
import MeddlyModel.Ops.Apply
import MeddlyModel.Ops.ApplyProofs
import MeddlyModel.Ops.Shortcuts
import MeddlyModel.Spec.Arith

namespace Meddly

set_option linter.unusedSectionVars false

namespace DD
variable {α β γ ε : Type} [DecidableEq α] [DecidableEq β] [DecidableEq γ]

/-- `List.mapM` in `Except`, written out (so that proofs do not depend on the
    library's implementation of `mapM`) -/
def mapE {γ' : Type} (g : Nat → Except ε γ') : List Nat → Except ε (List γ')
  | [] => .ok []
  | i :: is =>
    match g i with
    | .error e => .error e
    | .ok v =>
      match mapE g is with
      | .error e => .error e
      | .ok vs => .ok (v :: vs)

/-- binary element-wise apply of a partial operation, read from position `k` downwards -/
def applyE2 (Sa Sb Sc : Shape) (za : α) (zb : β) (zc : γ) (f : α → β → Except ε γ) :
    Nat → Option Nat → DD α → DD β → Except ε (DD γ)
  | 0, _, a, b =>
    match f (leafVal za a) (leafVal zb b) with
    | .ok v => .ok (.leaf v)
    | .error e => .error e
  | k+1, fi, a, b =>
    match mapE (fun i => applyE2 Sa Sb Sc za zb zc f k (some i)
                  (cofactor Sa za (k+1) fi a i) (cofactor Sb zb (k+1) fi b i))
               (List.range (Sc.size (k+1))) with
    | .ok cs => .ok (mkNode Sc zc (k+1) fi cs)
    | .error e => .error e

/-- the total operation that agrees with `f` wherever `f` is defined -/
def totalize (f : α → β → Except ε γ) (dflt : γ) (x : α) (y : β) : γ :=
  match f x y with
  | .ok v => v
  | .error _ => dflt

section
variable {γ' : Type} {g : Nat → Except ε γ'} {l : List Nat} {vs : List γ'}

theorem mapE_cons_ok {i : Nat} (h : mapE g (i :: l) = .ok vs) :
    ∃ v ws, g i = .ok v ∧ mapE g l = .ok ws ∧ vs = v :: ws := by
  rw [mapE] at h
  split at h
  · cases h
  · next v hv =>
    split at h
    · cases h
    · next ws hws => cases h; exact ⟨v, ws, hv, hws, rfl⟩

theorem mapE_ok {g' : Nat → γ'} (h : mapE g l = .ok vs)
    (hg : ∀ i, i ∈ l → ∀ v, g i = .ok v → v = g' i) : vs = l.map g' := by
  induction l generalizing vs with
  | nil => rw [mapE] at h; cases h; rfl
  | cons i is ih =>
    obtain ⟨v, ws, hgi, hr, rfl⟩ := mapE_cons_ok h
    rw [List.map_cons, hg i List.mem_cons_self v hgi,
      ih hr fun j hj => hg j (List.mem_cons_of_mem _ hj)]

theorem mapE_ok_mem (h : mapE g l = .ok vs) {i : Nat} (hi : i ∈ l) : ∃ v, g i = .ok v := by
  induction l generalizing vs with
  | nil => nomatch hi
  | cons j is ih =>
    obtain ⟨v, ws, hgj, hr, _⟩ := mapE_cons_ok h
    rcases List.mem_cons.mp hi with rfl | hi
    · exact ⟨v, hgj⟩
    · exact ih hr hi

theorem mapE_error {e : ε} (h : mapE g l = .error e) : ∃ i, i ∈ l ∧ g i = .error e := by
  induction l with
  | nil => rw [mapE] at h; cases h
  | cons i is ih =>
    rw [mapE] at h
    split at h
    · next e' he => cases h; exact ⟨i, List.mem_cons_self, he⟩
    · split at h
      · next e' he =>
        cases h
        obtain ⟨j, hj, hgj⟩ := ih he
        exact ⟨j, List.mem_cons_of_mem _ hj, hgj⟩
      · cases h

end

section
variable {Sa Sb Sc : Shape} {za : α} {zb : β} {zc : γ} {f : α → β → Except ε γ}
  {k : Nat} {fi : Option Nat} {a : DD α} {b : DD β} {r : DD γ} {e : ε}

theorem applyE2_zero :
    applyE2 Sa Sb Sc za zb zc f 0 fi a b =
      (match f (leafVal za a) (leafVal zb b) with
       | .ok v => .ok (.leaf v)
       | .error e => .error e) := rfl

theorem applyE2_succ :
    applyE2 Sa Sb Sc za zb zc f (k+1) fi a b =
      (match mapE (fun i => applyE2 Sa Sb Sc za zb zc f k (some i)
                    (cofactor Sa za (k+1) fi a i) (cofactor Sb zb (k+1) fi b i))
                 (List.range (Sc.size (k+1))) with
       | .ok cs => .ok (mkNode Sc zc (k+1) fi cs)
       | .error e => .error e) := rfl

theorem applyE2_zero_ok (h : applyE2 Sa Sb Sc za zb zc f 0 fi a b = .ok r) :
    ∃ v, f (leafVal za a) (leafVal zb b) = .ok v ∧ r = .leaf v := by
  rw [applyE2_zero] at h
  split at h
  · next v hv => cases h; exact ⟨v, hv, rfl⟩
  · cases h

theorem applyE2_succ_ok (h : applyE2 Sa Sb Sc za zb zc f (k+1) fi a b = .ok r) :
    ∃ cs, mapE (fun i => applyE2 Sa Sb Sc za zb zc f k (some i)
              (cofactor Sa za (k+1) fi a i) (cofactor Sb zb (k+1) fi b i))
            (List.range (Sc.size (k+1))) = .ok cs ∧ r = mkNode Sc zc (k+1) fi cs := by
  rw [applyE2_succ] at h
  split at h
  · next cs hcs => cases h; exact ⟨cs, hcs, rfl⟩
  · cases h

theorem totalize_ok {x : α} {y : β} {v : γ} (h : f x y = .ok v) (dflt : γ) :
    totalize f dflt x y = v := by
  simp only [totalize, h]

theorem applyE2_ok (dflt : γ) (h : applyE2 Sa Sb Sc za zb zc f k fi a b = .ok r) :
    r = apply2 Sa Sb Sc za zb zc (totalize f dflt) k fi a b := by
  induction k generalizing fi a b r with
  | zero =>
    obtain ⟨v, hf, rfl⟩ := applyE2_zero_ok h
    rw [apply2_zero, totalize_ok hf]
  | succ k ih =>
    obtain ⟨cs, hm, rfl⟩ := applyE2_succ_ok h
    rw [apply2_succ]
    exact congrArg (mkNode Sc zc (k+1) fi) (mapE_ok hm fun i _ v hv => ih hv)

theorem applyE2_defined {x : Assign} (h : applyE2 Sa Sb Sc za zb zc f k fi a b = .ok r)
    (hk : k ≤ Sc.top) (hx : Assign.Valid Sc x)
    (ha : Sa.mode k = .ident → fi = some (x (k+1)))
    (hb : Sb.mode k = .ident → fi = some (x (k+1))) :
    ∃ v, f (eval Sa za k a x) (eval Sb zb k b x) = .ok v := by
  induction k generalizing fi a b r with
  | zero =>
    obtain ⟨v, hf, _⟩ := applyE2_zero_ok h
    rw [eval_zero_eq_leafVal, eval_zero_eq_leafVal]
    exact ⟨v, hf⟩
  | succ k ih =>
    obtain ⟨cs, hm, _⟩ := applyE2_succ_ok h
    obtain ⟨c, hc⟩ := mapE_ok_mem hm (List.mem_range.mpr (hx (k+1) (by omega) hk))
    rw [cofactor_eval Sa za k fi a x ha, cofactor_eval Sb zb k fi b x hb]
    exact ih hc (by omega) (fun _ => rfl) (fun _ => rfl)

theorem applyE2_eval {x : Assign} (h : applyE2 Sa Sb Sc za zb zc f k fi a b = .ok r)
    (hk : k ≤ Sc.top) (hx : Assign.Valid Sc x)
    (ha : Sa.mode k = .ident → fi = some (x (k+1)))
    (hb : Sb.mode k = .ident → fi = some (x (k+1)))
    (hc : Sc.mode k = .ident → fi = some (x (k+1))) :
    f (eval Sa za k a x) (eval Sb zb k b x) = .ok (eval Sc zc k r x) := by
  obtain ⟨v, hv⟩ := applyE2_defined h hk hx ha hb
  rw [applyE2_ok zc h, apply2_eval Sa Sb Sc za zb zc _ k fi a b x hk hx ha hb hc,
    totalize_ok hv, hv]

theorem agree_upd {x y : Assign} {k i : Nat} (h : ∀ p, k < p → x p = Assign.upd y (k+1) i p) :
    x (k+1) = i ∧ ∀ p, k+1 < p → x p = y p :=
  ⟨by rw [h (k+1) (Nat.lt_succ_self k), Assign.upd_same],
   fun p hp => by rw [h p (by omega), Assign.upd_other y i (by omega)]⟩

theorem applyE2_error {y : Assign} (h : applyE2 Sa Sb Sc za zb zc f k fi a b = .error e)
    (hk : k ≤ Sc.top) (hy : Assign.Valid Sc y)
    (ha : Sa.mode k = .ident → fi = some (y (k+1)))
    (hb : Sb.mode k = .ident → fi = some (y (k+1))) :
    ∃ x, Assign.Valid Sc x ∧ (∀ p, k < p → x p = y p) ∧
      f (eval Sa za k a x) (eval Sb zb k b x) = .error e := by
  induction k generalizing fi a b y with
  | zero =>
    refine ⟨y, hy, fun _ _ => rfl, ?_⟩
    rw [eval_zero_eq_leafVal, eval_zero_eq_leafVal]
    rw [applyE2_zero] at h
    split at h
    · cases h
    · next e' he => cases h; exact he
  | succ k ih =>
    rw [applyE2_succ] at h
    split at h
    · cases h
    next e' he =>
    cases h
    obtain ⟨i, hi, hgi⟩ := mapE_error he
    have hyi : Assign.upd y (k+1) i (k+1) = i := Assign.upd_same y (k+1) i
    obtain ⟨x, hxv, hxa, hxf⟩ := ih hgi (by omega) (hy.upd (List.mem_range.mp hi))
      (fun _ => by rw [hyi]) (fun _ => by rw [hyi])
    obtain ⟨hx1, hx2⟩ := agree_upd hxa
    refine ⟨x, hxv, hx2, ?_⟩
    rw [cofactor_eval Sa za k fi a x (fun hm => by rw [hx2 (k+2) (by omega)]; exact ha hm),
      cofactor_eval Sb zb k fi b x (fun hm => by rw [hx2 (k+2) (by omega)]; exact hb hm), hx1]
    exact hxf

end

/-- at and above the top position no forest is identity-reduced, so the side conditions on the
    arriving index are void there -/
theorem top_fi {S : Shape} (hS : S.WF) {k : Nat} (hk : S.top ≤ k) {fi : Option Nat} {n : Nat} :
    S.mode k = .ident → fi = some n :=
  fun hm => absurd hm (hS.top_not_ident hk)

theorem applyE2_eval_top (Sa Sb Sc : Shape) (za : α) (zb : β) (zc : γ) (f : α → β → Except ε γ)
    (hSa : Sa.WF) (hSb : Sb.WF) (hSc : Sc.WF) (hac : SameVars Sa Sc) (hbc : SameVars Sb Sc)
    (a : DD α) (b : DD β) (r : DD γ)
    (h : applyE2 Sa Sb Sc za zb zc f Sc.top none a b = .ok r)
    (x : Assign) (hx : Assign.Valid Sc x) :
    f (eval Sa za Sa.top a x) (eval Sb zb Sb.top b x) = .ok (eval Sc zc Sc.top r x) := by
  rw [hac.top, hbc.top]
  exact applyE2_eval h (Nat.le_refl _) hx (top_fi hSa (Nat.le_of_eq hac.top))
    (top_fi hSb (Nat.le_of_eq hbc.top)) (top_fi hSc (Nat.le_refl _))

/-- The model raises iff the scalar operation is invalid at some valid assignment. -/
theorem applyE2_error_iff (Sa Sb Sc : Shape) (za : α) (zb : β) (zc : γ) (f : α → β → Except ε γ)
    (hSa : Sa.WF) (hSb : Sb.WF) (hSc : Sc.WF) (hac : SameVars Sa Sc) (hbc : SameVars Sb Sc)
    (a : DD α) (b : DD β) :
    (∃ e, applyE2 Sa Sb Sc za zb zc f Sc.top none a b = .error e) ↔
    (∃ x e, Assign.Valid Sc x ∧ f (eval Sa za Sa.top a x) (eval Sb zb Sb.top b x) = .error e) := by
  rw [hac.top, hbc.top]
  constructor
  · rintro ⟨e, h⟩
    obtain ⟨x, hx, _, hf⟩ := applyE2_error h (Nat.le_refl _) (Assign.valid_const_zero hSc)
      (top_fi hSa (Nat.le_of_eq hac.top)) (top_fi hSb (Nat.le_of_eq hbc.top))
    exact ⟨x, e, hx, hf⟩
  · rintro ⟨x, e, hx, hf⟩
    cases h : applyE2 Sa Sb Sc za zb zc f Sc.top none a b with
    | error e' => exact ⟨e', rfl⟩
    | ok r =>
      obtain ⟨v, hv⟩ := applyE2_defined h (Nat.le_refl _) hx
        (top_fi hSa (Nat.le_of_eq hac.top)) (top_fi hSb (Nat.le_of_eq hbc.top))
      rw [hf] at hv
      cases hv

theorem applyE2_red_top (Sa Sb Sc : Shape) (za : α) (zb : β) (zc : γ) (f : α → β → Except ε γ)
    (hSc : Sc.WF) (a : DD α) (b : DD β) (r : DD γ)
    (h : applyE2 Sa Sb Sc za zb zc f Sc.top none a b = .ok r) :
    Red Sc zc Sc.top none r = true := by
  rw [applyE2_ok zc h]
  exact apply2_red_top Sa Sb Sc za zb zc _ hSc a b

/-- A successful result is *the* reduced tree of the pointwise function. -/
theorem applyE2_unique (Sa Sb Sc : Shape) (za : α) (zb : β) (zc : γ) (f : α → β → Except ε γ)
    (hSa : Sa.WF) (hSb : Sb.WF) (hSc : Sc.WF) (hac : SameVars Sa Sc) (hbc : SameVars Sb Sc)
    (a : DD α) (b : DD β) (r r' : DD γ)
    (h : applyE2 Sa Sb Sc za zb zc f Sc.top none a b = .ok r)
    (hr : Red Sc zc Sc.top none r' = true)
    (hd : ∀ x, Assign.Valid Sc x →
      f (eval Sa za Sa.top a x) (eval Sb zb Sb.top b x) = .ok (eval Sc zc Sc.top r' x)) :
    r' = r := by
  apply (canon Sc zc hSc r' r hr (applyE2_red_top Sa Sb Sc za zb zc f hSc a b r h)).mp
  intro x hx
  have h1 := hd x hx
  rw [applyE2_eval_top Sa Sb Sc za zb zc f hSa hSb hSc hac hbc a b r h x hx] at h1
  exact (Except.ok.inj h1).symm

/-! ### Soundness criterion for a shortcut answer

  A shortcut of the library returns some tree `r'` for the sub-problem `(k, fi, a, b)`
  without recursing.  The answer is right — i.e. it IS what the full recursion returns, and
  the full recursion does not raise — if `r'` is reduced for the result forest and denotes
  the scalar operation at every assignment of the sub-domain (the converse is `applyE2_eval`
  with `applyE2_ok` and `apply2_red`). -/
theorem applyE2_answer (Sa Sb Sc : Shape) (za : α) (zb : β) (zc : γ) (f : α → β → Except ε γ)
    (hSc : Sc.WF) (k : Nat) (fi : Option Nat) (a : DD α) (b : DD β) (r' : DD γ)
    (hctx : Ctx Sa Sb Sc k fi)
    (hr : Red Sc zc k fi r' = true)
    (hd : ∀ x, Assign.Valid Sc x → Resp k fi x →
      f (eval Sa za k a x) (eval Sb zb k b x) = .ok (eval Sc zc k r' x)) :
    applyE2 Sa Sb Sc za zb zc f k fi a b = .ok r' := by
  obtain ⟨y, hyv, hyr, _⟩ :=
    exists_fix Sc (k+1) fi hctx.idx (fun _ => 0) (Assign.valid_const_zero hSc)
  cases h : applyE2 Sa Sb Sc za zb zc f k fi a b with
  | error e =>
    obtain ⟨x, hxv, hxa, hxf⟩ := applyE2_error h hctx.le hyv
      (fi_of_mode hctx.na hyr) (fi_of_mode hctx.nb hyr)
    rw [hd x hxv (fun i hi => by rw [hxa (k+1) (Nat.lt_succ_self k)]; exact hyr i hi)] at hxf
    cases hxf
  | ok r =>
    congr 1
    refine (canon_gen Sc zc hSc k hctx.le fi r' r hctx.idx hr ?_ fun x hx hxr => ?_).symm
    · rw [applyE2_ok zc h]
      exact apply2_red Sa Sb Sc za zb zc _ hSc k fi a b hctx.nc
    · have h1 := hd x hx hxr
      rw [applyE2_eval h hctx.le hx (fi_of_mode hctx.na hxr) (fi_of_mode hctx.nb hxr)
        (fi_of_mode hctx.nc hxr)] at h1
      exact (Except.ok.inj h1).symm

/-! ## Range queries on trees -/

/-- `fold op` over the values at all assignments below position `k`: every position is
    expanded (a skipped position contributes every index, an identity-skipped one the
    transparent value off the diagonal). -/
def rangeFold (S : Shape) (zero : α) (op : α → α → α) : Nat → Option Nat → DD α → α
  | 0, _, d => leafVal zero d
  | k+1, fi, d =>
    (List.range (S.size (k+1))).foldl
      (fun acc i => op acc (rangeFold S zero op k (some i) (cofactor S zero (k+1) fi d i)))
      (rangeFold S zero op k (some 0) (cofactor S zero (k+1) fi d 0))

section
variable (S : Shape) (zero : α) (op : α → α → α) (k : Nat) (fi : Option Nat) (d : DD α)

theorem rangeFold_zero : rangeFold S zero op 0 fi d = leafVal zero d := rfl

theorem rangeFold_succ :
    rangeFold S zero op (k+1) fi d =
      (List.range (S.size (k+1))).foldl
        (fun acc i => op acc (rangeFold S zero op k (some i) (cofactor S zero (k+1) fi d i)))
        (rangeFold S zero op k (some 0) (cofactor S zero (k+1) fi d 0)) := rfl

end

/-- `op` is a semilattice operation (max or min of a linear order is one) -/
structure SemiLat (op : α → α → α) : Prop where
  assoc : ∀ a b c, op (op a b) c = op a (op b c)
  comm : ∀ a b, op a b = op b a
  idem : ∀ a, op a a = a

/-- `le` is a preorder in which `add a b` lies below both arguments (a semilattice operation with
    "absorbs", ∨ with "is implied by", `min` on distances with "finite and at most") -/
structure LowerBound (add : α → α → α) (le : α → α → Prop) : Prop where
  refl : ∀ a, le a a
  trans : ∀ a b c, le a b → le b c → le a c
  left : ∀ a b, le (add a b) a
  right : ∀ a b, le (add a b) b

theorem foldl_lowerBound {ι : Type} {add : α → α → α} {le : α → α → Prop} (h : LowerBound add le)
    (f : ι → α) (l : List ι) (a : α) :
    le (l.foldl (fun acc i => add acc (f i)) a) a ∧
      ∀ i, i ∈ l → le (l.foldl (fun acc i => add acc (f i)) a) (f i) := by
  induction l generalizing a with
  | nil => exact ⟨h.refl a, fun i hi => nomatch hi⟩
  | cons j l ih =>
    obtain ⟨h1, h2⟩ := ih (add a (f j))
    refine ⟨h.trans _ _ _ h1 (h.left a (f j)), fun i hi => ?_⟩
    rcases List.mem_cons.mp hi with rfl | hi
    · exact h.trans _ _ _ h1 (h.right a (f i))
    · exact h2 i hi

/-- a semilattice operation lies below its arguments in the order "absorbs" -/
theorem SemiLat.lowerBound {op : α → α → α} (h : SemiLat op) :
    LowerBound op (fun a b => op a b = a) where
  refl := h.idem
  trans := fun a b c h1 h2 => by rw [← h1, h.assoc, h2]
  left := fun a b => by rw [h.comm (op a b) a, ← h.assoc, h.idem]
  right := fun a b => by rw [h.assoc, h.idem]

theorem foldl_sel {ι : Type} {op : α → α → α} (hsel : ∀ a b, op a b = a ∨ op a b = b)
    (g : ι → α) (l : List ι) (a : α) :
    l.foldl (fun acc i => op acc (g i)) a = a ∨
      ∃ j, j ∈ l ∧ l.foldl (fun acc i => op acc (g i)) a = g j := by
  induction l generalizing a with
  | nil => exact .inl rfl
  | cons i is ih =>
    rw [List.foldl_cons]
    rcases ih (op a (g i)) with h1 | ⟨j, hj, h2⟩
    · rcases hsel a (g i) with h3 | h3
      · left; rw [h1, h3]
      · right; exact ⟨i, List.mem_cons_self, by rw [h1, h3]⟩
    · right; exact ⟨j, List.mem_cons_of_mem _ hj, h2⟩

/-- The range fold absorbs the value at every valid assignment (for `max`: it is an
    upper bound of the function, for `min` a lower bound). -/
theorem rangeFold_absorbs (S : Shape) (zero : α) {op : α → α → α} (h : SemiLat op) :
    ∀ (k : Nat) (fi : Option Nat) (d : DD α) (x : Assign),
      k ≤ S.top → Assign.Valid S x →
      (S.mode k = .ident → fi = some (x (k+1))) →
      op (rangeFold S zero op k fi d) (eval S zero k d x) = rangeFold S zero op k fi d := by
  intro k
  induction k with
  | zero =>
    intro fi d x _ _ _
    rw [rangeFold_zero, eval_zero_eq_leafVal, h.idem]
  | succ k ih =>
    intro fi d x hk hx hfi
    have hxk : x (k+1) < S.size (k+1) := hx (k+1) (by omega) hk
    rw [rangeFold_succ, cofactor_eval S zero k fi d x hfi]
    exact h.lowerBound.trans _ _ _
      ((foldl_lowerBound h.lowerBound
        (fun i => rangeFold S zero op k (some i) (cofactor S zero (k+1) fi d i)) _ _).2
        (x (k+1)) (List.mem_range.mpr hxk))
      (ih (some (x (k+1))) _ x (by omega) hx (fun _ => rfl))

/-- For a selective operation the range fold is attained at a valid assignment. -/
theorem rangeFold_attained (S : Shape) (zero : α) (hS : S.WF) {op : α → α → α}
    (hsel : ∀ a b, op a b = a ∨ op a b = b) :
    ∀ (k : Nat) (fi : Option Nat) (d : DD α) (y : Assign),
      k ≤ S.top → Assign.Valid S y →
      (S.mode k = .ident → fi = some (y (k+1))) →
      ∃ x, Assign.Valid S x ∧ (∀ p, k < p → x p = y p) ∧
        eval S zero k d x = rangeFold S zero op k fi d := by
  intro k
  induction k with
  | zero =>
    intro fi d y _ hy _
    exact ⟨y, hy, fun _ _ => rfl, by rw [rangeFold_zero, eval_zero_eq_leafVal]⟩
  | succ k ih =>
    intro fi d y hk hy hfi
    -- the fold is the value of one child index j
    obtain ⟨j, hjlt, hjeq⟩ : ∃ j, j < S.size (k+1) ∧ rangeFold S zero op (k+1) fi d
        = rangeFold S zero op k (some j) (cofactor S zero (k+1) fi d j) := by
      rw [rangeFold_succ]
      rcases foldl_sel hsel
        (fun i => rangeFold S zero op k (some i) (cofactor S zero (k+1) fi d i)) _ _
        with h1 | ⟨j, hjm, h2⟩
      · exact ⟨0, Nat.lt_of_lt_of_le (by decide) (hS.size_ge (k+1) (by omega) hk), h1⟩
      · exact ⟨j, List.mem_range.mp hjm, h2⟩
    have hyj : Assign.upd y (k+1) j (k+1) = j := Assign.upd_same y (k+1) j
    obtain ⟨x, hxv, hxa, hxe⟩ := ih (some j) (cofactor S zero (k+1) fi d j)
      (Assign.upd y (k+1) j) (by omega) (hy.upd hjlt) (fun _ => by rw [hyj])
    obtain ⟨hx1, hx2⟩ := agree_upd hxa
    refine ⟨x, hxv, hx2, ?_⟩
    rw [cofactor_eval S zero k fi d x (fun hm => by rw [hx2 (k+2) (by omega)]; exact hfi hm),
      hx1, hjeq]
    exact hxe

theorem rangeFold_top_spec (S : Shape) (zero : α) (hS : S.WF) {op : α → α → α} (h : SemiLat op)
    (hsel : ∀ a b, op a b = a ∨ op a b = b) (d : DD α) :
    (∀ x, Assign.Valid S x →
      op (rangeFold S zero op S.top none d) (eval S zero S.top d x) = rangeFold S zero op S.top none d) ∧
    (∃ x, Assign.Valid S x ∧ eval S zero S.top d x = rangeFold S zero op S.top none d) := by
  refine ⟨fun x hx => rangeFold_absorbs S zero h S.top none d x (Nat.le_refl _) hx
    (top_fi hS (Nat.le_refl _)), ?_⟩
  obtain ⟨x, hx, _, he⟩ := rangeFold_attained S zero hS hsel S.top none d (fun _ => 0)
    (Nat.le_refl _) (Assign.valid_const_zero hS) (top_fi hS (Nat.le_refl _))
  exact ⟨x, hx, he⟩

end DD

/-! ## The operations of C05 as instances -/

namespace Arith
open DD Spec.Arith

/-- `apply(OP, a, b, c)` on trees of function values: operands in forests of shapes
    `Sa`, `Sb` with transparent values `za`, `zb`, result in a forest of shape `Sc`
    with transparent value `zc` and range `rng`. -/
def arith (Sa Sb Sc : Shape) (za zb zc : Val) (op : ArithOp) (rng : Rng) (a b : DD Val) :
    Except String (DD Val) :=
  applyE2 Sa Sb Sc za zb zc (scalar op rng) Sc.top none a b

/-- a partial unary map made total (the catalogue maps are total on the values of
    their forests; `dflt` elsewhere) -/
def totalize1 (g : Val → Except String Val) (dflt : Val) (v : Val) : Val :=
  match g v with
  | .ok w => w
  | .error _ => dflt

/-- DIST_INC and user-defined maps: unary apply -/
def unary (Sa Sc : Shape) (za zc : Val) (g : Val → Except String Val) (a : DD Val) : DD Val :=
  apply1 Sa Sc za zc (totalize1 g zc) Sc.top none a

/-- MAX_RANGE / MIN_RANGE on integer-valued trees -/
def rangeMaxDD (S : Shape) (a : DD Int) : Int := rangeFold S 0 max S.top none a
def rangeMinDD (S : Shape) (a : DD Int) : Int := rangeFold S 0 min S.top none a

theorem max_sel (a b : Int) : max a b = a ∨ max a b = b :=
  (Int.le_total a b).elim (fun h => .inr (Int.max_eq_right h)) (fun h => .inl (Int.max_eq_left h))

theorem min_sel (a b : Int) : min a b = a ∨ min a b = b :=
  (Int.le_total a b).elim (fun h => .inl (Int.min_eq_left h)) (fun h => .inr (Int.min_eq_right h))

/-! ## Shortcut algebra

  The scalar identities behind every terminal shortcut of `arith_*.cc` / `compare.cc`
  (`stopOnEqualArgs` + `makeEqualResult`, `simplifiesToFirstArg`, `simplifiesToSecondArg`,
  `isSpecialCase`): a shortcut that answers "the result is operand X" (or a constant) for a
  whole sub-domain is pointwise right iff the identity holds for EVERY value the other
  operand can take.  `…_unsound` theorems record the shortcuts whose identity fails for
  some value: exactly the FINDINGS classes of docs/NOTES_arith.md. -/

section ShortcutAlgebra
variable (rng : Rng)

/-- a value of an integer / EV+ forest -/
def IsIntOrInf (y : Val) : Prop := y = .inf ∨ ∃ b, y = .i b

/-- what holds of `inf` and of every integer holds of every value of such a forest -/
@[elab_as_elim]
theorem IsIntOrInf.ind {P : Val → Prop} {y : Val} (hy : IsIntOrInf y) (hinf : P .inf)
    (hint : ∀ b, P (.i b)) : P y := by
  rcases hy with rfl | ⟨b, rfl⟩
  · exact hinf
  · exact hint b

/-! On two integers `scalar op rng (.i a) (.i b)` evaluates to the entry of `intOp`, `.ok (.i (a ∘ b))`
    (for `/` and `%` under the test `b = 0`), `.ok (ofBool rng (a ~ b))` for a comparison, so each
    identity is the one on `Int` under these constructors; with an infinite operand it is a lookup in
    one of the tables `infLeft`, `infRight`, `infBoth`, and the identities are entries of those. -/
/-! PLUS: `0 + y = y`, `x + 0 = x` (MT `0==a`, `0==b`; EV+ `OMEGA_NORMAL` with edge value 0
    factored out), `inf + y = inf`. -/
theorem plus_zero_left (b : Int) : scalar .plus rng (.i 0) (.i b) = .ok (.i b) :=
  congrArg (Except.ok ∘ Val.i) (Int.zero_add b)
theorem plus_zero_right (a : Int) : scalar .plus rng (.i a) (.i 0) = .ok (.i a) :=
  congrArg (Except.ok ∘ Val.i) (Int.add_zero a)
theorem plus_zero_inf : scalar .plus rng (.i 0) .inf = .ok .inf := rfl
theorem plus_inf_left (y : Val) (hy : IsIntOrInf y) : scalar .plus rng .inf y = .ok .inf :=
  hy.ind rfl fun _ => rfl
theorem plus_inf_right (x : Val) (hx : IsIntOrInf x) : scalar .plus rng x .inf = .ok .inf :=
  hx.ind rfl fun _ => rfl

/-! MINUS: `x - 0 = x`, `x - x = 0` for finite x, `inf - y = inf` for finite y. -/
theorem minus_zero_right (a : Int) : scalar .minus rng (.i a) (.i 0) = .ok (.i a) :=
  congrArg (Except.ok ∘ Val.i) (Int.sub_zero a)
theorem minus_self (a : Int) : scalar .minus rng (.i a) (.i a) = .ok (.i 0) :=
  congrArg (Except.ok ∘ Val.i) (Int.sub_self a)
theorem minus_inf_left (b : Int) : scalar .minus rng .inf (.i b) = .ok .inf := rfl
/-- FINDING: the `A - A := 0` and `inf - B := inf` shortcuts are wrong where the subtrahend
    is infinite: the scalar rule there is SUBTRACT_INFINITY. -/
theorem minus_self_unsound : scalar .minus rng .inf .inf = .error errSubInf := rfl
/-- FINDING (identity-reduced subtrahend): `x - inf` is invalid for every finite `x`, so
    "the subtrahend is the constant c" may only be concluded where it really is c. -/
theorem minus_inf_right_invalid (a : Int) : scalar .minus rng (.i a) .inf = .error errSubInf := rfl

/-! MULTIPLY: `0 * y = 0`, `x * 1 = x` for finite values; `inf` absorbs. -/
theorem mult_zero_left (b : Int) : scalar .mult rng (.i 0) (.i b) = .ok (.i 0) :=
  congrArg (Except.ok ∘ Val.i) (Int.zero_mul b)
theorem mult_zero_right (a : Int) : scalar .mult rng (.i a) (.i 0) = .ok (.i 0) :=
  congrArg (Except.ok ∘ Val.i) (Int.mul_zero a)
theorem mult_one_left (b : Int) : scalar .mult rng (.i 1) (.i b) = .ok (.i b) :=
  congrArg (Except.ok ∘ Val.i) (Int.one_mul b)
theorem mult_one_right (a : Int) : scalar .mult rng (.i a) (.i 1) = .ok (.i a) :=
  congrArg (Except.ok ∘ Val.i) (Int.mul_one a)
theorem mult_inf_left (y : Val) (hy : IsIntOrInf y) : scalar .mult rng .inf y = .ok .inf :=
  hy.ind rfl fun _ => rfl
theorem mult_one_inf : scalar .mult rng .inf (.i 1) = .ok .inf := rfl
/-- FINDING: the EV+ `0 * B := 0` shortcut is wrong where `B` is infinite (`evplus_mult::apply`
    itself says `0 * inf = inf`). -/
theorem mult_zero_inf_unsound : scalar .mult rng (.i 0) .inf = .ok .inf ∧ (Val.inf ≠ .i 0) :=
  ⟨rfl, Val.noConfusion⟩

/-! DIVIDE / MODULO: `x / 1 = x`; `0 / y = 0`, `0 % y = 0`, `x / x = 1`, `x % x = 0` only
    for NON-ZERO divisors. -/
theorem div_one_right (a : Int) : scalar .div rng (.i a) (.i 1) = .ok (.i a) :=
  congrArg (Except.ok ∘ Val.i) (Int.tdiv_one a)
theorem div_zero_left (b : Int) (hb : b ≠ 0) : scalar .div rng (.i 0) (.i b) = .ok (.i 0) :=
  (if_neg hb).trans (congrArg (Except.ok ∘ Val.i) (Int.zero_tdiv b))
theorem div_self (a : Int) (ha : a ≠ 0) : scalar .div rng (.i a) (.i a) = .ok (.i 1) :=
  (if_neg ha).trans (congrArg (Except.ok ∘ Val.i) (Int.tdiv_self ha))
theorem mod_zero_left (b : Int) (hb : b ≠ 0) : scalar .mod rng (.i 0) (.i b) = .ok (.i 0) :=
  (if_neg hb).trans (congrArg (Except.ok ∘ Val.i) (Int.zero_tmod b))
theorem mod_self (a : Int) (ha : a ≠ 0) : scalar .mod rng (.i a) (.i a) = .ok (.i 0) :=
  (if_neg ha).trans (congrArg (Except.ok ∘ Val.i) Int.tmod_self)
theorem div_zero_inf : scalar .div rng (.i 0) .inf = .ok (.i 0) := rfl
theorem mod_inf_right (a : Int) : scalar .mod rng (.i a) .inf = .ok (.i a) := rfl
/-- FINDING: `x/x := 1`, `x%x := 0`, `0/B := 0`, `0%B := 0` are wrong where the divisor is 0. -/
theorem div_zero_zero_unsound : scalar .div rng (.i 0) (.i 0) = .error errDivZero := rfl
theorem mod_zero_zero_unsound : scalar .mod rng (.i 0) (.i 0) = .error errDivZero := rfl
/-- FINDING: EV+ `A % inf := A` (and `A/A := 1`) are wrong where `A` is infinite. -/
theorem mod_inf_inf_unsound : scalar .mod rng .inf .inf = .error errInfDivInf := rfl
theorem div_inf_inf_unsound : scalar .div rng .inf .inf = .error errInfDivInf := rfl
/-- FINDING: the `0 / B := 0` shortcut on an identity pattern hides `inf / 0`. -/
theorem div_inf_zero_invalid : scalar .div rng .inf (.i 0) = .error errDivZero := rfl

/-! MAXIMUM / MINIMUM / DIST_MIN: idempotent; `max(x, inf) = inf`, `min(x, inf) = x`. -/
theorem max_self (a : Int) : scalar .max rng (.i a) (.i a) = .ok (.i a) :=
  congrArg (Except.ok ∘ Val.i) (Int.max_self a)
theorem min_self (a : Int) : scalar .min rng (.i a) (.i a) = .ok (.i a) :=
  congrArg (Except.ok ∘ Val.i) (Int.min_self a)
theorem distmin_self (a : Int) : scalar .distmin rng (.i a) (.i a) = .ok (.i a) :=
  congrArg (Except.ok ∘ Val.i) (by simp only [distMinInt, Int.min_self, ite_self])
theorem max_inf_inf : scalar .max rng .inf .inf = .ok .inf := rfl
theorem min_inf_inf : scalar .min rng .inf .inf = .ok .inf := rfl
theorem max_inf_left (y : Val) (hy : IsIntOrInf y) : scalar .max rng .inf y = .ok .inf :=
  hy.ind rfl fun _ => rfl
theorem max_inf_right (x : Val) (hx : IsIntOrInf x) : scalar .max rng x .inf = .ok .inf :=
  hx.ind rfl fun _ => rfl
theorem min_inf_left (y : Val) (hy : IsIntOrInf y) : scalar .min rng .inf y = .ok y :=
  hy.ind rfl fun _ => rfl
theorem min_inf_right (x : Val) (hx : IsIntOrInf x) : scalar .min rng x .inf = .ok x :=
  hx.ind rfl fun _ => rfl

/-! Comparisons: `x ~ x` is the constant `isReflexive()`; the EV+ `isSpecialCase` answers. -/
theorem eq_self (x : Val) (hx : IsIntOrInf x) : scalar .eq rng x x = .ok (ofBool rng true) :=
  hx.ind rfl fun _ => congrArg (Except.ok ∘ ofBool rng) (decide_eq_true rfl)
theorem ne_self (x : Val) (hx : IsIntOrInf x) : scalar .ne rng x x = .ok (ofBool rng false) :=
  hx.ind rfl fun b => congrArg (Except.ok ∘ ofBool rng ∘ not) (decide_eq_true (rfl : b = b))
theorem lt_self (x : Val) (hx : IsIntOrInf x) : scalar .lt rng x x = .ok (ofBool rng false) :=
  hx.ind rfl fun b => congrArg (Except.ok ∘ ofBool rng) (decide_eq_false (Int.lt_irrefl b))
theorem le_self (x : Val) (hx : IsIntOrInf x) : scalar .le rng x x = .ok (ofBool rng true) :=
  hx.ind rfl fun b => congrArg (Except.ok ∘ ofBool rng) (decide_eq_true (Int.le_refl b))
theorem gt_self (x : Val) (hx : IsIntOrInf x) : scalar .gt rng x x = .ok (ofBool rng false) :=
  hx.ind rfl fun b => congrArg (Except.ok ∘ ofBool rng) (decide_eq_false (Int.lt_irrefl b))
theorem ge_self (x : Val) (hx : IsIntOrInf x) : scalar .ge rng x x = .ok (ofBool rng true) :=
  hx.ind rfl fun b => congrArg (Except.ok ∘ ofBool rng) (decide_eq_true (Int.le_refl b))
/-- `A(..) > inf` is false, `A(..) <= inf` is true regardless of `A` -/
theorem gt_inf_right (x : Val) (hx : IsIntOrInf x) : scalar .gt rng x .inf = .ok (ofBool rng false) :=
  hx.ind rfl fun _ => rfl
theorem le_inf_right (x : Val) (hx : IsIntOrInf x) : scalar .le rng x .inf = .ok (ofBool rng true) :=
  hx.ind rfl fun _ => rfl
/-- `inf >= B(..)` is true, `inf < B(..)` is false regardless of `B` -/
theorem ge_inf_left (y : Val) (hy : IsIntOrInf y) : scalar .ge rng .inf y = .ok (ofBool rng true) :=
  hy.ind rfl fun _ => rfl
theorem lt_inf_left (y : Val) (hy : IsIntOrInf y) : scalar .lt rng .inf y = .ok (ofBool rng false) :=
  hy.ind rfl fun _ => rfl

end ShortcutAlgebra

/-- decidable equality of results (for the concrete examples below) -/
instance decEqExcept {ε α : Type} [DecidableEq ε] [DecidableEq α] : DecidableEq (Except ε α)
  | .ok a, .ok b => if h : a = b then isTrue (by rw [h]) else isFalse (by intro e; cases e; exact h rfl)
  | .error a, .error b =>
    if h : a = b then isTrue (by rw [h]) else isFalse (by intro e; cases e; exact h rfl)
  | .ok _, .error _ => isFalse (by intro e; cases e)
  | .error _, .ok _ => isFalse (by intro e; cases e)

section Props
variable {Sa Sb Sc : Shape} {za zb zc : Val}

/-- C05, values: whenever the model of `apply(OP, A, B, C)` returns a result, that result
    denotes, at EVERY assignment of the variables, exactly the scalar operation applied to
    the operands' values there (and the scalar operation is valid there) — for every
    domain, every triple of reduction rules (fully / quasi / identity, operands and result
    in different forests or the same), every operation of the catalogue and every pair of
    operand diagrams.  For the C++ code: PLUS … GREATER_THAN_EQUAL are pointwise. -/
theorem arith_eval (hSa : Sa.WF) (hSb : Sb.WF) (hSc : Sc.WF) (hac : SameVars Sa Sc)
    (hbc : SameVars Sb Sc) (op : ArithOp) (rng : Rng) (a b r : DD Val)
    (h : arith Sa Sb Sc za zb zc op rng a b = .ok r) (x : Assign) (hx : Assign.Valid Sc x) :
    scalar op rng (eval Sa za Sa.top a x) (eval Sb zb Sb.top b x) = .ok (eval Sc zc Sc.top r x) :=
  applyE2_eval_top Sa Sb Sc za zb zc _ hSa hSb hSc hac hbc a b r h x hx

example :
    arith CanonExamples.SA CanonExamples.SA CanonExamples.SA (.i 0) (.i 0) (.i 0) .minus .int
      (.node 3 [.node 1 [.leaf (.i 5), .leaf (.i 7)], .leaf (.i 2)])
      (.node 2 [.leaf (.i 1), .leaf (.i 2), .leaf (.i 7)])
    = .ok (.node 3 [.node 2 [.node 1 [.leaf (.i 4), .leaf (.i 6)], .node 1 [.leaf (.i 3), .leaf (.i 5)],
                             .node 1 [.leaf (.i (-2)), .leaf (.i 0)]],
                    .node 2 [.leaf (.i 1), .leaf (.i 0), .leaf (.i (-5))]]) := by decide +kernel

/-- C05, errors (soundness): the model raises code `e` only if the scalar operation is
    invalid with exactly that code at some assignment (division by zero, subtracting
    infinity, infinity / infinity).  For the C++ code: DIVIDE_BY_ZERO etc. are never
    raised spuriously. -/
theorem arith_error (hSa : Sa.WF) (hSb : Sb.WF) (hSc : Sc.WF) (hac : SameVars Sa Sc)
    (hbc : SameVars Sb Sc) (op : ArithOp) (rng : Rng) (a b : DD Val) (e : String)
    (h : arith Sa Sb Sc za zb zc op rng a b = .error e) :
    ∃ x, Assign.Valid Sc x ∧
      scalar op rng (eval Sa za Sa.top a x) (eval Sb zb Sb.top b x) = .error e := by
  rw [hac.top, hbc.top]
  obtain ⟨x, hx, _, hf⟩ := applyE2_error h (Nat.le_refl _) (Assign.valid_const_zero hSc)
    (top_fi hSa (Nat.le_of_eq hac.top)) (top_fi hSb (Nat.le_of_eq hbc.top))
  exact ⟨x, hx, hf⟩

example :
    arith CanonExamples.SA CanonExamples.SA CanonExamples.SA (.i 0) (.i 0) (.i 0) .div .int
      (.node 3 [.node 1 [.leaf (.i 5), .leaf (.i 7)], .leaf (.i 2)])
      (.node 2 [.leaf (.i 1), .leaf (.i 2), .leaf (.i 0)])
    = .error "DIVIDE_BY_ZERO" := by decide +kernel

/-- C05, errors (exact condition): the model raises iff the scalar operation is invalid at
    SOME assignment — every assignment counts, also the off-diagonal ones of
    identity-skipped positions, where the operands take their transparent value (so in an
    identity-reduced EV+ forest "subtrahend nowhere infinite" fails as soon as a level is
    identity-skipped).  For the C++ code: an invalid scalar case is reported instead of a
    value being returned; the library's terminal shortcuts answer for whole sub-domains and
    deviate from this exactly on the classes listed in docs/NOTES_arith.md (FINDINGS). -/
theorem arith_error_iff (hSa : Sa.WF) (hSb : Sb.WF) (hSc : Sc.WF) (hac : SameVars Sa Sc)
    (hbc : SameVars Sb Sc) (op : ArithOp) (rng : Rng) (a b : DD Val) :
    (∃ e, arith Sa Sb Sc za zb zc op rng a b = .error e) ↔
    (∃ x e, Assign.Valid Sc x ∧
      scalar op rng (eval Sa za Sa.top a x) (eval Sb zb Sb.top b x) = .error e) :=
  applyE2_error_iff Sa Sb Sc za zb zc _ hSa hSb hSc hac hbc a b

/-- the identity relation `leaf 5` divided by the identity relation `leaf 2` in
    identity-reduced forests: off the diagonal both are 0 and `0 / 0` is invalid -/
example :
    arith CanonExamples.SB CanonExamples.SB CanonExamples.SB (.i 0) (.i 0) (.i 0) .div .int
      (.leaf (.i 5)) (.leaf (.i 2)) = .error "DIVIDE_BY_ZERO" := by decide +kernel
/-- … while their sum is the identity relation `leaf 7` again -/
example :
    arith CanonExamples.SB CanonExamples.SB CanonExamples.SB (.i 0) (.i 0) (.i 0) .plus .int
      (.leaf (.i 5)) (.leaf (.i 2)) = .ok (.leaf (.i 7)) := by decide +kernel

/-- C05, canonical result: a result of the model is in reduced form for the result
    forest's rule.  For the C++ code: the results are stored as legal nodes of the
    result forest (checked on the real forest by the dump certificate). -/
theorem arith_red (hSc : Sc.WF) (op : ArithOp) (rng : Rng) (a b r : DD Val)
    (h : arith Sa Sb Sc za zb zc op rng a b = .ok r) :
    Red Sc zc Sc.top none r = true :=
  applyE2_red_top Sa Sb Sc za zb zc _ hSc a b r h

example : Red CanonExamples.SA (.i 0) 3 none
    (.node 3 [.node 2 [.node 1 [.leaf (.i 4), .leaf (.i 6)], .node 1 [.leaf (.i 3), .leaf (.i 5)],
                       .node 1 [.leaf (.i (-2)), .leaf (.i 0)]],
              .node 2 [.leaf (.i 1), .leaf (.i 0), .leaf (.i (-5))]] : DD Val) = true := by decide +kernel

/-- C05, uniqueness: any reduced diagram of the result forest that denotes the pointwise
    scalar operation IS the model's result; so a library result whose table equals the
    pointwise table and whose dump passes the certificate is node-for-node the model's. -/
theorem arith_unique (hSa : Sa.WF) (hSb : Sb.WF) (hSc : Sc.WF) (hac : SameVars Sa Sc)
    (hbc : SameVars Sb Sc) (op : ArithOp) (rng : Rng) (a b r r' : DD Val)
    (h : arith Sa Sb Sc za zb zc op rng a b = .ok r)
    (hr : Red Sc zc Sc.top none r' = true)
    (hd : ∀ x, Assign.Valid Sc x →
      scalar op rng (eval Sa za Sa.top a x) (eval Sb zb Sb.top b x)
        = .ok (eval Sc zc Sc.top r' x)) :
    r' = r :=
  applyE2_unique Sa Sb Sc za zb zc _ hSa hSb hSc hac hbc a b r r' h hr hd

/-- comparison into a boolean forest with another rule: `<` of an identity-reduced EV+
    style relation (transparent value `inf`) against a constant, result fully reduced -/
example :
    arith CanonExamples.SB ApplyExamples.SF ApplyExamples.SF .inf (.i 0) (.b false) .lt .bool
      (.leaf (.i 1)) (.leaf (.i 3))
    = .ok (.node 4 [.node 3 [.node 2 [.node 1 [.leaf (.b true), .leaf (.b false)],
                                      .node 1 [.leaf (.b false), .leaf (.b true)]], .leaf (.b false)],
                    .node 3 [.leaf (.b false), .node 2 [.node 1 [.leaf (.b true), .leaf (.b false)],
                                      .node 1 [.leaf (.b false), .leaf (.b true)]]]]) := by decide +kernel

/-- A shortcut lifted to diagrams (`mt_plus::simplifiesToSecondArg`, `0 == a`): in
    multi-terminal integer forests `0 + B` at any position of the recursion is the copy of
    `B` into the result forest (`copy_arg2res->compute`), whatever the three reduction
    rules are.  Every "result is operand X" shortcut whose identity is listed under
    *Shortcut algebra* lifts the same way through `applyE2_answer`. -/
theorem plus_zero_shortcut (hSc : Sc.WF) (rng : Rng) (k : Nat) (fi : Option Nat) (b : DD Val)
    (hctx : Ctx Sa Sb Sc k fi)
    (hb : ∀ x, Assign.Valid Sc x → ∃ v, eval Sb zb k b x = .i v) :
    applyE2 Sa Sb Sc (.i 0) zb zc (scalar .plus rng) k fi (.leaf (.i 0)) b
      = .ok (apply1 Sb Sc zb zc id k fi b) := by
  refine applyE2_answer Sa Sb Sc (.i 0) zb zc (scalar .plus rng) hSc k fi (.leaf (.i 0)) b
    (apply1 Sb Sc zb zc id k fi b) hctx ?_ ?_
  · exact apply1_red Sb Sc zb zc id hSc k fi b hctx.nc
  · intro x hx hxr
    rw [eval_leaf_zero, apply1_eval Sb Sc zb zc id k fi b x hctx.le hx
      (fi_of_mode hctx.nb hxr) (fi_of_mode hctx.nc hxr)]
    obtain ⟨v, hv⟩ := hb x hx
    rw [hv]
    exact plus_zero_left rng v

/-- FINDING F5 at the level of diagrams: `(4 everywhere) - diag(1)` with the subtrahend in
    an identity-reduced EV+ forest (transparent value inf): the model raises
    SUBTRACT_INFINITY (the subtrahend is infinite off the diagonal); the library's
    constant-subtrahend shortcut returns `3 everywhere`. -/
example :
    arith ApplyExamples.SF CanonExamples.SB ApplyExamples.SF .inf .inf .inf .minus .int
      (.leaf (.i 4)) (.leaf (.i 1)) = .error "SUBTRACT_INFINITY" := by decide +kernel
/-- … with both forests fully reduced the same two leaves are constants and `4 - 1 = 3` -/
example :
    arith ApplyExamples.SF ApplyExamples.SF ApplyExamples.SF .inf .inf .inf .minus .int
      (.leaf (.i 4)) (.leaf (.i 1)) = .ok (.leaf (.i 3)) := by decide +kernel

/-- C05, unary maps: DIST_INC and user-defined maps denote the pointwise map (every
    domain, every pair of reduction rules).  For the C++ code: `apply(DIST_INC, A, C)` and
    `apply(user_unary_factory, A, C)` are pointwise. -/
theorem unary_eval (hSa : Sa.WF) (hSc : Sc.WF) (hac : SameVars Sa Sc)
    (g : Val → Except String Val) (a : DD Val) (x : Assign) (hx : Assign.Valid Sc x)
    (hg : ∃ w, g (eval Sa za Sa.top a x) = .ok w) :
    g (eval Sa za Sa.top a x) = .ok (eval Sc zc Sc.top (unary Sa Sc za zc g a) x) := by
  obtain ⟨w, hw⟩ := hg
  have h := apply1_eval_top Sa Sc za zc (totalize1 g zc) hSa hSc hac a x hx
  rw [unary, h, hw]
  simp only [totalize1, hw]

theorem unary_red (hSc : Sc.WF) (g : Val → Except String Val) (a : DD Val) :
    Red Sc zc Sc.top none (unary Sa Sc za zc g a) = true :=
  apply1_red_top Sa Sc za zc _ hSc a

/-- DIST_INC of the identity relation `leaf 4` (identity-reduced argument, fully reduced
    result): 5 on the diagonal, and 0+1 = 1 off the diagonal -/
example :
    unary CanonExamples.SB ApplyExamples.SF (.i 0) (.i 0) distInc (.leaf (.i 4))
    = .node 4 [.node 3 [.node 2 [.node 1 [.leaf (.i 5), .leaf (.i 1)], .node 1 [.leaf (.i 1), .leaf (.i 5)]],
                        .leaf (.i 1)],
               .node 3 [.leaf (.i 1),
                        .node 2 [.node 1 [.leaf (.i 5), .leaf (.i 1)], .node 1 [.leaf (.i 1), .leaf (.i 5)]]]] := by
  decide +kernel

end Props

/-- C05, range queries: the model's MAX_RANGE is an upper bound of the function over all
    assignments and is attained (so it is the largest value taken); same for MIN_RANGE.
    For the C++ code: `apply(MAX_RANGE, A, v)` must return the largest value of `A`,
    zero entries included. -/
theorem range_max_spec (S : Shape) (hS : S.WF) (a : DD Int) :
    (∀ x, Assign.Valid S x → eval S 0 S.top a x ≤ rangeMaxDD S a) ∧
    (∃ x, Assign.Valid S x ∧ eval S 0 S.top a x = rangeMaxDD S a) := by
  obtain ⟨hub, hatt⟩ := rangeFold_top_spec S (0 : Int) hS
    ⟨Int.max_assoc, Int.max_comm, Int.max_self⟩ max_sel a
  exact ⟨fun x hx => by rw [rangeMaxDD, ← hub x hx]; exact Int.le_max_right _ _, hatt⟩

theorem range_min_spec (S : Shape) (hS : S.WF) (a : DD Int) :
    (∀ x, Assign.Valid S x → rangeMinDD S a ≤ eval S 0 S.top a x) ∧
    (∃ x, Assign.Valid S x ∧ eval S 0 S.top a x = rangeMinDD S a) := by
  obtain ⟨hlb, hatt⟩ := rangeFold_top_spec S (0 : Int) hS
    ⟨Int.min_assoc, Int.min_comm, Int.min_self⟩ min_sel a
  exact ⟨fun x hx => by rw [rangeMinDD, ← hlb x hx]; exact Int.min_le_right _ _, hatt⟩

/-- a function that is 5 or 3 on part of the domain and 0 elsewhere has minimum 0 -/
example : rangeMinDD CanonExamples.SA (.node 3 [.node 1 [.leaf 5, .leaf 0], .leaf 3]) = 0 := by decide +kernel
example : rangeMaxDD CanonExamples.SA (.node 3 [.node 1 [.leaf 5, .leaf 0], .leaf 3]) = 5 := by decide +kernel
/-- the identity relation `leaf 4`: 4 on the diagonal, 0 elsewhere -/
example : rangeMinDD CanonExamples.SB (.leaf 4) = 0 := by decide +kernel

end Arith

#print axioms Arith.arith_eval
#print axioms Arith.arith_error
#print axioms Arith.arith_error_iff
#print axioms Arith.arith_red
#print axioms Arith.arith_unique
#print axioms Arith.unary_eval
#print axioms Arith.unary_red
#print axioms Arith.range_max_spec
#print axioms Arith.range_min_spec
#print axioms DD.applyE2_eval_top
#print axioms DD.applyE2_error_iff
#print axioms DD.applyE2_unique
#print axioms DD.applyE2_answer
#print axioms Arith.plus_zero_shortcut
#print axioms DD.rangeFold_absorbs
#print axioms DD.rangeFold_attained
/- Output (Lean 4.33.0):
'Meddly.Arith.arith_eval' depends on axioms: [propext, Quot.sound]
'Meddly.Arith.arith_error' depends on axioms: [propext, Quot.sound]
'Meddly.Arith.arith_error_iff' depends on axioms: [propext, Quot.sound]
'Meddly.Arith.arith_red' depends on axioms: [propext, Classical.choice, Quot.sound]
'Meddly.Arith.arith_unique' depends on axioms: [propext, Classical.choice, Quot.sound]
'Meddly.Arith.unary_eval' depends on axioms: [propext, Quot.sound]
'Meddly.Arith.unary_red' depends on axioms: [propext, Classical.choice, Quot.sound]
'Meddly.Arith.range_max_spec' depends on axioms: [propext, Quot.sound]
'Meddly.Arith.range_min_spec' depends on axioms: [propext, Quot.sound]
'Meddly.DD.applyE2_eval_top' depends on axioms: [propext, Quot.sound]
'Meddly.DD.applyE2_error_iff' depends on axioms: [propext, Quot.sound]
'Meddly.DD.applyE2_unique' depends on axioms: [propext, Classical.choice, Quot.sound]
'Meddly.DD.applyE2_answer' depends on axioms: [propext, Classical.choice, Quot.sound]
'Meddly.Arith.plus_zero_shortcut' depends on axioms: [propext, Classical.choice, Quot.sound]
'Meddly.DD.rangeFold_absorbs' depends on axioms: [propext, Quot.sound]
'Meddly.DD.rangeFold_attained' depends on axioms: [propext, Quot.sound]
-/

end Meddly
