/-
  C20 — saturation over a partitioned transition relation (`pregen_relation`,
  `SATURATION_FORWARD`; src/sat_relations.{h,cc}, src/operations/sat_pregen.cc).

  Layers of this file

  * Generic part (any state type `σ`, finite domain list `dom`): relations as
    `σ → σ → Bool`, `unionRel`, reachability inside the domain (`Reach`), the
    chaotic-iteration lemma (soundness: firing only adds reachable states;
    completeness: a set that contains the initial states and is closed under
    every event contains every reachable state), `saturEvents` = an ARBITRARY
    firing schedule over a list of event relations, and `reachFix`, the naive
    executable least fixed point the acceptor uses as the specification.

  * Level part (states are tuples `List Nat`, index 0 = variable 1): what
    `pregen_relation` does with the relations it is given, on the level of sets
    of pairs, exactly as coded:
      - `topOf`      the level `ABS(r.getLevel())` of the relation's root node in an
                     identity-reduced forest, characterised semantically (least m such
                     that r = identity above m × something below; canonicity makes this
                     the root level);
      - `finalizeByEvents`  the bucket sort of `finalize()` for "by events"
                     (`level_index` / `next` linked lists: level K first, inside a level
                     the most recently added event first; level-0 events are dropped by
                     `addToRelation`);
      - `mergeByLevels`     `addToRelation` for "by levels" (`events[k] ∪= r`);
      - `commonDiagAt`      the `maxDiag` of `splitMxd` (intersection over i of the
                     (i,i) entries of the level-k matrix);
      - `splitStep` / `splitLoop`  the main loop of `splitMxd` for SplitOnly / SplitSubtract /
                     SplitSubtractAll (k = K … 2; the `continue` when `maxDiag` is empty
                     is kept because SplitSubtract would otherwise subtract level 0);
      - `subtractAll`       the closing double loop of SplitSubtractAll;
      - `unionLevels`       the first phase of MonolithicSplit;
      - `finalizeLevels`    `finalize(opt)` for "by levels".

  Not modelled HERE: the decision-diagram recursion `saturateHelper` / `recFire`
  of sat_pregen.cc (which sub-node is fired when; modelled on trees in
  Ops/Saturation.lean, proved in Ops/SaturationProofs.lean), its compute tables and
  the in-place update of `nb`.  In this file the recursion appears only as "some
  firing schedule": `saturEvents_eq_lfp` holds for EVERY schedule that ends closed.
  The reading of skipped levels as identity is the identity-reduced rule; the
  model describes the code with the repairs of findings F1 and F8 (in /repo: `fix:`
  d0ab66c, 1382dae; see docs/NOTES_pregen.md): `unionLevels` stores at `ABS(level)`.
-/

import MeddlyModel.Core.Canon

namespace Meddly
namespace Pregen

section Generic
variable {σ : Type}

abbrev SSet (σ : Type) := σ → Bool
abbrev Rel (σ : Type) := σ → σ → Bool

def emptyRel : Rel σ := fun _ _ => false
def runion (a b : Rel σ) : Rel σ := fun s t => a s t || b s t
def rinter (a b : Rel σ) : Rel σ := fun s t => a s t && b s t
def rdiff (a b : Rel σ) : Rel σ := fun s t => a s t && !b s t

def unionRel (evs : List (Rel σ)) : Rel σ := fun s t => evs.any (fun r => r s t)

/-- states reachable from `init` under `R`, all inside the finite domain `dom` -/
inductive Reach (dom : List σ) (init : SSet σ) (R : Rel σ) : σ → Prop
  | base {s : σ} : s ∈ dom → init s = true → Reach dom init R s
  | step {s t : σ} : Reach dom init R s → t ∈ dom → R s t = true → Reach dom init R t

theorem Reach.mem_dom {dom : List σ} {init : SSet σ} {R : Rel σ} {s : σ}
    (h : Reach dom init R s) : s ∈ dom := by
  cases h <;> assumption

theorem Reach.congr {dom : List σ} {init : SSet σ} {R R' : Rel σ}
    (h : ∀ s t, s ∈ dom → t ∈ dom → R s t = true → R' s t = true) {u : σ}
    (hu : Reach dom init R u) : Reach dom init R' u := by
  induction hu with
  | base hd hi => exact .base hd hi
  | step hs hd hr ih => exact .step ih hd (h _ _ hs.mem_dom hd hr)

def ClosedIn (dom : List σ) (R : Rel σ) (X : SSet σ) : Prop :=
  ∀ s t, s ∈ dom → t ∈ dom → X s = true → R s t = true → X t = true

/-- completeness half of the chaotic-iteration lemma -/
theorem closed_superset_reach {dom : List σ} {init : SSet σ} {R : Rel σ} {X : SSet σ}
    (h0 : ∀ s, s ∈ dom → init s = true → X s = true) (hc : ClosedIn dom R X) :
    ∀ u, Reach dom init R u → X u = true := by
  intro u hu
  induction hu with
  | base hd hi => exact h0 _ hd hi
  | step hs hd hr ih => exact hc _ _ hs.mem_dom hd ih hr

/-- self-loops never matter: removing pairs `(s,s)` from a relation keeps the reachable set -/
theorem reach_ignores_selfloops {dom : List σ} {init : SSet σ} {R R' : Rel σ}
    (h : ∀ s t, s ∈ dom → t ∈ dom → R s t = true → R' s t = true ∨ s = t) {u : σ}
    (hu : Reach dom init R u) : Reach dom init R' u := by
  induction hu with
  | base hd hi => exact .base hd hi
  | step hs hd hr ih =>
    cases h _ _ hs.mem_dom hd hr with
    | inl h' => exact .step ih hd h'
    | inr e => exact e ▸ ih

def closedB (dom : List σ) (evs : List (Rel σ)) (X : SSet σ) : Bool :=
  dom.all fun s => dom.all fun t => evs.all fun r => !(X s && r s t) || X t

theorem closedB_iff (dom : List σ) (evs : List (Rel σ)) (X : SSet σ) :
    closedB dom evs X = true ↔ ClosedIn dom (unionRel evs) X := by
  unfold closedB ClosedIn unionRel
  simp only [List.all_eq_true, List.any_eq_true, Bool.or_eq_true, Bool.not_eq_true', ← Bool.not_eq_true,
    ← Decidable.imp_iff_not_or, Bool.and_eq_true, and_imp]
  exact ⟨fun h s t hs ht hx ⟨r, hr, hrst⟩ => h s hs t ht r hr hx hrst,
    fun h s hs t ht r hr hx hrst => h s t hs ht hx ⟨r, hr, hrst⟩⟩

theorem filter_length_lt {l : List σ} {p q : σ → Bool}
    (hpq : ∀ x, x ∈ l → p x = true → q x = true) {a : σ} (ha : a ∈ l) (hqa : q a = true)
    (hpa : p a = false) : (l.filter p).length < (l.filter q).length := by
  rw [← List.countP_eq_length_filter, ← List.countP_eq_length_filter]
  induction l with
  | nil => cases ha
  | cons x rest ih =>
    have hrest : ∀ y, y ∈ rest → p y = true → q y = true :=
      fun y hy => hpq y (List.mem_cons_of_mem _ hy)
    have hle : rest.countP p ≤ rest.countP q := List.countP_mono_left hrest
    rw [List.countP_cons, List.countP_cons]
    rcases List.mem_cons.mp ha with rfl | hin
    · rw [if_pos hqa, if_neg (by rw [hpa]; exact Bool.false_ne_true)]
      exact Nat.lt_succ_of_le hle
    · have hlt := ih hrest hin
      by_cases hp : p x = true
      · rw [if_pos hp, if_pos (hpq x List.mem_cons_self hp)]
        exact Nat.succ_lt_succ hlt
      · rw [if_neg hp]
        exact Nat.lt_of_lt_of_le hlt (Nat.le_add_right _ _)

variable [DecidableEq σ]

/-- one attempted firing: event number `i`, from `s` to `t` -/
abbrev Firing (σ : Type) := Nat × σ × σ

/-- fire one step: `t` is added iff `s` is already in the set, event `i` has the pair `(s,t)` and `t`
    is a state of the domain; otherwise nothing happens -/
def fireStep (dom : List σ) (evs : List (Rel σ)) (X : SSet σ) (f : Firing σ) : SSet σ :=
  if X f.2.1 && (evs.getD f.1 emptyRel) f.2.1 f.2.2 && dom.contains f.2.2 then
    (fun u => u == f.2.2 || X u)
  else X

/-- saturation as chaotic iteration: ANY schedule of firings of the (per-level) event relations -/
def saturEvents (dom : List σ) (evs : List (Rel σ)) (sched : List (Firing σ)) (init : SSet σ) : SSet σ :=
  sched.foldl (fireStep dom evs) init

theorem fireStep_sound (dom : List σ) (evs : List (Rel σ)) (init : SSet σ) (X : SSet σ) (f : Firing σ)
    (hX : ∀ u, X u = true → Reach dom init (unionRel evs) u) :
    ∀ u, fireStep dom evs X f u = true → Reach dom init (unionRel evs) u := by
  intro u hu
  unfold fireStep at hu
  split at hu
  · rename_i hc
    simp only [Bool.and_eq_true, List.contains_eq_mem, decide_eq_true_eq] at hc
    obtain ⟨⟨hs, hr⟩, hd⟩ := hc
    simp only [Bool.or_eq_true, beq_iff_eq] at hu
    rcases hu with hu | hu
    · subst hu
      refine .step (hX _ hs) hd ?_
      rw [List.getD_eq_getElem?_getD] at hr
      cases he : evs[f.1]? with
      | none => rw [he] at hr; cases hr
      | some r =>
        rw [he] at hr
        exact List.any_eq_true.mpr ⟨r, List.mem_of_getElem? he, hr⟩
    · exact hX _ hu
  · exact hX _ hu

theorem fireStep_mono (dom : List σ) (evs : List (Rel σ)) (X : SSet σ) (f : Firing σ) (u : σ)
    (hu : X u = true) : fireStep dom evs X f u = true := by
  unfold fireStep
  split
  · simp [hu]
  · exact hu

theorem saturEvents_mono (dom : List σ) (evs : List (Rel σ)) (sched : List (Firing σ)) (X : SSet σ) (u : σ)
    (hu : X u = true) : saturEvents dom evs sched X u = true := by
  unfold saturEvents
  induction sched generalizing X with
  | nil => exact hu
  | cons f rest ih => exact ih (fireStep dom evs X f) (fireStep_mono dom evs X f u hu)

/-- soundness half of the chaotic-iteration lemma: whatever the schedule, only reachable states are added -/
theorem saturEvents_sound (dom : List σ) (evs : List (Rel σ)) (sched : List (Firing σ)) (init : SSet σ)
    (hinit : ∀ s, init s = true → s ∈ dom) :
    ∀ u, saturEvents dom evs sched init u = true → Reach dom init (unionRel evs) u := by
  have gen : ∀ X : SSet σ, (∀ u, X u = true → Reach dom init (unionRel evs) u) →
      ∀ u, sched.foldl (fireStep dom evs) X u = true → Reach dom init (unionRel evs) u := by
    induction sched with
    | nil => exact fun X hX => hX
    | cons f rest ih => exact fun X hX => ih _ (fireStep_sound dom evs init X f hX)
  exact gen init (fun u hu => .base (hinit u hu) hu)

/-! ### the executable least fixed point (specification used by the acceptor) -/

/-- one breadth-first round on member lists -/
def grow (dom : List σ) (R : Rel σ) (X : List σ) : List σ :=
  X ++ dom.filter (fun t => !X.contains t && X.any (fun s => R s t))

def reachIter (dom : List σ) (R : Rel σ) : Nat → List σ → List σ
  | 0, X => X
  | n+1, X => reachIter dom R n (grow dom R X)

/-- naive least fixed point: `|dom|` breadth-first rounds from the initial states -/
def reachFix (dom : List σ) (init : SSet σ) (R : Rel σ) : List σ :=
  reachIter dom R dom.length (dom.filter init)

variable (dom : List σ) (init : SSet σ) (R : Rel σ)

theorem grow_sound (X : List σ)
    (hX : ∀ u, u ∈ X → Reach dom init R u) : ∀ u, u ∈ grow dom R X → Reach dom init R u := by
  intro u hu
  unfold grow at hu
  rw [List.mem_append] at hu
  rcases hu with hu | hu
  · exact hX u hu
  · rw [List.mem_filter] at hu
    obtain ⟨hd, hc⟩ := hu
    simp only [Bool.and_eq_true, List.any_eq_true] at hc
    obtain ⟨_, s, hs, hr⟩ := hc
    exact .step (hX s hs) hd hr

theorem reachIter_sound (n : Nat) (X : List σ)
    (hX : ∀ u, u ∈ X → Reach dom init R u) : ∀ u, u ∈ reachIter dom R n X → Reach dom init R u := by
  induction n generalizing X with
  | zero => exact hX
  | succ n ih => exact ih (grow dom R X) (grow_sound dom init R X hX)

theorem subset_reachIter (n : Nat) (X : List σ) :
    ∀ u, u ∈ X → u ∈ reachIter dom R n X := by
  induction n generalizing X with
  | zero => intro u hu; exact hu
  | succ n ih => intro u hu; exact ih (grow dom R X) u (List.mem_append_left _ hu)

theorem grow_fix_closed (X : List σ) (h : grow dom R X = X) :
    ClosedIn dom R (fun u => X.contains u) := by
  intro s t _ ht hs hr
  refine Decidable.byContradiction fun hc => ?_
  -- otherwise `t` is a fresh successor, which `grow` appends
  have ht' : t ∈ grow dom R X := List.mem_append_right _ (List.mem_filter.mpr ⟨ht, by
    rw [show X.contains t = false from Bool.not_eq_true _ ▸ hc]; exact List.any_eq_true.mpr ⟨s, List.contains_iff_mem.mp hs, hr⟩⟩)
  rw [h] at ht'
  exact hc (List.contains_iff_mem.mpr ht')

theorem reachIter_fix (n : Nat) (X : List σ) (h : grow dom R X = X) : reachIter dom R n X = X := by
  induction n with
  | zero => rfl
  | succ n ih => unfold reachIter; rw [h]; exact ih

def missing (dom : List σ) (X : List σ) : Nat := (dom.filter (fun t => !X.contains t)).length

theorem missing_grow_lt (X : List σ) (h : grow dom R X ≠ X) :
    missing dom (grow dom R X) < missing dom X := by
  have hne : dom.filter (fun t => !X.contains t && X.any (fun s => R s t)) ≠ [] :=
    fun e => h (List.append_right_eq_self.mpr e)
  obtain ⟨a, ha⟩ := List.exists_mem_of_ne_nil _ hne
  obtain ⟨had, hac⟩ := List.mem_filter.mp ha
  rw [Bool.and_eq_true, Bool.not_eq_true'] at hac
  refine filter_length_lt (a := a) (fun x _ hx => ?_) had ?_ ?_
  · rw [Bool.not_eq_true', ← Bool.not_eq_true, List.contains_iff_mem] at hx ⊢
    exact fun h => hx (List.mem_append_left _ h)
  · rw [hac.1]; rfl
  · rw [show (grow dom R X).contains a = true from
      List.contains_iff_mem.mpr (List.mem_append_right _ ha)]; rfl

/-- every round that changes the list finds a missing state, so `missing` rounds suffice -/
theorem reachIter_closed (n : Nat) (X : List σ) (h : missing dom X ≤ n) :
    ClosedIn dom R (fun u => (reachIter dom R n X).contains u) := by
  induction n generalizing X with
  | zero =>
    exact grow_fix_closed dom R X (Decidable.byContradiction fun hne => by
      have := missing_grow_lt dom R X hne
      omega)
  | succ n ih =>
    unfold reachIter
    by_cases hs : grow dom R X = X
    · rw [hs, reachIter_fix dom R n X hs]
      exact grow_fix_closed dom R X hs
    · apply ih
      have := missing_grow_lt dom R X hs
      omega

end Generic

/-! ## Level part: states are tuples, index 0 = variable 1 (level k = index k-1) -/

abbrev State := List Nat
abbrev LRel := Rel State

/-- every state of the domain with the given variable sizes (bottom-up); variable 1 varies fastest,
    so position in this list = index in the library's set table -/
def allStates : List Nat → List State
  | [] => [[]]
  | n :: rest => (allStates rest).flatMap (fun s => (List.range n).map (fun x => x :: s))

def InDom : List Nat → State → Prop
  | [], [] => True
  | n :: rest, x :: s => x < n ∧ InDom rest s
  | _, _ => False

theorem mem_allStates (sizes : List Nat) (s : State) : s ∈ allStates sizes ↔ InDom sizes s := by
  induction sizes generalizing s with
  | nil => cases s <;> simp only [allStates, InDom, List.mem_singleton, reduceCtorEq]
  | cons n rest ih =>
    cases s with
    | nil =>
      simp only [allStates, InDom, List.mem_flatMap, List.mem_map, reduceCtorEq, and_false, exists_false]
    | cons x r =>
      simp only [allStates, InDom, List.mem_flatMap, List.mem_map, List.mem_range, List.cons.injEq]
      constructor
      · rintro ⟨s', hs', y, hy, e1, e2⟩
        subst e1; subst e2
        exact ⟨hy, (ih _).mp hs'⟩
      · rintro ⟨hx, hr⟩
        exact ⟨r, (ih _).mpr hr, x, hx, rfl, rfl⟩

theorem InDom.length {sizes : List Nat} {s : State} (h : InDom sizes s) : s.length = sizes.length := by
  induction sizes generalizing s with
  | nil => cases s with
    | nil => rfl
    | cons x r => exact h.elim
  | cons n rest ih => cases s with
    | nil => exact h.elim
    | cons x r => simp [ih h.2]

theorem InDom.lt {sizes : List Nat} {s : State} (h : InDom sizes s) (i : Nat) (hi : i < sizes.length) :
    s.getD i 0 < sizes.getD i 0 := by
  induction sizes generalizing s i with
  | nil => cases hi
  | cons n rest ih => cases s with
    | nil => exact h.elim
    | cons x r => cases i with
      | zero => exact h.1
      | succ i => simpa using ih h.2 i (Nat.lt_of_succ_lt_succ hi)

theorem InDom.set {sizes : List Nat} {s : State} (h : InDom sizes s) (i x : Nat)
    (hx : x < sizes.getD i 0) : InDom sizes (s.set i x) := by
  induction sizes generalizing s i with
  | nil => cases s with
    | nil => exact h
    | cons y r => exact h.elim
  | cons n rest ih => cases s with
    | nil => exact h.elim
    | cons y r => cases i with
      | zero => exact ⟨hx, h.2⟩
      | succ i => exact ⟨h.1, ih h.2 i (by simpa using hx)⟩

theorem getD_set_eq (s : State) (i x : Nat) (h : i < s.length) : (s.set i x).getD i 0 = x := by
  simp [List.getD_eq_getElem?_getD, h]

theorem getD_set_ne (s : State) (i j x : Nat) (h : i ≠ j) : (s.set i x).getD j 0 = s.getD j 0 := by
  simp [List.getD_eq_getElem?_getD, List.getElem?_set_ne h]

theorem set_getD_self (s : State) (i : Nat) : s.set i (s.getD i 0) = s := by
  induction s generalizing i with
  | nil => rfl
  | cons a r ih => cases i with
    | zero => rfl
    | succ i => simp [List.set, List.getD_eq_getElem?_getD]; simpa [List.getD_eq_getElem?_getD] using ih i

theorem getD_of_le (s : State) (i : Nat) (h : s.length ≤ i) : s.getD i 0 = 0 := by
  simp [List.getD_eq_getElem?_getD, h]

def REq (sizes : List Nat) (a b : LRel) : Prop :=
  ∀ s t, s ∈ allStates sizes → t ∈ allStates sizes → a s t = b s t

/-- every pair of `r` is the identity on the variables with index ≥ m (levels above m) -/
def IdAbove (sizes : List Nat) (m : Nat) (r : LRel) : Prop :=
  ∀ s t, s ∈ allStates sizes → t ∈ allStates sizes → r s t = true → ∀ j, m ≤ j → s.getD j 0 = t.getD j 0

/-- membership in `r` does not depend on the (common) value of a variable with index ≥ m -/
def IndepAbove (sizes : List Nat) (m : Nat) (r : LRel) : Prop :=
  ∀ s t, s ∈ allStates sizes → t ∈ allStates sizes → r s t = true →
    ∀ j, m ≤ j → ∀ x, x < sizes.getD j 0 → r (s.set j x) (t.set j x) = true

/-- `r` = (identity on the levels above m) × (a relation on the levels 1..m): exactly the relations an
    identity-reduced forest can represent with a root node at level ≤ m -/
def Fits (sizes : List Nat) (m : Nat) (r : LRel) : Prop := IdAbove sizes m r ∧ IndepAbove sizes m r

theorem Fits.mono {sizes : List Nat} {m m' : Nat} {r : LRel} (h : Fits sizes m r) (hm : m ≤ m') :
    Fits sizes m' r :=
  ⟨fun s t hs ht hr j hj => h.1 s t hs ht hr j (Nat.le_trans hm hj),
   fun s t hs ht hr j hj x hx => h.2 s t hs ht hr j (Nat.le_trans hm hj) x hx⟩

theorem fits_of_empty (sizes : List Nat) (m : Nat) (r : LRel) (h : REq sizes r emptyRel) : Fits sizes m r := by
  constructor <;> (intro s t hs ht hr; rw [h s t hs ht] at hr; cases hr)

section
variable {sizes : List Nat} {m : Nat}

theorem fits_empty : Fits sizes m emptyRel :=
  fits_of_empty sizes m emptyRel (fun _ _ _ _ => rfl)

theorem length_of_mem {s : State} (hs : s ∈ allStates sizes) :
    s.length = sizes.length :=
  ((mem_allStates sizes s).mp hs).length

/-- only the variables that exist have to be looked at: beyond them every state reads 0 and there is no
    value to set -/
theorem fits_of_lt {r : LRel}
    (h : ∀ s t, s ∈ allStates sizes → t ∈ allStates sizes → r s t = true →
      ∀ j, m ≤ j → j < sizes.length → s.getD j 0 = t.getD j 0 ∧
        ∀ x, x < sizes.getD j 0 → r (s.set j x) (t.set j x) = true) : Fits sizes m r := by
  constructor
  · intro s t hs ht hr j hj
    by_cases hjl : j < sizes.length
    · exact (h s t hs ht hr j hj hjl).1
    · rw [getD_of_le s j (by rw [length_of_mem hs]; omega),
        getD_of_le t j (by rw [length_of_mem ht]; omega)]
  · intro s t hs ht hr j hj x hx
    by_cases hjl : j < sizes.length
    · exact (h s t hs ht hr j hj hjl).2 x hx
    · rw [getD_of_le sizes j (by omega)] at hx
      exact absurd hx (Nat.not_lt_zero _)

/-- every pointwise combination of two relations that fit a level fits it (union, intersection, difference) -/
theorem fits_pointwise (f : Bool → Bool → Bool) (hf : f false false = false) {a b : LRel} (ha : Fits sizes m a) (hb : Fits sizes m b) :
    Fits sizes m (fun s t => f (a s t) (b s t)) := by
  refine fits_of_lt (fun s t hs ht hr j hj hjl => ?_)
  have hst : s.getD j 0 = t.getD j 0 := by
    cases h1 : a s t with
    | true => exact ha.1 s t hs ht h1 j hj
    | false =>
      cases h2 : b s t with
      | true => exact hb.1 s t hs ht h2 j hj
      | false => rw [h1, h2, hf] at hr; cases hr
  refine ⟨hst, fun x hx => ?_⟩
  have hsd := (mem_allStates sizes s).mp hs
  -- membership in a fitting relation is unchanged by the update: forth by independence, back by setting the
  -- variable to its old value again (the difference needs both directions)
  have inv : ∀ {c : LRel}, Fits sizes m c → c (s.set j x) (t.set j x) = c s t := fun hc =>
    Bool.eq_iff_iff.mpr ⟨fun h => by
      have hback := hc.2 _ _ ((mem_allStates _ _).mpr (hsd.set j x hx))
        ((mem_allStates _ _).mpr (((mem_allStates sizes t).mp ht).set j x hx)) h j hj (s.getD j 0) (hsd.lt j hjl)
      rw [List.set_set, List.set_set, set_getD_self, hst, set_getD_self] at hback
      exact hback, fun h => hc.2 s t hs ht h j hj x hx⟩
  rw [inv ha, inv hb]
  exact hr

theorem Fits.union {a b : LRel} (ha : Fits sizes m a) (hb : Fits sizes m b) :
    Fits sizes m (runion a b) :=
  fits_pointwise or rfl ha hb

theorem Fits.diff {a b : LRel} (ha : Fits sizes m a) (hb : Fits sizes m b) :
    Fits sizes m (rdiff a b) :=
  fits_pointwise (fun p q => p && !q) rfl ha hb

theorem fits_unionRel {evs : List LRel}
    (h : ∀ r, r ∈ evs → Fits sizes m r) : Fits sizes m (unionRel evs) := by
  induction evs with
  | nil => exact fits_empty
  | cons r evs ih =>
    exact (h r List.mem_cons_self).union (ih fun r' hr' => h r' (List.mem_cons_of_mem _ hr'))

theorem fits_top (r : LRel) : Fits sizes sizes.length r :=
  fits_of_lt (fun _ _ _ _ _ _ hj hjl => absurd hjl (Nat.not_lt.mpr hj))

theorem fits_zero_selfloops {r : LRel} (h : Fits sizes 0 r) :
    ∀ s t, s ∈ allStates sizes → t ∈ allStates sizes → r s t = true → s = t :=
  fun s t hs ht hr => DD.list_ext_getD s t 0 ((length_of_mem hs).trans (length_of_mem ht).symm)
    (fun i _ => h.1 s t hs ht hr i (Nat.zero_le _))

end

theorem Fits.inter {sizes : List Nat} {m : Nat} {a b : LRel} (ha : Fits sizes m a) (hb : Fits sizes m b) :
    Fits sizes m (rinter a b) :=
  fits_pointwise and rfl ha hb

def fitsB (sizes : List Nat) (m : Nat) (r : LRel) : Bool :=
  (allStates sizes).all fun s => (allStates sizes).all fun t =>
    !r s t || (List.range sizes.length).all fun j =>
      decide (j < m) || (s.getD j 0 == t.getD j 0 &&
        (List.range (sizes.getD j 0)).all fun x => r (s.set j x) (t.set j x))

theorem fitsB_iff (sizes : List Nat) (m : Nat) (r : LRel) : fitsB sizes m r = true ↔ Fits sizes m r := by
  unfold fitsB
  simp only [List.all_eq_true, Bool.or_eq_true, Bool.not_eq_true', ← Bool.not_eq_true,
    ← Decidable.imp_iff_not_or, Bool.and_eq_true, beq_iff_eq, decide_eq_true_eq, List.mem_range]
  simp only [Decidable.or_iff_not_imp_left, Nat.not_lt]
  exact ⟨fun h => fits_of_lt (fun s t hs ht hr j hj hjl => h s hs t ht hr j hjl hj),
    fun h s hs t ht hr j _ hj => ⟨h.1 s t hs ht hr j hj, h.2 s t hs ht hr j hj⟩⟩

/-- least `i` in `start .. start+fuel` with `p i`, else `start+fuel` -/
def leastFrom (p : Nat → Bool) : Nat → Nat → Nat
  | 0, start => start
  | fuel+1, start => if p start then start else leastFrom p fuel (start+1)

theorem leastFrom_bounds (p : Nat → Bool) (fuel start : Nat) :
    start ≤ leastFrom p fuel start ∧ leastFrom p fuel start ≤ start + fuel := by
  induction fuel generalizing start with
  | zero => exact ⟨Nat.le_refl _, Nat.le_refl _⟩
  | succ f ih =>
    unfold leastFrom
    split
    · omega
    · have := ih (start+1); omega

theorem leastFrom_ge (p : Nat → Bool) (fuel start : Nat) : start ≤ leastFrom p fuel start :=
  (leastFrom_bounds p fuel start).1

theorem leastFrom_spec (p : Nat → Bool) (fuel start : Nat) (h : p (start + fuel) = true) :
    p (leastFrom p fuel start) = true := by
  induction fuel generalizing start with
  | zero => exact h
  | succ f ih =>
    unfold leastFrom
    split
    · assumption
    · apply ih; rw [← h]; congr 1; omega

theorem leastFrom_min (p : Nat → Bool) (fuel start m : Nat) (hm : p m = true) (h1 : start ≤ m) :
    leastFrom p fuel start ≤ m := by
  induction fuel generalizing start with
  | zero => exact h1
  | succ f ih =>
    unfold leastFrom
    split
    · exact h1
    · rename_i hp
      apply ih
      cases Nat.eq_or_lt_of_le h1 with
      | inl e => subst e; exact absurd hm hp
      | inr h => exact h

/-- the level `ABS(r.getLevel())` of the root node of `r` in an identity-reduced forest: the least m such
    that `r` fits level m (0 for the empty relation and for the identity) -/
def topOf (sizes : List Nat) (r : LRel) : Nat := leastFrom (fun m => fitsB sizes m r) sizes.length 0

theorem topOf_le (sizes : List Nat) (r : LRel) : topOf sizes r ≤ sizes.length := by
  have := (leastFrom_bounds (fun m => fitsB sizes m r) sizes.length 0).2; unfold topOf; omega

theorem topOf_fits (sizes : List Nat) (r : LRel) : Fits sizes (topOf sizes r) r := by
  rw [← fitsB_iff]
  unfold topOf
  apply leastFrom_spec (fun m => fitsB sizes m r)
  rw [Nat.zero_add, fitsB_iff]
  exact fits_top r

theorem topOf_min (sizes : List Nat) (r : LRel) (m : Nat) (h : Fits sizes m r) : topOf sizes r ≤ m := by
  unfold topOf
  exact leastFrom_min (fun m => fitsB sizes m r) _ 0 m ((fitsB_iff sizes m r).mpr h) (Nat.zero_le _)

/-- `arrayForLevel(k)` after `finalize()` of a "by events" relation: the events whose root is at level k,
    most recently added first; `addToRelation` drops events whose root is a terminal (level 0) -/
def finalizeByEvents (sizes : List Nat) (evs : List LRel) (k : Nat) : List LRel :=
  if k = 0 then [] else (evs.filter (fun r => topOf sizes r == k)).reverse

/-- the levels in the order the saturation visits the buckets of the sorted array: K, K-1, …, 1 -/
def levelsDownTo1 (K : Nat) : List Nat := ((List.range K).map (· + 1)).reverse

theorem mem_levelsDownTo1 (K k : Nat) : k ∈ levelsDownTo1 K ↔ 1 ≤ k ∧ k ≤ K := by
  unfold levelsDownTo1
  simp only [List.mem_reverse, List.mem_map, List.mem_range]
  constructor
  · rintro ⟨a, ha, rfl⟩; omega
  · intro h; exact ⟨k-1, by omega, by omega⟩

/-- everything the saturation gets to see of a "by events" relation -/
def eventsInput (sizes : List Nat) (evs : List LRel) : List LRel :=
  (levelsDownTo1 sizes.length).flatMap (finalizeByEvents sizes evs)

theorem mem_eventsInput (sizes : List Nat) (evs : List LRel) (r : LRel) :
    r ∈ eventsInput sizes evs ↔ r ∈ evs ∧ topOf sizes r ≠ 0 := by
  unfold eventsInput finalizeByEvents
  simp only [List.mem_flatMap, mem_levelsDownTo1]
  constructor
  · rintro ⟨k, ⟨hk1, _⟩, hr⟩
    rw [if_neg (by omega)] at hr
    simp only [List.mem_reverse, List.mem_filter, beq_iff_eq] at hr
    exact ⟨hr.1, by omega⟩
  · rintro ⟨hr, hne⟩
    refine ⟨topOf sizes r, ⟨by omega, topOf_le sizes r⟩, ?_⟩
    rw [if_neg hne]
    simp only [List.mem_reverse, List.mem_filter, beq_iff_eq]
    exact ⟨hr, trivial⟩

/-- the `events[0..K]` array of a "by levels" relation -/
abbrev Lv := Nat → LRel

def upd (L : Lv) (k : Nat) (r : LRel) : Lv := fun j => if j = k then r else L j

/-- `addToRelation` by levels: `events[k] = events[k] ∪ r` with k the root level; k = 0 is dropped -/
def mergeByLevels (sizes : List Nat) (evs : List LRel) : Lv :=
  fun k => if k = 0 then emptyRel else unionRel (evs.filter (fun r => topOf sizes r == k))

def unionLv (K : Nat) (L : Lv) : LRel := fun s t => (List.range (K+1)).any (fun k => L k s t)

theorem unionLv_iff (K : Nat) (L : Lv) (s t : State) :
    unionLv K L s t = true ↔ ∃ k, k ≤ K ∧ L k s t = true := by
  unfold unionLv
  simp only [List.any_eq_true, List.mem_range, Nat.lt_succ_iff]

/-- the relations of levels 1..K, as handed to the saturation (`arrayForLevel`, `lengthForLevel`) -/
def levelsInput (K : Nat) (L : Lv) : List LRel := (levelsDownTo1 K).map L

/-- `maxDiag` of `splitMxd` at the variable with index i (level i+1): the intersection over all values x of
    the (x,x) entry of the matrix, read as a relation that leaves the variable unchanged -/
def commonDiagAt (sizes : List Nat) (i : Nat) (r : LRel) : LRel :=
  fun s t => s.getD i 0 == t.getD i 0 &&
    (List.range (sizes.getD i 0)).all fun x => r (s.set i x) (t.set i x)

def isEmptyB (sizes : List Nat) (r : LRel) : Bool :=
  (allStates sizes).all fun s => (allStates sizes).all fun t => !r s t

inductive SplitOpt where
  | None | SplitOnly | SplitSubtract | SplitSubtractAll | MonolithicSplit
  deriving DecidableEq, Repr

/-- one round of the main loop of `splitMxd` at level k (2 ≤ k ≤ K) -/
def splitStep (sizes : List Nat) (opt : SplitOpt) (L : Lv) (k : Nat) : Lv :=
  let d := commonDiagAt sizes (k-1) (L k)
  if isEmptyB sizes d then L                       -- `if (0 == maxDiag.getNode()) continue;`
  else
    let L1 := if opt = .SplitOnly then upd L k (rdiff (L k) d) else L
    let m := topOf sizes d                         -- `ABS(maxDiag.getLevel())`
    let L2 := upd L1 m (runion d (L1 m))
    if opt = .SplitSubtract then upd L2 k (rdiff (L2 k) (L2 m)) else L2

/-- K, K-1, …, 2 -/
def levelsDownTo2 (K : Nat) : List Nat := ((List.range (K-1)).map (· + 2)).reverse

theorem mem_levelsDownTo2 (K k : Nat) : k ∈ levelsDownTo2 K ↔ 2 ≤ k ∧ k ≤ K := by
  unfold levelsDownTo2
  simp only [List.mem_reverse, List.mem_map, List.mem_range]
  constructor
  · rintro ⟨a, ha, rfl⟩; omega
  · intro h; exact ⟨k-2, by omega, by omega⟩

def splitLoop (sizes : List Nat) (opt : SplitOpt) (L : Lv) : Lv :=
  (levelsDownTo2 sizes.length).foldl (splitStep sizes opt) L

/-- the closing double loop of SplitSubtractAll: for i = 1..K-1, for j = i+1..K: events[j] -= events[i] -/
def subtractAll (K : Nat) (L : Lv) : Lv :=
  (List.range (K-1)).foldl (fun L i0 =>
    (List.range (K - (i0+1))).foldl (fun L j0 => upd L (i0+2+j0) (rdiff (L (i0+2+j0)) (L (i0+1)))) L) L

/-- `unionLevels`: u = events[1] ∪ … ∪ events[K]; all cleared; events[ABS(level u)] = u -/
def unionLevels (sizes : List Nat) (L : Lv) : Lv :=
  let K := sizes.length
  let u : LRel := fun s t => (List.range K).any (fun k0 => L (k0+1) s t)
  let cleared : Lv := fun k => if 1 ≤ k ∧ k ≤ K then emptyRel else L k
  upd cleared (topOf sizes u) u

/-- `finalize(opt)` of a "by levels" relation -/
def finalizeLevels (sizes : List Nat) (opt : SplitOpt) (L : Lv) : Lv :=
  match opt with
  | .None => L
  | .SplitOnly => splitLoop sizes .SplitOnly L
  | .SplitSubtract => splitLoop sizes .SplitSubtract L
  | .SplitSubtractAll => subtractAll sizes.length (splitLoop sizes .SplitSubtractAll L)
  | .MonolithicSplit => splitLoop sizes .SplitOnly (unionLevels sizes L)

def WF (sizes : List Nat) (L : Lv) : Prop := ∀ k, k ≤ sizes.length → Fits sizes k (L k)

def SameUnion (sizes : List Nat) (L L' : Lv) : Prop :=
  ∀ s t, s ∈ allStates sizes → t ∈ allStates sizes →
    (unionLv sizes.length L s t = unionLv sizes.length L' s t)

theorem isEmptyB_iff (sizes : List Nat) (r : LRel) : isEmptyB sizes r = true ↔ REq sizes r emptyRel := by
  unfold isEmptyB REq emptyRel
  simp only [List.all_eq_true, Bool.not_eq_true']
  exact ⟨fun h s t hs ht => h s hs t ht, fun h s hs t ht => h s t hs ht⟩

section
variable {sizes : List Nat}

theorem SameUnion.refl (L : Lv) : SameUnion sizes L L := fun _ _ _ _ => rfl
theorem SameUnion.trans {A B C : Lv} (h1 : SameUnion sizes A B) (h2 : SameUnion sizes B C) :
    SameUnion sizes A C := fun s t hs ht => (h1 s t hs ht).trans (h2 s t hs ht)

/-- `A` is `B` regrouped: the same union of the levels, and every level of `A` fits -/
abbrev Regroups (sizes : List Nat) (A B : Lv) : Prop := SameUnion sizes A B ∧ WF sizes A

theorem Regroups.refl {L : Lv} (hwf : WF sizes L) : Regroups sizes L L :=
  ⟨SameUnion.refl _, hwf⟩
theorem Regroups.trans {A B C : Lv} (h1 : Regroups sizes A B) (h2 : Regroups sizes B C) :
    Regroups sizes A C := ⟨h1.1.trans h2.1, h1.2⟩

theorem upd_same (L : Lv) (k : Nat) (r : LRel) : upd L k r k = r := if_pos rfl
theorem upd_other (L : Lv) (k j : Nat) (r : LRel) (h : j ≠ k) : upd L k r j = L j := if_neg h

theorem upd_comm (L : Lv) {k m : Nat} (h : k ≠ m) (a b : LRel) :
    upd (upd L k a) m b = upd (upd L m b) k a := by
  funext j
  unfold upd
  by_cases e : j = m
  · rw [if_pos e, if_neg (fun e' => h (e'.symm.trans e)), if_pos e]
  · rw [if_neg e, if_neg e]

theorem diff_or {a b c : Bool} (h : c = true → b = true) : ((a && !c) || b) = (a || b) := by
  cases c
  · rw [Bool.not_false, Bool.and_true]
  · rw [h rfl, Bool.or_true, Bool.or_true]

theorem or_or_of_imp {a b c : Bool} (h : c = true → a = true) : ((c || b) || a) = (b || a) := by
  cases c
  · rw [Bool.false_or]
  · rw [h rfl, Bool.or_true, Bool.or_true]

/-- The one move every splitting option is made of: level `k` is overwritten by `r` (fitting level `k`),
    and together with some other level `m` it holds the same pairs as before.  The union of the levels and
    the level invariant are kept. -/
theorem upd_ok {L : Lv} {k m : Nat} (hwf : WF sizes L) (hk : k ≤ sizes.length)
    (hm : m ≤ sizes.length) (hmk : m ≠ k) (r : LRel) (hr : Fits sizes k r)
    (hor : ∀ s t, s ∈ allStates sizes → t ∈ allStates sizes → (r s t || L m s t) = (L k s t || L m s t)) :
    Regroups sizes (upd L k r) L := by
  refine ⟨fun s t hs ht => Bool.eq_iff_iff.mpr ?_, fun j hj => ?_⟩
  · have hh := hor s t hs ht
    rw [unionLv_iff, unionLv_iff]
    constructor
    · rintro ⟨j, hj, h⟩
      by_cases e : j = k
      · rw [e, upd_same] at h
        rw [h, Bool.true_or] at hh
        rcases (Bool.or_eq_true _ _).mp hh.symm with h' | h'
        · exact ⟨k, hk, h'⟩
        · exact ⟨m, hm, h'⟩
      · rw [upd_other _ _ _ _ e] at h; exact ⟨j, hj, h⟩
    · rintro ⟨j, hj, h⟩
      by_cases e : j = k
      · rw [e] at h
        rw [h, Bool.true_or] at hh
        rcases (Bool.or_eq_true _ _).mp hh with h' | h'
        · exact ⟨k, hk, by rw [upd_same]; exact h'⟩
        · exact ⟨m, hm, by rw [upd_other _ _ _ _ hmk]; exact h'⟩
      · exact ⟨j, hj, by rw [upd_other _ _ _ _ e]; exact h⟩
  · by_cases e : j = k
    · rw [e, upd_same]; exact hr
    · rw [upd_other _ _ _ _ e]; exact hwf j hj

theorem subtract_ok {L : Lv} {k m : Nat} (hwf : WF sizes L) (hk : k ≤ sizes.length)
    (hm : m ≤ sizes.length) (hmk : m ≠ k) (c : LRel) (hc : Fits sizes k c)
    (hcm : ∀ s t, s ∈ allStates sizes → t ∈ allStates sizes → c s t = true → L m s t = true) :
    Regroups sizes (upd L k (rdiff (L k) c)) L :=
  upd_ok hwf hk hm hmk _ ((hwf k hk).diff hc) (fun s t hs ht => diff_or (hcm s t hs ht))

theorem commonDiag_sub (i : Nat) (hi : i < sizes.length) (r : LRel) (s t : State)
    (hs : s ∈ allStates sizes) (h : commonDiagAt sizes i r s t = true) : r s t = true := by
  unfold commonDiagAt at h
  simp only [Bool.and_eq_true, beq_iff_eq, List.all_eq_true, List.mem_range] at h
  have hsd := (mem_allStates sizes s).mp hs
  have := h.2 (s.getD i 0) (hsd.lt i hi)
  rw [set_getD_self] at this
  rw [h.1, set_getD_self] at this
  exact this

theorem commonDiag_fits (i : Nat) (hi : i < sizes.length) (r : LRel)
    (hr : Fits sizes (i+1) r) : Fits sizes i (commonDiagAt sizes i r) := by
  refine fits_of_lt (fun s t hs ht hd j hj _ => ?_)
  have hsd := (mem_allStates sizes s).mp hs
  have htd := (mem_allStates sizes t).mp ht
  have hd' := hd
  unfold commonDiagAt at hd' ⊢
  simp only [Bool.and_eq_true, beq_iff_eq, List.all_eq_true, List.mem_range] at hd' ⊢
  by_cases e : j = i
  · subst e
    refine ⟨hd'.1, fun x _ => ⟨?_, fun y hy => ?_⟩⟩
    · rw [getD_set_eq s j x (by rw [hsd.length]; exact hi),
        getD_set_eq t j x (by rw [htd.length]; exact hi)]
    · rw [List.set_set, List.set_set]
      exact hd'.2 y hy
  · have hrst := commonDiag_sub i hi r s t hs hd
    refine ⟨hr.1 s t hs ht hrst j (by omega), fun x hx => ⟨?_, fun y hy => ?_⟩⟩
    · rw [getD_set_ne s j i x e, getD_set_ne t j i x e]; exact hd'.1
    · rw [List.set_comm x y e, List.set_comm x y e]
      exact hr.2 _ _ ((mem_allStates _ _).mpr (hsd.set i y hy))
        ((mem_allStates _ _).mpr (htd.set i y hy)) (hd'.2 y hy) j (by omega) x hx

/-- one round of `splitMxd` keeps the union of the levels and the level invariant: the common diagonal `d`
    of level `k` is added to the level `m < k` of its root, and (depending on the option) `d`, or all of the
    new level `m`, is subtracted from level `k` -/
theorem splitStep_ok (opt : SplitOpt) (L : Lv) (k : Nat) (hk2 : 2 ≤ k) (hkK : k ≤ sizes.length)
    (hwf : WF sizes L) : Regroups sizes (splitStep sizes opt L k) L := by
  unfold splitStep
  simp only
  split
  · exact .refl hwf
  · have hi : k - 1 < sizes.length := by omega
    have hfitk : Fits sizes (k-1+1) (L k) := by rw [Nat.sub_add_cancel (by omega)]; exact hwf k hkK
    have hdfit := commonDiag_fits (k-1) hi (L k) hfitk
    have hmle : topOf sizes (commonDiagAt sizes (k-1) (L k)) ≤ k - 1 := topOf_min _ _ _ hdfit
    have hmfit := topOf_fits sizes (commonDiagAt sizes (k-1) (L k))
    have hsub := commonDiag_sub (k-1) hi (L k)
    generalize commonDiagAt sizes (k-1) (L k) = d at *
    generalize topOf sizes d = m at *
    have hmk : m ≠ k := by omega
    have hmK : m ≤ sizes.length := by omega
    have hadd := upd_ok hwf hmK hkK hmk.symm (runion d (L m)) (hmfit.union (hwf m hmK))
      (fun s t hs _ => or_or_of_imp (hsub s t hs))
    by_cases h1 : opt = .SplitOnly
    · subst h1
      simp only [if_true, reduceCtorEq, if_false]
      rw [upd_other _ _ _ _ hmk, upd_comm L hmk.symm]
      have hsubt := subtract_ok hadd.2 hkK hmK hmk d (hdfit.mono (by omega))
        (fun s t _ _ h => by rw [upd_same]; exact (Bool.or_eq_true _ _).mpr (.inl h))
      rw [upd_other _ _ _ _ hmk.symm] at hsubt
      exact hsubt.trans hadd
    · rw [if_neg h1]
      by_cases h2 : opt = .SplitSubtract
      · rw [if_pos h2]
        have hsubt := subtract_ok hadd.2 hkK hmK hmk _ ((hadd.2 m hmK).mono (by omega))
          (fun _ _ _ _ h => h)
        exact hsubt.trans hadd
      · rw [if_neg h2]; exact hadd

theorem foldl_ok {α : Type} (f : Lv → α → Lv) (l : List α)
    (hstep : ∀ A x, x ∈ l → WF sizes A → Regroups sizes (f A x) A)
    (L : Lv) (hwf : WF sizes L) : Regroups sizes (l.foldl f L) L := by
  induction l generalizing L with
  | nil => exact .refl hwf
  | cons x rest ih =>
    have hx := hstep L x List.mem_cons_self hwf
    exact (ih (fun B y hy => hstep B y (List.mem_cons_of_mem _ hy)) _ hx.2).trans hx

theorem splitLoop_ok (opt : SplitOpt) (L : Lv) (hwf : WF sizes L) :
    Regroups sizes (splitLoop sizes opt L) L :=
  foldl_ok _ _ (fun A k hk hA =>
    splitStep_ok opt A k ((mem_levelsDownTo2 _ _).mp hk).1 ((mem_levelsDownTo2 _ _).mp hk).2 hA) L hwf

theorem subtractAll_ok (L : Lv) (hwf : WF sizes L) :
    Regroups sizes (subtractAll sizes.length L) L := by
  refine foldl_ok _ _ (fun A i0 hi0 hA => ?_) L hwf
  refine foldl_ok _ _ (fun B j0 hj0 hB => ?_) A hA
  rw [List.mem_range] at hi0 hj0
  exact subtract_ok hB (k := i0+2+j0) (m := i0+1) (by omega) (by omega) (by omega) _
    ((hB (i0+1) (by omega)).mono (by omega)) (fun _ _ _ _ h => h)

/-- `unionLevels` keeps the union (level 0 must be empty: it is not part of `u` but may be overwritten) -/
theorem unionLevels_ok (L : Lv) (hwf : WF sizes L) (h0 : REq sizes (L 0) emptyRel) :
    Regroups sizes (unionLevels sizes L) L := by
  unfold unionLevels
  simp only
  generalize hu : (fun s t => (List.range sizes.length).any (fun k0 => L (k0+1) s t) : LRel) = u
  have hu_iff : ∀ s t, u s t = true ↔ ∃ k, 1 ≤ k ∧ k ≤ sizes.length ∧ L k s t = true := by
    intro s t
    rw [← hu]
    simp only [List.any_eq_true, List.mem_range]
    constructor
    · rintro ⟨k0, hk0, h⟩; exact ⟨k0+1, by omega, by omega, h⟩
    · rintro ⟨_ | k, h1, h2, h⟩
      · cases h1
      · exact ⟨k, h2, h⟩
  have hm := topOf_le sizes u
  constructor
  · intro s t hs ht
    apply Bool.eq_iff_iff.mpr
    rw [unionLv_iff, unionLv_iff]
    constructor
    · rintro ⟨j, hj, hr⟩
      by_cases e : j = topOf sizes u
      · rw [e, upd_same] at hr
        obtain ⟨k, _, hk, h⟩ := (hu_iff s t).mp hr
        exact ⟨k, hk, h⟩
      · rw [upd_other _ _ _ _ e] at hr
        by_cases hj1 : 1 ≤ j ∧ j ≤ sizes.length
        · rw [if_pos hj1] at hr; cases hr
        · rw [if_neg hj1] at hr; exact ⟨j, hj, hr⟩
    · rintro ⟨j, hj, hr⟩
      by_cases hj0 : j = 0
      · subst hj0; rw [h0 s t hs ht] at hr; cases hr
      · refine ⟨topOf sizes u, hm, ?_⟩
        rw [upd_same]
        exact (hu_iff s t).mpr ⟨j, by omega, hj, hr⟩
  · intro j hj
    by_cases e : j = topOf sizes u
    · rw [e, upd_same]; exact topOf_fits sizes u
    · rw [upd_other _ _ _ _ e]
      by_cases hj1 : 1 ≤ j ∧ j ≤ sizes.length
      · rw [if_pos hj1]; exact fits_empty
      · rw [if_neg hj1]; exact hwf j hj

theorem finalizeLevels_ok (opt : SplitOpt) (L : Lv) (hwf : WF sizes L)
    (h0 : REq sizes (L 0) emptyRel) :
    Regroups sizes (finalizeLevels sizes opt L) L := by
  cases opt with
  | None => exact .refl hwf
  | SplitOnly => exact splitLoop_ok _ L hwf
  | SplitSubtract => exact splitLoop_ok _ L hwf
  | SplitSubtractAll =>
    have h1 := splitLoop_ok .SplitSubtractAll L hwf
    exact (subtractAll_ok _ h1.2).trans h1
  | MonolithicSplit =>
    have h1 := unionLevels_ok L hwf h0
    exact (splitLoop_ok .SplitOnly _ h1.2).trans h1

end

/-! ### optional: the repair proposed for finding F11 (not in the library today)

`finalize()` by levels would end with: for k = K..1, if the root of `events[k]` is at a level m ≠ k, then
`events[m] ∪= events[k]; events[k] = ∅`.  The acceptor applies this step only when the harness announces
`pcfg renorm 1`. -/

def renormStep (sizes : List Nat) (L : Lv) (k : Nat) : Lv :=
  let m := topOf sizes (L k)
  if m = k then L else upd (upd L m (runion (L m) (L k))) k emptyRel

def renormLevels (sizes : List Nat) (L : Lv) : Lv :=
  (levelsDownTo1 sizes.length).foldl (renormStep sizes) L

theorem renormStep_ok (sizes : List Nat) (L : Lv) (k : Nat) (hkK : k ≤ sizes.length) (hwf : WF sizes L) :
    Regroups sizes (renormStep sizes L k) L := by
  unfold renormStep
  simp only
  split
  · exact .refl hwf
  · rename_i hne
    have hmle : topOf sizes (L k) ≤ k := topOf_min _ _ _ (hwf k hkK)
    have hmfit := topOf_fits sizes (L k)
    generalize topOf sizes (L k) = m at *
    have hmK : m ≤ sizes.length := by omega
    have hkm : k ≠ m := fun e => hne e.symm
    have hadd := upd_ok hwf hmK hkK hkm (runion (L m) (L k)) ((hwf m hmK).union hmfit)
      (fun s t _ _ => by
        show ((L m s t || L k s t) || L k s t) = (L m s t || L k s t)
        rw [Bool.or_assoc, Bool.or_self])
    have hclr := upd_ok hadd.2 hkK hmK hne emptyRel fits_empty
      (fun s t _ _ => by
        rw [upd_same, upd_other _ _ _ _ hkm]
        show (false || (L m s t || L k s t)) = (L k s t || (L m s t || L k s t))
        rw [Bool.false_or, Bool.or_left_comm, Bool.or_self])
    exact hclr.trans hadd

/-- The re-bucketing step proposed as the repair of finding F11 (move what is stored at level k to the level
    of its root) keeps the union of the levels and the level invariant. -/
theorem renormLevels_ok (sizes : List Nat) (L : Lv) (hwf : WF sizes L) :
    SameUnion sizes (renormLevels sizes L) L ∧ WF sizes (renormLevels sizes L) :=
  foldl_ok _ _ (fun A k hk hA => renormStep_ok sizes A k ((mem_levelsDownTo1 _ _).mp hk).2 hA) L hwf

theorem mergeByLevels_wf (sizes : List Nat) (evs : List LRel) : WF sizes (mergeByLevels sizes evs) := by
  intro k _
  unfold mergeByLevels
  split
  · exact fits_empty
  · refine fits_unionRel (fun r hr => ?_)
    rw [← beq_iff_eq.mp (List.mem_filter.mp hr).2]; exact topOf_fits sizes r

theorem finalize_merge_ok (sizes : List Nat) (opt : SplitOpt) (evs : List LRel) :
    Regroups sizes (finalizeLevels sizes opt (mergeByLevels sizes evs)) (mergeByLevels sizes evs) :=
  finalizeLevels_ok opt _ (mergeByLevels_wf sizes evs) (fun _ _ _ _ => by simp [mergeByLevels])

/-- x1: 0→1, x2 unchanged (root at level 1) -/
def exMove1 : LRel := fun s t => s.getD 0 0 == 0 && t.getD 0 0 == 1 && s.getD 1 0 == t.getD 1 0
/-- x2: 0→1, x1 unchanged (root at level 2) -/
def exMove2 : LRel := fun s t => s.getD 1 0 == 0 && t.getD 1 0 == 1 && s.getD 0 0 == t.getD 0 0
/-- both moves in one event: root at level 2, common diagonal = `exMove1` -/
def exBoth : LRel := runion exMove1 exMove2
/-- the single minterm x2:0→0, x1:0→1 of finding F1 (root at level 2, empty common diagonal) -/
def exF1 : LRel := fun s t => s == [0, 0] && t == [1, 0]
/-- all self-loops: the identity relation, root = terminal (level 0) -/
def exIdent : LRel := fun s t => s == t
/-- the initial set {(0,0)} -/
def exInit : SSet State := fun s => s == [0, 0]

/-- Chaotic iteration: WHATEVER order `saturateHelper`/`recFire` fire the per-level relations in, if the set
    they end with is closed under every one of them, it is exactly the set of states reachable from the
    initial set under the union of those relations (soundness needs only that the initial states lie in the
    domain, completeness needs closure). -/
theorem saturEvents_eq_lfp {σ : Type} [DecidableEq σ] (dom : List σ) (evs : List (Rel σ))
    (sched : List (Firing σ)) (init : SSet σ) (hinit : ∀ s, init s = true → s ∈ dom)
    (hclosed : closedB dom evs (saturEvents dom evs sched init) = true) (u : σ) :
    saturEvents dom evs sched init u = true ↔ Reach dom init (unionRel evs) u :=
  ⟨saturEvents_sound dom evs sched init hinit u,
   closed_superset_reach (fun s _ hs => saturEvents_mono dom evs sched init s hs)
     ((closedB_iff dom evs _).mp hclosed) u⟩

example :
    let dom := [0, 1, 2, 3]
    let evs : List (Rel Nat) := [fun s t => s == 0 && t == 1, fun s t => s == 1 && t == 2]
    let X := saturEvents dom evs [(1, 1, 2), (0, 0, 1), (1, 1, 2), (0, 3, 0)] (· == 0)
    closedB dom evs X = true ∧ X 2 = true ∧ X 3 = false := by decide +kernel

/-- The specification the acceptor computes (`|dom|` naive breadth-first rounds) IS the least fixed point:
    a state is in `reachFix` iff it is reachable from the initial set under the relation. -/
theorem reachFix_eq_lfp {σ : Type} [DecidableEq σ] (dom : List σ) (init : SSet σ) (R : Rel σ) (u : σ) :
    u ∈ reachFix dom init R ↔ Reach dom init R u := by
  constructor
  · exact reachIter_sound dom init R _ _
      (fun u hu => .base (List.mem_filter.mp hu).1 (List.mem_filter.mp hu).2) u
  · intro h
    -- `|dom|` rounds suffice: at most `|dom|` states are missing at the start
    have := closed_superset_reach (X := fun u => (reachFix dom init R).contains u)
      (fun s hs hi => List.contains_iff_mem.mpr
        (subset_reachIter dom R _ _ s (List.mem_filter.mpr ⟨hs, hi⟩)))
      (reachIter_closed dom R dom.length _ (List.length_filter_le _ _)) u h
    exact List.contains_iff_mem.mp this

example : reachFix [0, 1, 2, 3, 4] (· == 0) (fun s t => (t == s + 2 && s % 2 == 0) || (s == 4 && t == 1)) = [0, 2, 4, 1] := by decide +kernel

/-- `finalize()` of a "by events" relation only regroups: the union of everything the saturation is handed
    (levels K..1 of the sorted array) is the union of the added events whose root is not a terminal. -/
theorem finalize_events_union (sizes : List Nat) (evs : List LRel) (s t : State) :
    unionRel (eventsInput sizes evs) s t = unionRel (evs.filter (fun r => topOf sizes r != 0)) s t := by
  apply Bool.eq_iff_iff.mpr
  simp only [unionRel, List.any_eq_true, mem_eventsInput, List.mem_filter, bne_iff_ne, ne_eq]

example : topOf [2, 2] exMove1 = 1 ∧ topOf [2, 2] exMove2 = 2 ∧ topOf [2, 2] exBoth = 2 ∧
    topOf [2, 2] exF1 = 2 ∧ topOf [2, 2] exIdent = 0 ∧ topOf [2, 2] emptyRel = 0 := by decide +kernel
example : (finalizeByEvents [2, 2] [exMove2, exMove1, exIdent, exBoth] 2).length = 2 ∧
    (finalizeByEvents [2, 2] [exMove2, exMove1, exIdent, exBoth] 1).length = 1 ∧
    (eventsInput [2, 2] [exMove2, exMove1, exIdent, exBoth]).length = 3 ∧
    -- most recently added first inside a level
    ((finalizeByEvents [2, 2] [exMove2, exMove1, exIdent, exBoth] 2).head?.map (fun r => r [0, 0] [1, 0])) = some true
    := by decide +kernel

/-- By events, every relation filed under level k is the identity above k and does not depend on the
    variables above k (so firing it at a level-k node is legitimate). -/
theorem events_topLevel_ok (sizes : List Nat) (evs : List LRel) (k : Nat) (r : LRel)
    (h : r ∈ finalizeByEvents sizes evs k) : Fits sizes k r := by
  unfold finalizeByEvents at h
  split at h
  · cases h
  · simp only [List.mem_reverse, List.mem_filter, beq_iff_eq] at h
    rw [← h.2]; exact topOf_fits sizes r

example : fitsB [2, 2] 1 exMove1 = true ∧ fitsB [2, 2] 1 exMove2 = false ∧ fitsB [2, 2] 1 exF1 = false := by decide +kernel

/-- The events `addToRelation` silently drops (root = terminal, level 0) consist of self-loops only, so
    dropping them cannot change any reachable set. -/
theorem dropped_events_selfloops (sizes : List Nat) (r : LRel) (h : topOf sizes r = 0) (s t : State)
    (hs : s ∈ allStates sizes) (ht : t ∈ allStates sizes) (hr : r s t = true) : s = t :=
  fits_zero_selfloops (h ▸ topOf_fits sizes r) s t hs ht hr

example : topOf [2, 2] exIdent = 0 ∧ exIdent [1, 0] [1, 0] = true ∧ exIdent [1, 0] [0, 0] = false := by decide +kernel

/-- `addToRelation` by levels only regroups: the union over the level array is the union of the added
    events whose root is not a terminal. -/
theorem mergeByLevels_union (sizes : List Nat) (evs : List LRel) (s t : State) :
    unionLv sizes.length (mergeByLevels sizes evs) s t =
      unionRel (evs.filter (fun r => topOf sizes r != 0)) s t := by
  apply Bool.eq_iff_iff.mpr
  rw [unionLv_iff]
  unfold mergeByLevels
  simp only [unionRel, List.any_eq_true, List.mem_filter, bne_iff_ne, ne_eq]
  constructor
  · rintro ⟨k, _, hr⟩
    by_cases hk0 : k = 0
    · rw [if_pos hk0] at hr; cases hr
    · rw [if_neg hk0] at hr
      simp only [unionRel, List.any_eq_true, List.mem_filter, beq_iff_eq] at hr
      obtain ⟨r, ⟨hin, hk⟩, hrst⟩ := hr
      exact ⟨r, ⟨hin, by omega⟩, hrst⟩
  · rintro ⟨r, ⟨hin, hne⟩, hrst⟩
    refine ⟨topOf sizes r, topOf_le sizes r, ?_⟩
    rw [if_neg hne]
    simp only [unionRel, List.any_eq_true, List.mem_filter, beq_iff_eq]
    exact ⟨r, ⟨hin, rfl⟩, hrst⟩

example :
    let L := mergeByLevels [2, 2] [exMove2, exMove1, exIdent, exBoth]
    L 2 [0, 0] [1, 0] = true ∧ L 2 [0, 0] [0, 1] = true ∧ L 1 [0, 0] [1, 0] = true ∧ L 1 [0, 0] [0, 1] = false ∧
    L 0 [0, 0] [0, 0] = false := by decide +kernel

/-- `finalize(None)` leaves the union of the levels unchanged (it does nothing). -/
theorem finalize_None_union (sizes : List Nat) (L : Lv) : SameUnion sizes (finalizeLevels sizes .None L) L :=
  SameUnion.refl _

example : finalizeLevels [2, 2] .None (mergeByLevels [2, 2] [exBoth]) 2 [0, 0] [1, 0] = true := by decide +kernel

/-- `finalize(SplitOnly)`: moving the common diagonal of level k down to the level it really touches keeps
    the union of the levels (as sets of pairs over the domain). -/
theorem finalize_SplitOnly_union (sizes : List Nat) (L : Lv) (hwf : WF sizes L) :
    SameUnion sizes (finalizeLevels sizes .SplitOnly L) L :=
  (splitLoop_ok _ L hwf).1

example :   -- the x1 move leaves level 2 and arrives at level 1
    let L := finalizeLevels [2, 2] .SplitOnly (mergeByLevels [2, 2] [exBoth])
    L 2 [0, 0] [1, 0] = false ∧ L 1 [0, 0] [1, 0] = true ∧ L 2 [0, 0] [0, 1] = true ∧ L 1 [0, 0] [0, 1] = false := by
  decide +kernel

/-- `finalize(SplitSubtract)`: additionally subtracting from level k what the receiving level contains
    keeps the union of the levels. -/
theorem finalize_SplitSubtract_union (sizes : List Nat) (L : Lv) (hwf : WF sizes L) :
    SameUnion sizes (finalizeLevels sizes .SplitSubtract L) L :=
  (splitLoop_ok _ L hwf).1

example :   -- the diagonal is copied down, then level 2 loses everything level 1 holds
    let L := finalizeLevels [2, 2] .SplitSubtract (mergeByLevels [2, 2] [exBoth, exMove1])
    L 2 [0, 0] [1, 0] = false ∧ L 1 [0, 0] [1, 0] = true ∧ L 2 [0, 0] [0, 1] = true ∧ L 1 [0, 1] [1, 1] = true := by
  decide +kernel

/-- `finalize(SplitSubtractAll)`: copying the diagonals down and then subtracting every lower level from
    every higher one keeps the union of the levels. -/
theorem finalize_SplitSubtractAll_union (sizes : List Nat) (L : Lv) (hwf : WF sizes L) :
    SameUnion sizes (finalizeLevels sizes .SplitSubtractAll L) L := by
  have h1 := splitLoop_ok .SplitSubtractAll L hwf
  exact ((subtractAll_ok _ h1.2).trans h1).1

example :
    let L0 := splitLoop [2, 2] .SplitSubtractAll (mergeByLevels [2, 2] [exBoth])
    let L := finalizeLevels [2, 2] .SplitSubtractAll (mergeByLevels [2, 2] [exBoth])
    -- after the main loop the x1 move is at both levels; the closing loop removes it from level 2
    L0 2 [0, 0] [1, 0] = true ∧ L0 1 [0, 0] [1, 0] = true ∧ L 2 [0, 0] [1, 0] = false ∧ L 1 [0, 0] [1, 0] = true ∧
    L 2 [0, 0] [0, 1] = true := by decide +kernel

/-- `finalize(MonolithicSplit)`: uniting all levels and splitting the union top-down keeps the union of the
    levels (level 0 is empty after `addToRelation`, which is what the hypothesis says). -/
theorem finalize_MonolithicSplit_union (sizes : List Nat) (L : Lv) (hwf : WF sizes L)
    (h0 : REq sizes (L 0) emptyRel) : SameUnion sizes (finalizeLevels sizes .MonolithicSplit L) L :=
  (finalizeLevels_ok .MonolithicSplit L hwf h0).1

example :   -- two events at two levels are united (level 2) and split again
    let U := unionLevels [2, 2] (mergeByLevels [2, 2] [exMove1, exMove2])
    let L := finalizeLevels [2, 2] .MonolithicSplit (mergeByLevels [2, 2] [exMove1, exMove2])
    U 2 [0, 0] [1, 0] = true ∧ U 1 [0, 0] [1, 0] = false ∧
    L 2 [0, 0] [1, 0] = false ∧ L 1 [0, 0] [1, 0] = true ∧ L 2 [0, 0] [0, 1] = true := by decide +kernel

/-- After `finalize(opt)`, for every option, every pair stored at level k is the identity above k (and its
    membership does not depend on the variables above k): the invariant `saturateHelper` relies on when it
    fires `events[k]` at a level-k node. -/
theorem topLevel_ok (sizes : List Nat) (opt : SplitOpt) (evs : List LRel) :
    WF sizes (finalizeLevels sizes opt (mergeByLevels sizes evs)) :=
  (finalize_merge_ok sizes opt evs).2

example :
    let L := finalizeLevels [2, 2] .SplitOnly (mergeByLevels [2, 2] [exBoth, exF1])
    fitsB [2, 2] 1 (L 1) = true ∧ fitsB [2, 2] 2 (L 2) = true ∧ fitsB [2, 2] 1 (L 2) = false ∧
    isEmptyB [2, 2] (L 1) = false := by decide +kernel

/-- the two halves of `exMove1` (x2 = 0 / x2 = 1): each has its root at level 2, their union at level 1 -/
def exHalf (v : Nat) : LRel := fun s t => s.getD 1 0 == v && exMove1 s t

example :   -- finding F11 in the model: level 2 holds a relation whose root is at level 1; `renormLevels` moves it
    let M := mergeByLevels [2, 2] [exHalf 0, exHalf 1]
    let L := renormLevels [2, 2] M
    topOf [2, 2] (exHalf 0) = 2 ∧ topOf [2, 2] (M 2) = 1 ∧ isEmptyB [2, 2] (M 1) = true ∧
    isEmptyB [2, 2] (L 2) = true ∧ L 1 [0, 0] [1, 0] = true ∧ L 1 [0, 1] [1, 1] = true := by decide +kernel

theorem unionRel_levelsInput_iff (K : Nat) (L : Lv) (s t : State) :
    unionRel (levelsInput K L) s t = true ↔ ∃ k, 1 ≤ k ∧ k ≤ K ∧ L k s t = true := by
  unfold unionRel levelsInput
  simp only [List.any_eq_true, List.mem_map, mem_levelsDownTo1]
  constructor
  · rintro ⟨r, ⟨k, ⟨h1, h2⟩, rfl⟩, h⟩; exact ⟨k, h1, h2, h⟩
  · rintro ⟨k, h1, h2, h⟩; exact ⟨L k, ⟨k, ⟨h1, h2⟩, rfl⟩, h⟩

theorem reach_congr_eq {σ : Type} {dom : List σ} {init : SSet σ} {R R' : Rel σ}
    (h : ∀ s t, s ∈ dom → t ∈ dom → R s t = R' s t) (u : σ) :
    Reach dom init R u ↔ Reach dom init R' u :=
  ⟨Reach.congr (fun s t hs ht hr => h s t hs ht ▸ hr),
   Reach.congr (fun s t hs ht hr => (h s t hs ht).symm ▸ hr)⟩

/-- the events dropped for having their root at level 0 are self-loops -/
theorem reach_drop_level0 (sizes : List Nat) (evs : List LRel) (init : SSet State) (u : State) :
    Reach (allStates sizes) init (unionRel (evs.filter (fun r => topOf sizes r != 0))) u ↔
      Reach (allStates sizes) init (unionRel evs) u := by
  refine ⟨reach_ignores_selfloops (fun s t _ _ h => ?_), reach_ignores_selfloops (fun s t hs ht h => ?_)⟩
  · obtain ⟨r, hin, hrst⟩ := List.any_eq_true.mp h
    exact .inl (List.any_eq_true.mpr ⟨r, (List.mem_filter.mp hin).1, hrst⟩)
  · obtain ⟨r, hin, hrst⟩ := List.any_eq_true.mp h
    by_cases htop : topOf sizes r = 0
    · exact .inr (dropped_events_selfloops sizes r htop s t hs ht hrst)
    · exact .inl (List.any_eq_true.mpr ⟨r, List.mem_filter.mpr ⟨hin, bne_iff_ne.mpr htop⟩, hrst⟩)

/-- levels `K..1` of a well-formed level array generate the same reachable set as levels `K..0`: what is
    stored at level 0 consists of self-loops -/
theorem reach_levelsInput {sizes : List Nat} {L : Lv} (hwf : WF sizes L) (init : SSet State) (u : State) :
    Reach (allStates sizes) init (unionRel (levelsInput sizes.length L)) u ↔
      Reach (allStates sizes) init (unionLv sizes.length L) u := by
  refine ⟨reach_ignores_selfloops (fun s t _ _ h => ?_), reach_ignores_selfloops (fun s t hs ht h => ?_)⟩
  · obtain ⟨k, _, hk, hr⟩ := (unionRel_levelsInput_iff _ _ _ _).mp h
    exact .inl ((unionLv_iff _ _ _ _).mpr ⟨k, hk, hr⟩)
  · obtain ⟨k, hk, hr⟩ := (unionLv_iff _ _ _ _).mp h
    by_cases hk0 : k = 0
    · subst hk0
      exact .inr (fits_zero_selfloops (hwf 0 (Nat.zero_le _)) s t hs ht hr)
    · exact .inl ((unionRel_levelsInput_iff _ _ _ _).mpr ⟨k, Nat.pos_of_ne_zero hk0, hk, hr⟩)

/-- C20, by events: any firing schedule over the finalized array that ends closed yields exactly the states
    reachable from the initial set under the union of ALL events that were added. -/
theorem pregen_events_sat_eq_reach (sizes : List Nat) (evs : List LRel) (sched : List (Firing State))
    (init : SSet State) (hinit : ∀ s, init s = true → s ∈ allStates sizes)
    (hclosed : closedB (allStates sizes) (eventsInput sizes evs)
      (saturEvents (allStates sizes) (eventsInput sizes evs) sched init) = true) (u : State) :
    saturEvents (allStates sizes) (eventsInput sizes evs) sched init u = true ↔
      Reach (allStates sizes) init (unionRel evs) u :=
  ((saturEvents_eq_lfp _ _ sched init hinit hclosed u).trans
    (reach_congr_eq (fun s t _ _ => finalize_events_union sizes evs s t) u)).trans
    (reach_drop_level0 sizes evs init u)

example :
    let evs := eventsInput [2, 2] [exMove2, exIdent, exMove1]
    let X := saturEvents (allStates [2, 2]) evs
      [(1, [0, 0], [1, 0]), (0, [0, 0], [0, 1]), (0, [1, 0], [1, 1]), (1, [1, 1], [0, 0])] exInit
    closedB (allStates [2, 2]) evs X = true ∧ X [1, 1] = true ∧ X [0, 1] = true := by decide +kernel

/-- C20, by levels, EVERY splitting option: any firing schedule over `events[K..1]` after `finalize(opt)`
    that ends closed yields exactly the states reachable from the initial set under the union of ALL events
    that were added - the set the monolithic reachability operations compute for the union relation. -/
theorem pregen_levels_sat_eq_reach (sizes : List Nat) (opt : SplitOpt) (evs : List LRel)
    (sched : List (Firing State)) (init : SSet State) (hinit : ∀ s, init s = true → s ∈ allStates sizes)
    (hclosed : closedB (allStates sizes)
      (levelsInput sizes.length (finalizeLevels sizes opt (mergeByLevels sizes evs)))
      (saturEvents (allStates sizes)
        (levelsInput sizes.length (finalizeLevels sizes opt (mergeByLevels sizes evs))) sched init) = true)
    (u : State) :
    saturEvents (allStates sizes)
        (levelsInput sizes.length (finalizeLevels sizes opt (mergeByLevels sizes evs))) sched init u = true ↔
      Reach (allStates sizes) init (unionRel evs) u := by
  have hok := finalize_merge_ok sizes opt evs
  exact (((saturEvents_eq_lfp _ _ sched init hinit hclosed u).trans
    (reach_levelsInput hok.2 init u)).trans (reach_congr_eq hok.1 u)).trans
    ((reach_congr_eq (fun s t _ _ => mergeByLevels_union sizes evs s t) u).trans
      (reach_drop_level0 sizes evs init u))

example :
    let evs := levelsInput 2 (finalizeLevels [2, 2] .SplitSubtract (mergeByLevels [2, 2] [exBoth, exF1]))
    let X := saturEvents (allStates [2, 2]) evs
      [(1, [0, 0], [1, 0]), (0, [0, 0], [0, 1]), (0, [1, 0], [1, 1])] exInit
    let Y := saturEvents (allStates [2, 2]) evs [(1, [0, 0], [1, 0])] exInit
    closedB (allStates [2, 2]) evs X = true ∧ X [1, 1] = true ∧
    -- a schedule that stops too early is not closed: the hypothesis is not vacuous
    closedB (allStates [2, 2]) evs Y = false := by decide +kernel

/-- "The same edge as the monolithic operations": two reduced trees of one set forest that both denote the
    reachable set are the same tree (canonicity, `DD.canon`), so `SATURATION_FORWARD` and
    `REACHABLE_TRAD_NOFS` on the union must return equal `dd_edge`s. -/
theorem equals_monolithic (S : Shape) (hS : S.WF) (d1 d2 : DD Bool)
    (h1 : DD.Red S false S.top none d1 = true) (h2 : DD.Red S false S.top none d2 = true)
    (spec : Assign → Bool)
    (e1 : ∀ a, Assign.Valid S a → DD.eval S false S.top d1 a = spec a)
    (e2 : ∀ a, Assign.Valid S a → DD.eval S false S.top d2 a = spec a) : d1 = d2 :=
  (DD.canon S false hS d1 d2 h1 h2).mp (fun a ha => (e1 a ha).trans (e2 a ha).symm)

example :   -- a reduced one-variable set {1} (node at position 1 with children F, T)
    let S : Shape := { top := 1, size := fun _ => 2, mode := fun _ => .red }
    let d : DD Bool := .node 1 [.leaf false, .leaf true]
    DD.Red S false S.top none d = true ∧ DD.eval S false S.top d (fun _ => 1) = true ∧
    DD.eval S false S.top d (fun _ => 0) = false := by decide +kernel

/-
#print axioms of the property theorems (lake env lean, Lean 4.33.0):

'Meddly.Pregen.saturEvents_eq_lfp' depends on axioms: [propext, Quot.sound]
'Meddly.Pregen.reachFix_eq_lfp' depends on axioms: [propext, Quot.sound]
'Meddly.Pregen.closed_superset_reach' does not depend on any axioms
'Meddly.Pregen.saturEvents_sound' depends on axioms: [propext, Quot.sound]
'Meddly.Pregen.reach_ignores_selfloops' does not depend on any axioms
'Meddly.Pregen.finalize_events_union' depends on axioms: [propext, Classical.choice, Quot.sound]
'Meddly.Pregen.events_topLevel_ok' depends on axioms: [propext, Quot.sound]
'Meddly.Pregen.dropped_events_selfloops' depends on axioms: [propext, Quot.sound]
'Meddly.Pregen.mergeByLevels_union' depends on axioms: [propext, Quot.sound]
'Meddly.Pregen.finalize_None_union' depends on axioms: [propext]
'Meddly.Pregen.finalize_SplitOnly_union' depends on axioms: [propext, Classical.choice, Quot.sound]
'Meddly.Pregen.finalize_SplitSubtract_union' depends on axioms: [propext, Classical.choice, Quot.sound]
'Meddly.Pregen.finalize_SplitSubtractAll_union' depends on axioms: [propext, Classical.choice, Quot.sound]
'Meddly.Pregen.finalize_MonolithicSplit_union' depends on axioms: [propext, Classical.choice, Quot.sound]
'Meddly.Pregen.topLevel_ok' depends on axioms: [propext, Classical.choice, Quot.sound]
'Meddly.Pregen.pregen_events_sat_eq_reach' depends on axioms: [propext, Classical.choice, Quot.sound]
'Meddly.Pregen.pregen_levels_sat_eq_reach' depends on axioms: [propext, Classical.choice, Quot.sound]
'Meddly.Pregen.equals_monolithic' depends on axioms: [propext, Classical.choice, Quot.sound]
'Meddly.Pregen.renormLevels_ok' depends on axioms: [propext, Classical.choice, Quot.sound]
-/

end Pregen
end Meddly
