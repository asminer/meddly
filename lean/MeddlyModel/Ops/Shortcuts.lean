/-
  Terminal shortcuts and level skipping of the element-wise set operations
  (`operations/union.cc`, `intersection.cc`, `difference.cc`, `complement.cc`).

  The real `_compute` functions perform the recursion of `apply2` but
    (a) test a list of *terminal shortcuts* before recursing,
    (b) skip positions that both operands skip ("by top level" / "by unprimed"),
    (c) consult a compute table (handled in `State/ComputeTable.lean`).
  This file models (a) and (b) and proves them to be pure optimisations: the
  tree they return is *identical* to the one `apply2` returns.

  Contents
    1. `applyS` (generic recursion with a shortcut table), `ShortcutSound`,
       `applyS_eq_apply2(_at)`, `applyS_eval`, `applyS_red`
    2. `Policy` (fully / quasi / identity reduced), `Shape.Has`, `copyTo`, `chainTrue`
    3. `unionShortcut`, `interShortcut`, `diffShortcut` transcribed test by test;
       when a copy / ∅ / TRUE / I is a sound answer (`answer_…`), the tables
       (`unionShortcut_sound`, …), the operations (`unionS_eval/_red/_eq_apply2`, …)
    4. level skipping: `apply2_skip_red`, `apply2_skip_primed`, `apply2_skip_pair_same`,
       `applySkip_eq_apply2`; shortcuts + skipping `applyFullS_eq_apply2`;
       the rules of the three constructors (`unionRule`, `interRule`, `diffRule`,
       `Setup.full_eq_apply2`); `unionFull_eq_apply2`, …; completeness of the terminal cases
    5. COMPLEMENT: `apply1S`, `complShortcut`, `complS_eq_apply1`, unary skipping
    6. examples (by evaluation)

  What is assumed of the C++ (modelled, not proved here):
    * "copy of X into the result forest at (L, in)" (`copy_argNres->compute`) is the
      element-wise copy `apply1 … id` (the COPY operation has its own component);
    * `makeRedundantsTo(TRUE,0,L)` / `makeIdentitiesTo(TRUE,0,L,in)` return the
      reduced tree of "TRUE everywhere" / "identity below" (`chainTrue`; their loop
      structure is `redStep` / `identHalf`: `chainTrue_fully_succ`, `chainTrue_ident_pair`);
    * operands are legal (`Red`) in their own forests: in particular a
      quasi-reduced forest has the terminal TRUE at level 0 only.
  Result: no terminal case of the three binary operations or of complement is
  unsound at /repo HEAD; section 6 shows, for some of the side conditions, the different tree
  that dropping them gives.
-/
import MeddlyModel.Core.DD
import MeddlyModel.Core.Canon
import MeddlyModel.Ops.Apply
import MeddlyModel.Ops.ApplyProofs

namespace Meddly

set_option linter.unusedSectionVars false

namespace DD
variable {α β γ : Type} [DecidableEq α] [DecidableEq β] [DecidableEq γ]

/-! ## 1. `applyS`: `apply2` with a shortcut table tried first at every step -/

/-- `apply2` with terminal shortcuts: `sc k fi a b = some r` means "answer `r`
    without recursing". -/
def applyS (Sa Sb Sc : Shape) (za : α) (zb : β) (zc : γ) (f : α → β → γ)
    (sc : Nat → Option Nat → DD α → DD β → Option (DD γ)) :
    Nat → Option Nat → DD α → DD β → DD γ
  | 0, fi, a, b =>
    match sc 0 fi a b with
    | some r => r
    | none => .leaf (f (leafVal za a) (leafVal zb b))
  | k+1, fi, a, b =>
    match sc (k+1) fi a b with
    | some r => r
    | none =>
      mkNode Sc zc (k+1) fi
        ((List.range (Sc.size (k+1))).map fun i =>
          applyS Sa Sb Sc za zb zc f sc k (some i)
            (cofactor Sa za (k+1) fi a i) (cofactor Sb zb (k+1) fi b i))

/-- The context of a recursive call: position `k ≤ top`, entered through index
    `fi` of position `k+1` (`none`: position `k+1` was skipped or `k` is the
    top; then `k` is not an `ident` position in any of the three forests). -/
structure Ctx (Sa Sb Sc : Shape) (k : Nat) (fi : Option Nat) : Prop where
  le  : k ≤ Sc.top
  idx : ∀ i, fi = some i → i < Sc.size (k+1)
  na  : fi = none → Sa.mode k ≠ .ident
  nb  : fi = none → Sb.mode k ≠ .ident
  nc  : fi = none → Sc.mode k ≠ .ident

/-- the assignment respects the arriving index -/
def Resp (k : Nat) (fi : Option Nat) (x : Assign) : Prop := ∀ i, fi = some i → x (k+1) = i

theorem Ctx.at_index {Sa Sb Sc : Shape} {k i : Nat} (hk : k ≤ Sc.top) (hi : i < Sc.size (k+1)) :
    Ctx Sa Sb Sc k (some i) :=
  ⟨hk, fun j hj => by cases hj; exact hi, nofun, nofun, nofun⟩

theorem Ctx.top {Sa Sb Sc : Shape} (hSa : Sa.WF) (hSb : Sb.WF) (hSc : Sc.WF)
    (hac : SameVars Sa Sc) (hbc : SameVars Sb Sc) : Ctx Sa Sb Sc Sc.top none :=
  ⟨Nat.le_refl _, nofun, fun _ => hSa.top_not_ident (Nat.le_of_eq hac.top),
    fun _ => hSb.top_not_ident (Nat.le_of_eq hbc.top), fun _ => hSc.top_not_ident (Nat.le_refl _)⟩

/-- from the context and `Resp`: the side condition of `apply2_eval` & co. -/
theorem fi_of_mode {S : Shape} {k : Nat} {fi : Option Nat} {x : Assign}
    (hn : fi = none → S.mode k ≠ .ident) (hr : Resp k fi x) :
    S.mode k = .ident → fi = some (x (k+1)) := by
  intro hm
  cases fi with
  | none => exact absurd hm (hn rfl)
  | some i => rw [hr i rfl]

/-- `r` is a correct answer for `f a b` at position `k` entered through `fi`:
    right denotation, and reduced in the result forest. -/
def AnswerSound (Sa Sb Sc : Shape) (za : α) (zb : β) (zc : γ) (f : α → β → γ)
    (k : Nat) (fi : Option Nat) (a : DD α) (b : DD β) (r : DD γ) : Prop :=
  (∀ x, Assign.Valid Sc x → Resp k fi x →
      eval Sc zc k r x = f (eval Sa za k a x) (eval Sb zb k b x)) ∧
  Red Sc zc k fi r = true

/-- Every answer of the shortcut table, on operands reduced in their own
    forests, is a correct answer. -/
def ShortcutSound (Sa Sb Sc : Shape) (za : α) (zb : β) (zc : γ) (f : α → β → γ)
    (sc : Nat → Option Nat → DD α → DD β → Option (DD γ)) : Prop :=
  ∀ k fi a b r, Ctx Sa Sb Sc k fi →
    Red Sa za k fi a = true → Red Sb zb k fi b = true → sc k fi a b = some r →
    AnswerSound Sa Sb Sc za zb zc f k fi a b r

theorem apply2_answerSound (Sa Sb Sc : Shape) (za : α) (zb : β) (zc : γ) (f : α → β → γ)
    (hSc : Sc.WF) (k : Nat) (fi : Option Nat) (a : DD α) (b : DD β) (hc : Ctx Sa Sb Sc k fi) :
    AnswerSound Sa Sb Sc za zb zc f k fi a b (apply2 Sa Sb Sc za zb zc f k fi a b) :=
  ⟨fun x hx hr => apply2_eval Sa Sb Sc za zb zc f k fi a b x hc.le hx
      (fi_of_mode hc.na hr) (fi_of_mode hc.nb hr) (fi_of_mode hc.nc hr),
   apply2_red Sa Sb Sc za zb zc f hSc k fi a b hc.nc⟩

section
variable {Sa Sb Sc : Shape} {za : α} {zb : β} {zc : γ} {f : α → β → γ}
  {sc : Nat → Option Nat → DD α → DD β → Option (DD γ)} {k : Nat} {fi : Option Nat}
  {a : DD α} {b : DD β}

theorem applyS_zero :
    applyS Sa Sb Sc za zb zc f sc 0 fi a b =
      match sc 0 fi a b with
      | some r => r
      | none => .leaf (f (leafVal za a) (leafVal zb b)) := by
  rw [applyS]

theorem applyS_succ :
    applyS Sa Sb Sc za zb zc f sc (k+1) fi a b =
      match sc (k+1) fi a b with
      | some r => r
      | none =>
        mkNode Sc zc (k+1) fi
          ((List.range (Sc.size (k+1))).map fun i =>
            applyS Sa Sb Sc za zb zc f sc k (some i)
              (cofactor Sa za (k+1) fi a i) (cofactor Sb zb (k+1) fi b i)) := by
  rw [applyS]

/-- Canonicity: a sound answer *is* the tree `apply2` builds. -/
theorem AnswerSound.eq_apply2 (hSc : Sc.WF) {r : DD γ}
    (hc : Ctx Sa Sb Sc k fi) (h : AnswerSound Sa Sb Sc za zb zc f k fi a b r) :
    r = apply2 Sa Sb Sc za zb zc f k fi a b := by
  have h2 := apply2_answerSound Sa Sb Sc za zb zc f hSc k fi a b hc
  apply canon_gen Sc zc hSc k hc.le fi _ _ hc.idx h.2 h2.2
  intro x hx hr
  rw [h.1 x hx hr, h2.1 x hx hr]

/-- Shortcuts are pure optimisations: at *every* recursion step `applyS`
    returns the very tree `apply2` returns (a sound answer is that tree, by canonicity). -/
theorem applyS_eq_apply2_at (hSc : Sc.WF) (hac : SameVars Sa Sc) (hbc : SameVars Sb Sc)
    (hsc : ShortcutSound Sa Sb Sc za zb zc f sc) (hc : Ctx Sa Sb Sc k fi)
    (ha : Red Sa za k fi a = true) (hb : Red Sb zb k fi b = true) :
    applyS Sa Sb Sc za zb zc f sc k fi a b = apply2 Sa Sb Sc za zb zc f k fi a b := by
  induction k generalizing fi a b with
  | zero =>
    rw [applyS_zero]
    cases hs : sc 0 fi a b with
    | some r => exact (hsc 0 fi a b r hc ha hb hs).eq_apply2 hSc hc
    | none => exact (apply2_zero Sa Sb Sc za zb zc f fi a b).symm
  | succ k ih =>
    rw [applyS_succ]
    cases hs : sc (k+1) fi a b with
    | some r => exact (hsc (k+1) fi a b r hc ha hb hs).eq_apply2 hSc hc
    | none =>
      rw [apply2_succ]
      exact mkNode_map_range_congr fun i hi => ih (Ctx.at_index (Nat.le_of_succ_le hc.le) hi)
        (Red_cofactor Sa za k fi fi a ha i (hac.size _ ▸ hi))
        (Red_cofactor Sb zb k fi fi b hb i (hbc.size _ ▸ hi))

theorem applyS_eq_apply2 (hSa : Sa.WF) (hSb : Sb.WF) (hSc : Sc.WF) (hac : SameVars Sa Sc)
    (hbc : SameVars Sb Sc) (hsc : ShortcutSound Sa Sb Sc za zb zc f sc)
    (ha : Red Sa za Sa.top none a = true) (hb : Red Sb zb Sb.top none b = true) :
    applyS Sa Sb Sc za zb zc f sc Sc.top none a b = apply2 Sa Sb Sc za zb zc f Sc.top none a b :=
  applyS_eq_apply2_at hSc hac hbc hsc (Ctx.top hSa hSb hSc hac hbc) (hac.top ▸ ha) (hbc.top ▸ hb)

end

theorem applyS_eval (Sa Sb Sc : Shape) (za : α) (zb : β) (zc : γ) (f : α → β → γ)
    (sc : Nat → Option Nat → DD α → DD β → Option (DD γ))
    (hSc : Sc.WF) (hac : SameVars Sa Sc) (hbc : SameVars Sb Sc)
    (hsc : ShortcutSound Sa Sb Sc za zb zc f sc)
    (k : Nat) (fi : Option Nat) (a : DD α) (b : DD β) (hc : Ctx Sa Sb Sc k fi)
    (ha : Red Sa za k fi a = true) (hb : Red Sb zb k fi b = true)
    (x : Assign) (hx : Assign.Valid Sc x) (hr : Resp k fi x) :
    eval Sc zc k (applyS Sa Sb Sc za zb zc f sc k fi a b) x
      = f (eval Sa za k a x) (eval Sb zb k b x) := by
  rw [applyS_eq_apply2_at hSc hac hbc hsc hc ha hb]
  exact (apply2_answerSound Sa Sb Sc za zb zc f hSc k fi a b hc).1 x hx hr

theorem applyS_red (Sa Sb Sc : Shape) (za : α) (zb : β) (zc : γ) (f : α → β → γ)
    (sc : Nat → Option Nat → DD α → DD β → Option (DD γ))
    (hSc : Sc.WF) (hac : SameVars Sa Sc) (hbc : SameVars Sb Sc)
    (hsc : ShortcutSound Sa Sb Sc za zb zc f sc)
    (k : Nat) (fi : Option Nat) (a : DD α) (b : DD β) (hc : Ctx Sa Sb Sc k fi)
    (ha : Red Sa za k fi a = true) (hb : Red Sb zb k fi b = true) :
    Red Sc zc k fi (applyS Sa Sb Sc za zb zc f sc k fi a b) = true := by
  rw [applyS_eq_apply2_at hSc hac hbc hsc hc ha hb]
  exact (apply2_answerSound Sa Sb Sc za zb zc f hSc k fi a b hc).2

/-! ## 2. Reduction policies of whole forests; copies and chains -/

end DD

/-- The reduction rule of a whole forest (`policies::reduction_rule`). -/
inductive Policy where
  | fully | quasi | ident
  deriving DecidableEq, Repr

/-- the per-position mode a policy prescribes: identity-reduced relation forests
    have `ident` at the primed (odd) positions and `red` at the unprimed ones -/
def Policy.mode : Policy → Nat → Mode
  | .fully, _ => .red
  | .quasi, _ => .none
  | .ident, p => if p % 2 = 1 then .ident else .red

/-- forest shape `S` follows policy `p` (`isFullyReduced()` / `isQuasiReduced()` /
    `isIdentityReduced()`) -/
def Shape.Has (S : Shape) (p : Policy) : Prop := ∀ q, 1 ≤ q → q ≤ S.top → S.mode q = p.mode q

/-- same variables, modes of policy `p` -/
def Shape.withPolicy (S : Shape) (p : Policy) : Shape := { top := S.top, size := S.size, mode := p.mode }

theorem Shape.withPolicy_mode (S : Shape) (p : Policy) (q : Nat) :
    (S.withPolicy p).mode q = p.mode q := rfl

theorem Policy.mode_fully (q : Nat) : Policy.fully.mode q = .red := rfl
theorem Policy.mode_quasi (q : Nat) : Policy.quasi.mode q = .none := rfl

theorem Policy.mode_eq_ident_iff (p : Policy) (q : Nat) :
    p.mode q = .ident ↔ p = .ident ∧ q % 2 = 1 := by
  cases p <;> simp [Policy.mode]

namespace DD
variable {α β γ : Type} [DecidableEq α] [DecidableEq β] [DecidableEq γ]

theorem eval_leaf_fully {S : Shape} (hS : S.Has .fully) (zero v : α) (k : Nat) (hk : k ≤ S.top)
    (x : Assign) : eval S zero k (.leaf v) x = v := by
  induction k with
  | zero => rfl
  | succ k ih =>
    rw [eval_succ_skip S zero k x rfl, ih (by omega),
      if_neg (not_and_of_not_left _ (by rw [hS (k+1) (by omega) hk]; nofun))]

theorem eval_same_policy {S T : Shape} {p : Policy} (hS : S.Has p) (hT : T.Has p) (zero : α)
    (k : Nat) (hkS : k ≤ S.top) (hkT : k ≤ T.top) (d : DD α) (x : Assign) :
    eval S zero k d x = eval T zero k d x :=
  eval_mode_congr S T zero k (fun q h1 h2 => by rw [hS q h1 (by omega), hT q h1 (by omega)]) d x

theorem withPolicy_Has (S : Shape) (p : Policy) : (S.withPolicy p).Has p := fun _ _ _ => rfl

/-- quasi reduced: a non-transparent terminal occurs at position 0 only -/
theorem Red_leaf_quasi {S : Shape} (hS : S.Has .quasi) (zero v : α) (k : Nat) (hk : k ≤ S.top)
    (fi : Option Nat) (h : Red S zero k fi (.leaf v) = true) : v = zero ∨ k = 0 := by
  cases k with
  | zero => right; rfl
  | succ k =>
    left
    have hm : S.mode (k+1) = .none := hS (k+1) (by omega) hk
    have he := (Red_succ_skip S zero k fi (d := .leaf v) rfl h).1
    have := edgeOK_none_skip S zero k fi hm rfl he
    cases this; rfl

theorem eval_true_const {S : Shape} {p : Policy} (hp : S.Has p) (k : Nat) (hk : k ≤ S.top)
    (h : k = 0 ∨ p = .fully) (x : Assign) : eval S false k (.leaf true) x = true := by
  rcases h with rfl | rfl
  · rfl
  · exact eval_leaf_fully hp false true k hk x

/-- a legal terminal TRUE above position 0 in a forest that is not fully reduced:
    the forest is identity reduced -/
theorem policy_ident_of_true {S : Shape} {p : Policy} (hp : S.Has p) {k : Nat} (hk : k ≤ S.top)
    {fi : Option Nat} (hr : Red S false k fi (.leaf true) = true) (h : ¬ (k = 0 ∨ p = .fully)) :
    p = .ident := by
  cases p with
  | fully => exact absurd (Or.inr rfl) h
  | quasi =>
    rcases Red_leaf_quasi hp false true k hk fi hr with h' | h'
    · cases h'
    · exact absurd (Or.inl h') h
  | ident => rfl

theorem eval_true_of_ne_ident {S : Shape} {p : Policy} (hp : S.Has p) {k : Nat} (hk : k ≤ S.top)
    {fi : Option Nat} (hr : Red S false k fi (.leaf true) = true) (hne : p ≠ .ident) (x : Assign) :
    eval S false k (.leaf true) x = true :=
  eval_true_const hp k hk (Decidable.by_contra fun h => hne (policy_ident_of_true hp hk hr h)) x

/-- terminal test (`forest::isTerminalNode`) -/
def isTerm : DD α → Bool
  | .leaf _ => true
  | .node _ _ => false

theorem isTerm_bool {a : DD Bool} (h : isTerm a = true) (hne : a ≠ .leaf false) : a = .leaf true := by
  cases a with
  | leaf v => cases v with
    | true => rfl
    | false => exact absurd rfl hne
  | node p cs => cases h

/-- "copy of `d` (a node of the forest `Sx`) into the result forest", entered at
    position `k` through index `fi`: the `COPY` operation the shortcuts call. -/
def copyTo (Sx Sc : Shape) (k : Nat) (fi : Option Nat) (d : DD Bool) : DD Bool :=
  apply1 Sx Sc false false id k fi d

/-- `makeRedundantsTo(TRUE, 0, k)` (`p = fully`: TRUE everywhere below) resp.
    `makeIdentitiesTo(TRUE, 0, k, fi)` (`p = ident`: the identity relation below)
    in the result forest. -/
def chainTrue (p : Policy) (Sc : Shape) (k : Nat) (fi : Option Nat) : DD Bool :=
  copyTo (Sc.withPolicy p) Sc k fi (.leaf true)

theorem copyTo_eval (Sx Sc : Shape) (k : Nat) (fi : Option Nat) (d : DD Bool) (x : Assign)
    (hk : k ≤ Sc.top) (hx : Assign.Valid Sc x)
    (hxm : Sx.mode k = .ident → fi = some (x (k+1)))
    (hcm : Sc.mode k = .ident → fi = some (x (k+1))) :
    eval Sc false k (copyTo Sx Sc k fi d) x = eval Sx false k d x :=
  apply1_eval Sx Sc false false id k fi d x hk hx hxm hcm

theorem copyTo_red (Sx Sc : Shape) (hSc : Sc.WF) (k : Nat) (fi : Option Nat) (d : DD Bool)
    (hfi : fi = none → Sc.mode k ≠ .ident) : Red Sc false k fi (copyTo Sx Sc k fi d) = true :=
  apply1_red Sx Sc false false id hSc k fi d hfi

theorem chainTrue_fully_eval (Sc : Shape) (k : Nat) (fi : Option Nat) (x : Assign)
    (hk : k ≤ Sc.top) (hx : Assign.Valid Sc x)
    (hcm : Sc.mode k = .ident → fi = some (x (k+1))) :
    eval Sc false k (chainTrue .fully Sc k fi) x = true := by
  unfold chainTrue
  rw [copyTo_eval _ Sc k fi _ x hk hx (fun h => by cases h) hcm]
  exact eval_leaf_fully (withPolicy_Has Sc .fully) false true k hk x

theorem apply1_withPolicy_eval {Sx : Shape} {p : Policy} (hSx : Sx.Has p) (Sc : Shape)
    (g : Bool → Bool) (k : Nat) (fi : Option Nat) (x : Assign) (hk : k ≤ Sc.top) (hkx : k ≤ Sx.top)
    (hx : Assign.Valid Sc x) (hxm : Sx.mode k = .ident → fi = some (x (k+1)))
    (hcm : Sc.mode k = .ident → fi = some (x (k+1))) (d : DD Bool) :
    eval Sc false k (apply1 (Sc.withPolicy p) Sc false false g k fi d) x
      = g (eval Sx false k d x) := by
  rw [apply1_eval _ Sc false false g k fi d x hk hx ?_ hcm,
    eval_same_policy (withPolicy_Has Sc p) hSx false k hk hkx]
  intro h
  apply hxm
  cases k with
  | zero => exact absurd ((p.mode_eq_ident_iff 0).mp h).2 (by decide)
  | succ k => rw [hSx (k+1) (by omega) hkx]; exact h

/-! ## 3. The shortcut tables of UNION, INTERSECTION, DIFFERENCE

  Operands: `a` in a forest of shape `Sa` and policy `pa`, `b` in `Sb`/`pb`,
  result in `Sc`.  `same = true` models `arg1F == arg2F` (then `Sa = Sb`, and
  equality of trees stands for equality of node handles, by canonicity).
  `leaf false` is handle 0, `leaf true` the terminal TRUE (handle -1).       -/

section Tables
variable (pa pb : Policy) (same : Bool) (Sa Sb Sc : Shape)

/-- `union_mt::_compute`, "Check terminal cases", in the order of the code. -/
def unionShortcut (k : Nat) (fi : Option Nat) (a b : DD Bool) : Option (DD Bool) :=
  -- if (0==A && 0==B) { C = 0; return; }
  if a = .leaf false ∧ b = .leaf false then some (.leaf false)
  -- if (0==A) { copy_arg2res->compute(L, in, B, C); return; }
  else if a = .leaf false then some (copyTo Sb Sc k fi b)
  -- if ( (0 == B) || ((A==B)&&(arg1F==arg2F)) ) { copy_arg1res->compute(L, in, A, C); return; }
  else if b = .leaf false ∨ (a = b ∧ same = true) then some (copyTo Sa Sc k fi a)
  -- if (arg1F->isTerminalNode(A) && arg2F->isTerminalNode(B))
  --    both_identity ? makeIdentitiesTo(TRUE, 0, L, in) : makeRedundantsTo(TRUE, 0, L)
  else if isTerm a = true ∧ isTerm b = true then
    (if pa = .ident ∧ pb = .ident then some (chainTrue .ident Sc k fi)
     else some (chainTrue .fully Sc k fi))
  -- if ( (arg1F->isTerminalNode(A) && arg1F->isFullyReduced())
  --    || (arg2F->isTerminalNode(B) && arg2F->isFullyReduced()) ) makeRedundantsTo(TRUE, 0, L)
  else if (isTerm a = true ∧ pa = .fully) ∨ (isTerm b = true ∧ pb = .fully) then
    some (chainTrue .fully Sc k fi)
  else none

/-- `inter_mt::_compute`, "Check terminal cases" (with the repaired last test
    `(A == B) && ((arg1F==arg2F) || arg1F->isTerminalNode(A))`). -/
def interShortcut (k : Nat) (fi : Option Nat) (a b : DD Bool) : Option (DD Bool) :=
  -- if (A==0 || B==0) { C = 0; return; }
  if a = .leaf false ∨ b = .leaf false then some (.leaf false)
  -- if (arg1F->isTerminalNode(A)) if (L==0 || arg1F->isFullyReduced()) copy B
  else if isTerm a = true ∧ (k = 0 ∨ pa = .fully) then some (copyTo Sb Sc k fi b)
  -- if (arg2F->isTerminalNode(B)) if (L==0 || arg2F->isFullyReduced()) copy A
  else if isTerm b = true ∧ (k = 0 ∨ pb = .fully) then some (copyTo Sa Sc k fi a)
  -- if ((A == B) && ((arg1F==arg2F) || arg1F->isTerminalNode(A))) copy A
  else if a = b ∧ (same = true ∨ isTerm a = true) then some (copyTo Sa Sc k fi a)
  else none

/-- `diffr_mt::_compute`, "Check terminal cases". -/
def diffShortcut (pa pb : Policy) (same : Bool) (Sa _Sb Sc : Shape)
    (k : Nat) (fi : Option Nat) (a b : DD Bool) : Option (DD Bool) :=
  -- if (A==0) { C = 0; return; }
  if a = .leaf false then some (.leaf false)
  -- if (B < 0) { if (arg2F->isFullyReduced() || 0==L) { C = 0; return; } …
  else if b = .leaf true ∧ (pb = .fully ∨ k = 0) then some (.leaf false)
  --   … if (A < 0) { if (arg1F->isIdentityReduced()) { C = 0; return; } } }     (I - I)
  else if b = .leaf true ∧ a = .leaf true ∧ pa = .ident then some (.leaf false)
  -- if (B==0) copy A
  else if b = .leaf false then some (copyTo Sa Sc k fi a)
  -- if (A == B) { if (arg1F == arg2F && !force_by_levels) { C = 0; return; } }
  else if a = b ∧ same = true ∧ ¬ (pa = .fully ∧ pb = .ident) then some (.leaf false)
  else none

end Tables

/-! ### Building blocks: when is a copy / ∅ / TRUE / I a sound answer -/

section Blocks
variable {Sa Sb Sc : Shape} {f : Bool → Bool → Bool} {k : Nat} {fi : Option Nat} {a b : DD Bool}

abbrev AnsB (Sa Sb Sc : Shape) (f : Bool → Bool → Bool) (k : Nat) (fi : Option Nat)
    (a b r : DD Bool) : Prop :=
  AnswerSound Sa Sb Sc false false false f k fi a b r

/-- a copy of `d` from a forest `Sx` (`Sa`: `hn = hc.na`, `Sb`: `hn = hc.nb`) -/
theorem answer_copy (hSc : Sc.WF) (hc : Ctx Sa Sb Sc k fi) {Sx : Shape}
    (hn : fi = none → Sx.mode k ≠ .ident) {d : DD Bool}
    (h : ∀ x, f (eval Sa false k a x) (eval Sb false k b x) = eval Sx false k d x) :
    AnsB Sa Sb Sc f k fi a b (copyTo Sx Sc k fi d) := by
  refine ⟨fun x hx hr => ?_, copyTo_red Sx Sc hSc k fi d hc.nc⟩
  rw [copyTo_eval Sx Sc k fi d x hc.le hx (fi_of_mode hn hr) (fi_of_mode hc.nc hr), h x]

theorem answer_empty (h : ∀ x, f (eval Sa false k a x) (eval Sb false k b x) = false) :
    AnsB Sa Sb Sc f k fi a b (.leaf false) := by
  refine ⟨fun x _ _ => ?_, Red_leaf_zero Sc false k fi⟩
  rw [eval_leaf_zero, h x]

theorem answer_true (hSc : Sc.WF) (hc : Ctx Sa Sb Sc k fi)
    (h : ∀ x, f (eval Sa false k a x) (eval Sb false k b x) = true) :
    AnsB Sa Sb Sc f k fi a b (chainTrue .fully Sc k fi) := by
  refine ⟨fun x hx hr => ?_, copyTo_red _ Sc hSc k fi _ hc.nc⟩
  rw [chainTrue_fully_eval Sc k fi x hc.le hx (fi_of_mode hc.nc hr), h x]

theorem answer_identity (hSc : Sc.WF) (hac : SameVars Sa Sc) (hc : Ctx Sa Sb Sc k fi)
    (hpa : Sa.Has .ident)
    (h : ∀ x, f (eval Sa false k a x) (eval Sb false k b x) = eval Sa false k (.leaf true) x) :
    AnsB Sa Sb Sc f k fi a b (chainTrue .ident Sc k fi) := by
  refine ⟨fun x hx hr => ?_, copyTo_red _ Sc hSc k fi _ hc.nc⟩
  rw [h x]
  exact apply1_withPolicy_eval hpa Sc id k fi x hc.le (hac.top ▸ hc.le) hx
    (fi_of_mode hc.na hr) (fi_of_mode hc.nc hr) _

end Blocks

theorem ite_eq_elim {δ : Sort _} {c : Prop} [Decidable c] {u v w : δ} {P : Prop}
    (h1 : c → u = w → P) (h2 : ¬ c → v = w → P) : (if c then u else v) = w → P := by
  by_cases hc : c
  · rw [if_pos hc]; exact h1 hc
  · rw [if_neg hc]; exact h2 hc

theorem ite_some_elim {δ : Type _} {c : Prop} [Decidable c] {v r : δ} {o : Option δ}
    {P : δ → Prop} (h1 : c → P v) (h2 : ¬ c → o = some r → P r) :
    (if c then some v else o) = some r → P r :=
  ite_eq_elim (fun hc e => Option.some.inj e ▸ h1 hc) h2

section Cases
variable {pa pb : Policy} {Sa Sb Sc : Shape}

local notation "orF" => (fun p q : Bool => p || q)

theorem unionShortcut_sound (same : Bool) (hSc : Sc.WF) (hac : SameVars Sa Sc)
    (hbc : SameVars Sb Sc) (hpa : Sa.Has pa) (hpb : Sb.Has pb) (hsame : same = true → Sa = Sb) :
    ShortcutSound Sa Sb Sc false false false orF (unionShortcut pa pb same Sa Sb Sc) := by
  intro k fi a b r hc ha hb
  have hka : k ≤ Sa.top := hac.top ▸ hc.le
  have hkb : k ≤ Sb.top := hbc.top ▸ hc.le
  unfold unionShortcut
  refine ite_some_elim (fun h => ?_) fun _ => ?_
  · obtain ⟨rfl, rfl⟩ := h
    exact answer_empty fun x => by rw [eval_leaf_zero, eval_leaf_zero]; rfl
  refine ite_some_elim (fun h => ?_) fun ha0 => ?_
  · obtain rfl := h
    exact answer_copy hSc hc hc.nb fun x => by rw [eval_leaf_zero]; rfl
  refine ite_some_elim (fun h => ?_) fun h3 => ?_
  · refine answer_copy hSc hc hc.na fun x => ?_
    rcases h with rfl | ⟨rfl, hsm⟩
    · rw [eval_leaf_zero]; exact Bool.or_false _
    · cases hsame hsm; exact Bool.or_self _
  have hb0 : b ≠ .leaf false := fun h => h3 (Or.inl h)
  refine ite_eq_elim (fun h hs => ?_) fun _ => ?_
  · cases isTerm_bool h.1 ha0
    cases isTerm_bool h.2 hb0
    refine ite_eq_elim (fun h hr => ?_) (fun hni hr => ?_) hs <;> cases hr
    · obtain ⟨rfl, rfl⟩ := h
      exact answer_identity hSc hac hc hpa fun x => by
        rw [eval_same_policy hpb hpa false k hkb hka]; exact Bool.or_self _
    · -- one of the forests is not identity reduced: its legal TRUE is the constant TRUE
      refine answer_true hSc hc fun x => ?_
      by_cases hA : pa = .ident
      · rw [eval_true_of_ne_ident hpb hkb hb fun hB => hni ⟨hA, hB⟩]; exact Bool.or_true _
      · rw [eval_true_of_ne_ident hpa hka ha hA]; rfl
  refine ite_some_elim (fun h => ?_) fun _ => ?_
  · refine answer_true hSc hc fun x => ?_
    rcases h with ⟨ht, rfl⟩ | ⟨ht, rfl⟩
    · cases isTerm_bool ht ha0
      rw [eval_leaf_fully hpa false true k hka x]; rfl
    · cases isTerm_bool ht hb0
      rw [eval_leaf_fully hpb false true k hkb x]; exact Bool.or_true _
  · exact nofun

local notation "andF" => (fun p q : Bool => p && q)

theorem interShortcut_sound (same : Bool) (hSc : Sc.WF) (hac : SameVars Sa Sc)
    (hbc : SameVars Sb Sc) (hpa : Sa.Has pa) (hpb : Sb.Has pb) (hsame : same = true → Sa = Sb) :
    ShortcutSound Sa Sb Sc false false false andF (interShortcut pa pb same Sa Sb Sc) := by
  intro k fi a b r hc ha hb
  have hka : k ≤ Sa.top := hac.top ▸ hc.le
  have hkb : k ≤ Sb.top := hbc.top ▸ hc.le
  unfold interShortcut
  refine ite_some_elim (fun h => ?_) fun h1 => ?_
  · refine answer_empty fun x => ?_
    rcases h with rfl | rfl <;> rw [eval_leaf_zero]
    · rfl
    · exact Bool.and_false _
  have ha0 : a ≠ .leaf false := fun h => h1 (Or.inl h)
  have hb0 : b ≠ .leaf false := fun h => h1 (Or.inr h)
  refine ite_some_elim (fun h => ?_) fun h2 => ?_
  · obtain ⟨ht, h⟩ := h
    cases isTerm_bool ht ha0
    exact answer_copy hSc hc hc.nb fun x => by rw [eval_true_const hpa k hka h x]; rfl
  refine ite_some_elim (fun h => ?_) fun h3 => ?_
  · obtain ⟨ht, h⟩ := h
    cases isTerm_bool ht hb0
    exact answer_copy hSc hc hc.na fun x => by
      rw [eval_true_const hpb k hkb h x]; exact Bool.and_true _
  refine ite_some_elim (fun h => ?_) fun _ => ?_
  · obtain ⟨rfl, h⟩ := h
    refine answer_copy hSc hc hc.na fun x => ?_
    rcases h with hsm | ht
    · cases hsame hsm; exact Bool.and_self _
    · -- TRUE ∩ TRUE across two forests, neither test above fired (the repaired case):
      -- both forests are identity reduced, `I ∩ I = I`
      cases isTerm_bool ht ha0
      cases policy_ident_of_true hpa hka ha fun h => h2 ⟨rfl, h⟩
      cases policy_ident_of_true hpb hkb hb fun h => h3 ⟨rfl, h⟩
      rw [eval_same_policy hpb hpa false k hkb hka]; exact Bool.and_self _
  · exact nofun

local notation "diffF" => (fun p q : Bool => p && !q)

theorem diffShortcut_sound (same : Bool) (hSc : Sc.WF) (hac : SameVars Sa Sc)
    (hbc : SameVars Sb Sc) (hpa : Sa.Has pa) (hpb : Sb.Has pb) (hsame : same = true → Sa = Sb) :
    ShortcutSound Sa Sb Sc false false false diffF (diffShortcut pa pb same Sa Sb Sc) := by
  intro k fi a b r hc ha hb
  have hka : k ≤ Sa.top := hac.top ▸ hc.le
  have hkb : k ≤ Sb.top := hbc.top ▸ hc.le
  unfold diffShortcut
  refine ite_some_elim (fun h => ?_) fun _ => ?_
  · obtain rfl := h
    exact answer_empty fun x => by rw [eval_leaf_zero]; rfl
  refine ite_some_elim (fun h => ?_) fun h2 => ?_
  · obtain ⟨rfl, h⟩ := h
    exact answer_empty fun x => by
      rw [eval_true_const hpb k hkb h.symm x]; exact Bool.and_false _
  refine ite_some_elim (fun h => ?_) fun _ => ?_
  · obtain ⟨rfl, rfl, rfl⟩ := h
    -- `I − I = 0`: B is a legal TRUE in a forest that is not fully reduced, hence
    -- identity reduced like A's
    cases policy_ident_of_true hpb hkb hb fun h => h2 ⟨rfl, h.symm⟩
    exact answer_empty fun x => by
      rw [eval_same_policy hpb hpa false k hkb hka]; exact Bool.and_not_self _
  refine ite_some_elim (fun h => ?_) fun _ => ?_
  · obtain rfl := h
    exact answer_copy hSc hc hc.na fun x => by rw [eval_leaf_zero]; exact Bool.and_true _
  refine ite_some_elim (fun h => ?_) fun _ => ?_
  · obtain ⟨rfl, hsm, _⟩ := h
    cases hsame hsm
    exact answer_empty fun x => Bool.and_not_self _
  · exact nofun

end Cases

section WithShortcuts
variable (pa pb : Policy) (same : Bool) (Sa Sb Sc : Shape)

/-- UNION as coded: the recursion with the terminal cases of `union_mt` -/
def unionS (a b : DD Bool) : DD Bool :=
  applyS Sa Sb Sc false false false (fun p q => p || q) (unionShortcut pa pb same Sa Sb Sc)
    Sc.top none a b
def interS (a b : DD Bool) : DD Bool :=
  applyS Sa Sb Sc false false false (fun p q => p && q) (interShortcut pa pb same Sa Sb Sc)
    Sc.top none a b
def diffS (a b : DD Bool) : DD Bool :=
  applyS Sa Sb Sc false false false (fun p q => p && !q) (diffShortcut pa pb same Sa Sb Sc)
    Sc.top none a b

variable {pa pb same Sa Sb Sc}

/-- hypotheses on the three forests of an operation -/
structure Setup (pa pb : Policy) (same : Bool) (Sa Sb Sc : Shape) : Prop where
  wfa : Sa.WF
  wfb : Sb.WF
  wfc : Sc.WF
  ac : SameVars Sa Sc
  bc : SameVars Sb Sc
  hpa : Sa.Has pa
  hpb : Sb.Has pb
  hsame : same = true → Sa = Sb

theorem unionS_eq_apply2 (h : Setup pa pb same Sa Sb Sc) (a b : DD Bool)
    (ha : Red Sa false Sa.top none a = true) (hb : Red Sb false Sb.top none b = true) :
    unionS pa pb same Sa Sb Sc a b = union Sa Sb Sc a b :=
  applyS_eq_apply2 h.wfa h.wfb h.wfc h.ac h.bc
    (unionShortcut_sound same h.wfc h.ac h.bc h.hpa h.hpb h.hsame) ha hb

theorem interS_eq_apply2 (h : Setup pa pb same Sa Sb Sc) (a b : DD Bool)
    (ha : Red Sa false Sa.top none a = true) (hb : Red Sb false Sb.top none b = true) :
    interS pa pb same Sa Sb Sc a b = inter Sa Sb Sc a b :=
  applyS_eq_apply2 h.wfa h.wfb h.wfc h.ac h.bc
    (interShortcut_sound same h.wfc h.ac h.bc h.hpa h.hpb h.hsame) ha hb

theorem diffS_eq_apply2 (h : Setup pa pb same Sa Sb Sc) (a b : DD Bool)
    (ha : Red Sa false Sa.top none a = true) (hb : Red Sb false Sb.top none b = true) :
    diffS pa pb same Sa Sb Sc a b = diff Sa Sb Sc a b :=
  applyS_eq_apply2 h.wfa h.wfb h.wfc h.ac h.bc
    (diffShortcut_sound same h.wfc h.ac h.bc h.hpa h.hpb h.hsame) ha hb

theorem unionS_eval (h : Setup pa pb same Sa Sb Sc) (a b : DD Bool)
    (ha : Red Sa false Sa.top none a = true) (hb : Red Sb false Sb.top none b = true)
    (x : Assign) (hx : Assign.Valid Sc x) :
    eval Sc false Sc.top (unionS pa pb same Sa Sb Sc a b) x
      = (eval Sa false Sa.top a x || eval Sb false Sb.top b x) := by
  rw [unionS_eq_apply2 h a b ha hb]; exact union_eval h.wfa h.wfb h.wfc h.ac h.bc a b x hx

theorem interS_eval (h : Setup pa pb same Sa Sb Sc) (a b : DD Bool)
    (ha : Red Sa false Sa.top none a = true) (hb : Red Sb false Sb.top none b = true)
    (x : Assign) (hx : Assign.Valid Sc x) :
    eval Sc false Sc.top (interS pa pb same Sa Sb Sc a b) x
      = (eval Sa false Sa.top a x && eval Sb false Sb.top b x) := by
  rw [interS_eq_apply2 h a b ha hb]; exact inter_eval h.wfa h.wfb h.wfc h.ac h.bc a b x hx

theorem diffS_eval (h : Setup pa pb same Sa Sb Sc) (a b : DD Bool)
    (ha : Red Sa false Sa.top none a = true) (hb : Red Sb false Sb.top none b = true)
    (x : Assign) (hx : Assign.Valid Sc x) :
    eval Sc false Sc.top (diffS pa pb same Sa Sb Sc a b) x
      = (eval Sa false Sa.top a x && !eval Sb false Sb.top b x) := by
  rw [diffS_eq_apply2 h a b ha hb]; exact diff_eval h.wfa h.wfb h.wfc h.ac h.bc a b x hx

theorem unionS_red (h : Setup pa pb same Sa Sb Sc) (a b : DD Bool)
    (ha : Red Sa false Sa.top none a = true) (hb : Red Sb false Sb.top none b = true) :
    Red Sc false Sc.top none (unionS pa pb same Sa Sb Sc a b) = true := by
  rw [unionS_eq_apply2 h a b ha hb]; exact union_red h.wfc a b

theorem interS_red (h : Setup pa pb same Sa Sb Sc) (a b : DD Bool)
    (ha : Red Sa false Sa.top none a = true) (hb : Red Sb false Sb.top none b = true) :
    Red Sc false Sc.top none (interS pa pb same Sa Sb Sc a b) = true := by
  rw [interS_eq_apply2 h a b ha hb]; exact inter_red h.wfc a b

theorem diffS_red (h : Setup pa pb same Sa Sb Sc) (a b : DD Bool)
    (ha : Red Sa false Sa.top none a = true) (hb : Red Sb false Sb.top none b = true) :
    Red Sc false Sc.top none (diffS pa pb same Sa Sb Sc a b) = true := by
  rw [diffS_eq_apply2 h a b ha hb]; exact diff_red h.wfc a b

end WithShortcuts

/-! ## 4. Level skipping

  When neither operand is stored at position `k+1` the real operations do not
  build a node there: they recurse at the next position where something is
  stored and afterwards *chain* the result up (`chainToLevel`:
  `makeRedundantsTo` / `makeIdentitiesTo`, and `redirectSingleton`).  Two
  patterns (comments in the constructors of `union_mt`, `inter_mt`, `diffr_mt`):
    * fully pattern, "skip by top level":   every child is the same sub-result;
    * identity pattern, "skip by unprimed": only the diagonal child is the
      sub-result, all others are transparent.                                  -/

section Skip
variable (Sa Sb Sc : Shape) (za : α) (zb : β) (zc : γ) (f : α → β → γ)

section
variable {S : Shape} {zero : α} {k : Nat}

theorem cofactor_skip_nonident {fi : Option Nat} {d : DD α} {i : Nat}
    (hd : d.isNodeAt k = false) (hm : S.mode k ≠ .ident) : cofactor S zero k fi d i = d := by
  rw [cofactor_skip S zero k fi i hd, if_neg hm]

theorem cofactor_fi_irrel (fi fj : Option Nat) (d : DD α) (i : Nat) (hm : S.mode k ≠ .ident) :
    cofactor S zero k fi d i = cofactor S zero k fj d i := by
  rcases storedAt_cases k d with ⟨cs, rfl⟩ | hd
  · rw [cofactor_node, cofactor_node]
  · rw [cofactor_skip_nonident hd hm, cofactor_skip_nonident hd hm]

theorem cofactor_skip_diag {i : Nat} {d : DD α} (hd : d.isNodeAt k = false) :
    cofactor S zero k (some i) d i = d := by
  rw [cofactor_skip S zero k (some i) i hd]
  split
  · exact if_pos rfl
  · rfl

theorem cofactor_skip_offdiag {i j : Nat} {d : DD α} (hd : d.isNodeAt k = false)
    (hm : S.mode k = .ident) (hij : j ≠ i) : cofactor S zero k (some i) d j = .leaf zero := by
  rw [cofactor_skip S zero k (some i) j hd, if_pos hm]
  exact if_neg hij

theorem cofactor_leaf_zero {fi : Option Nat} {i : Nat} :
    cofactor S zero k fi (.leaf zero) i = .leaf zero :=
  (cofactor_skip_cases S zero k fi (d := .leaf zero) i rfl).elim id id

theorem mkNode_fi_irrel (fi fj : Option Nat) (cs : List (DD α)) (hm : S.mode k ≠ .ident) :
    mkNode S zero k fi cs = mkNode S zero k fj cs := by
  unfold mkNode
  cases h : S.mode k with
  | red | none => rfl
  | ident => exact absurd h hm

theorem mkNode_all_zero {fi : Option Nat} {cs : List (DD α)} (h : ∀ c, c ∈ cs → c = .leaf zero) :
    mkNode S zero k fi cs = .leaf zero :=
  if_pos (List.all_eq_true.mpr fun c hc => beq_iff_eq.mpr (h c hc))

theorem mkNode_red_const {fi : Option Nat} {cs : List (DD α)} {r : DD α} (hm : S.mode k = .red)
    (hne : cs ≠ []) (hall : ∀ c, c ∈ cs → c = r) : mkNode S zero k fi cs = r := by
  obtain ⟨c0, cs', rfl⟩ := List.exists_cons_of_ne_nil hne
  have hc0 : c0 = r := hall c0 (List.mem_cons_self ..)
  unfold mkNode
  by_cases hz : (c0 :: cs').all (fun c => c == .leaf zero) = true
  · rw [if_pos hz, ← hc0, beq_iff_eq.mp (List.all_eq_true.mp hz c0 (List.mem_cons_self ..))]
  · rw [if_neg hz]
    simp only [hm]
    rw [if_pos]
    · exact hc0
    · exact List.all_eq_true.mpr fun c hc => beq_iff_eq.mpr ((hall c hc).trans hc0.symm)

theorem mkNode_map_range_const {fi : Option Nat} {n : Nat} {g : Nat → DD α} {r : DD α}
    (hm : S.mode k = .red) (hpos : 0 < n) (hall : ∀ i, i < n → g i = r) :
    mkNode S zero k fi ((List.range n).map g) = r :=
  mkNode_red_const hm (List.ne_nil_of_length_pos (by rw [length_map_range]; exact hpos))
    (List.forall_mem_map.mpr fun i hi => hall i (List.mem_range.mp hi))

theorem mkNode_singleton {i : Nat} {cs : List (DD α)} (hm : S.mode k = .ident)
    (hs : isSingletonList zero i cs = true) :
    mkNode S zero k (some i) cs = cs.getD i (.leaf zero) := by
  have hz : ¬ cs.all (fun c => c == .leaf zero) = true :=
    fun h => ((isSingletonList_iff zero i cs).mp hs).2.2 (all_leaf_zero_getD zero cs h i)
  rw [mkNode, if_neg hz]
  simp only [hm, hs, if_true]

end

/-! ### `redirectSingleton` -/

/-- child `i` of a stored node -/
def childAt (zero : α) (i : Nat) : DD α → DD α
  | .leaf v => .leaf v
  | .node _ cs => cs.getD i (.leaf zero)

/-- `forest::redirectSingleton(i, p)` at position `k`: an edge from index `i` must
    not point to an `i`-singleton of an `ident` position; it points to the
    singleton's child instead. -/
def redirect (S : Shape) (zero : α) (k i : Nat) (r : DD α) : DD α :=
  if S.mode k = .ident ∧ isSingleton zero k i r = true then childAt zero i r else r

/-- one step of `makeRedundantsTo` (+ `redirectSingleton`) in the result forest:
    a node all of whose children are the sub-result `r` -/
def redStep (k : Nat) (fi : Option Nat) (r : DD γ) : DD γ :=
  mkNode Sc zc k fi ((List.range (Sc.size k)).map fun i => redirect Sc zc (k-1) i r)

/-- the primed half of one step of `makeIdentitiesTo`: only child `i0` (the index
    we came from) is the sub-result `r` -/
def identHalf (k i0 : Nat) (r : DD γ) : DD γ :=
  mkNode Sc zc k (some i0)
    ((List.range (Sc.size k)).map fun j => if j = i0 then r else .leaf zc)

/-- when is the off-diagonal of an identity pattern transparent -/
def OffDiag (p : Nat) : Prop :=
  (Sa.mode p = .ident ∧ Sb.mode p = .ident ∧ f za zb = zc) ∨
  (Sa.mode p = .ident ∧ Sb.mode p ≠ .ident ∧ ∀ y, f za y = zc) ∨
  (Sa.mode p ≠ .ident ∧ Sb.mode p = .ident ∧ ∀ x, f x zb = zc)

section
variable {S : Shape} {zero : α} {k i : Nat}

theorem redirect_nonident {r : DD α} (hm : S.mode k ≠ .ident) : redirect S zero k i r = r :=
  if_neg fun h => hm h.1

theorem redirect_leaf {v : α} : redirect S zero k i (.leaf v) = .leaf v :=
  if_neg fun h => nomatch h.2

/-- `createReducedNode` knowing the incoming index = `createReducedNode` not
    knowing it, followed by `redirectSingleton` -/
theorem mkNode_some_eq_redirect (cs : List (DD α)) :
    mkNode S zero k (some i) cs = redirect S zero k i (mkNode S zero k none cs) := by
  by_cases hm : S.mode k = .ident
  · unfold mkNode
    by_cases hz : cs.all (fun c => c == .leaf zero) = true
    · rw [if_pos hz, if_pos hz, redirect_leaf]
    · rw [if_neg hz, if_neg hz]
      simp only [hm]
      unfold redirect
      rw [isSingleton_node_eq]
      by_cases hs : isSingletonList zero i cs = true
      · rw [if_pos hs, if_pos ⟨hm, hs⟩]; rfl
      · rw [if_neg hs, if_neg (fun h => hs h.2)]
  · rw [redirect_nonident hm]
    exact mkNode_fi_irrel _ _ cs hm

end

section
variable {Sa Sb Sc} {za} {zb} {zc} {f} {k : Nat}

theorem apply2_fi_irrel (fi fj : Option Nat) (a : DD α) (b : DD β)
    (ha : Sa.mode k ≠ .ident) (hb : Sb.mode k ≠ .ident) (hc : Sc.mode k ≠ .ident) :
    apply2 Sa Sb Sc za zb zc f k fi a b = apply2 Sa Sb Sc za zb zc f k fj a b := by
  cases k with
  | zero => rw [apply2_zero, apply2_zero]
  | succ k =>
    rw [apply2_succ, apply2_succ, mkNode_fi_irrel fi fj _ hc]
    refine mkNode_map_range_congr fun i _ => ?_
    rw [cofactor_fi_irrel fi fj a i ha, cofactor_fi_irrel fi fj b i hb]

/-- `apply2` is transparent when both operands are and `f zero zero = zero` (∪, ∩, −), or one
    operand is and `f` absorbs it: `f zero y = zero` (∩, −), `f x zero = zero` (∩) -/
theorem apply2_eq_zero (k : Nat) (fi : Option Nat) (a : DD α) (b : DD β)
    (h : (a = .leaf za ∧ b = .leaf zb ∧ f za zb = zc) ∨ (a = .leaf za ∧ ∀ y, f za y = zc) ∨
      (b = .leaf zb ∧ ∀ x, f x zb = zc)) :
    apply2 Sa Sb Sc za zb zc f k fi a b = .leaf zc := by
  induction k generalizing fi a b with
  | zero =>
    rw [apply2_zero]
    rcases h with ⟨rfl, rfl, hf⟩ | ⟨rfl, hf⟩ | ⟨rfl, hf⟩
    · exact congrArg _ hf
    · exact congrArg _ (hf _)
    · exact congrArg _ (hf _)
  | succ k ih =>
    rw [apply2_succ]
    refine mkNode_all_zero (List.forall_mem_map.mpr fun i _ => ih _ _ _ ?_)
    rcases h with ⟨rfl, rfl, hf⟩ | ⟨rfl, hf⟩ | ⟨rfl, hf⟩
    · exact Or.inl ⟨cofactor_leaf_zero, cofactor_leaf_zero, hf⟩
    · exact Or.inr (Or.inl ⟨cofactor_leaf_zero, hf⟩)
    · exact Or.inr (Or.inr ⟨cofactor_leaf_zero, hf⟩)

/-- the sub-result computed not knowing the index, redirected, is the
    sub-result computed knowing the index -/
theorem apply2_some_eq_redirect (i : Nat) (a : DD α) (b : DD β)
    (ha : Sa.mode k ≠ .ident) (hb : Sb.mode k ≠ .ident) :
    apply2 Sa Sb Sc za zb zc f k (some i) a b
      = redirect Sc zc k i (apply2 Sa Sb Sc za zb zc f k none a b) := by
  cases k with
  | zero => rw [apply2_zero, apply2_zero, redirect_leaf]
  | succ k =>
    rw [apply2_succ, apply2_succ, mkNode_some_eq_redirect]
    refine congrArg _ (mkNode_map_range_congr fun j _ => ?_)
    rw [cofactor_fi_irrel (some i) none a j ha, cofactor_fi_irrel (some i) none b j hb]

/-- **fully pattern.**  Both operands skip position `k+1`, which is `ident` in
    neither operand forest, nor is position `k`: every child of the result is the
    sub-result at `k`. -/
theorem apply2_skip_red {fi : Option Nat} {a : DD α} {b : DD β}
    (hsa : a.isNodeAt (k+1) = false) (hsb : b.isNodeAt (k+1) = false)
    (ha1 : Sa.mode (k+1) ≠ .ident) (hb1 : Sb.mode (k+1) ≠ .ident)
    (ha0 : Sa.mode k ≠ .ident) (hb0 : Sb.mode k ≠ .ident) :
    apply2 Sa Sb Sc za zb zc f (k+1) fi a b
      = redStep Sc zc (k+1) fi (apply2 Sa Sb Sc za zb zc f k none a b) := by
  rw [apply2_succ]
  refine mkNode_map_range_congr fun i _ => ?_
  rw [cofactor_skip_nonident hsa ha1, cofactor_skip_nonident hsb hb1]
  exact apply2_some_eq_redirect i a b ha0 hb0

/-- **identity pattern.**  Both operands skip the primed position `k+1`, entered
    through index `i0`; at least one operand forest is `ident` there and the
    off-diagonal entries are transparent: only child `i0` is the sub-result. -/
theorem apply2_skip_primed {i0 : Nat} {a : DD α} {b : DD β}
    (hsa : a.isNodeAt (k+1) = false) (hsb : b.isNodeAt (k+1) = false)
    (hod : OffDiag Sa Sb za zb zc f (k+1))
    (ha0 : Sa.mode k ≠ .ident) (hb0 : Sb.mode k ≠ .ident) (hc0 : Sc.mode k ≠ .ident) :
    apply2 Sa Sb Sc za zb zc f (k+1) (some i0) a b
      = identHalf Sc zc (k+1) i0 (apply2 Sa Sb Sc za zb zc f k none a b) := by
  rw [apply2_succ]
  refine mkNode_map_range_congr fun j _ => ?_
  by_cases hj : j = i0
  · subst hj
    rw [if_pos rfl, cofactor_skip_diag hsa, cofactor_skip_diag hsb]
    exact apply2_fi_irrel _ _ a b ha0 hb0 hc0
  · rw [if_neg hj]
    refine apply2_eq_zero k _ _ _ ?_
    rcases hod with ⟨hma, hmb, hf⟩ | ⟨hma, _, hf⟩ | ⟨_, hmb, hf⟩
    · exact Or.inl ⟨cofactor_skip_offdiag hsa hma hj, cofactor_skip_offdiag hsb hmb hj, hf⟩
    · exact Or.inr (Or.inl ⟨cofactor_skip_offdiag hsa hma hj, hf⟩)
    · exact Or.inr (Or.inr ⟨cofactor_skip_offdiag hsb hmb hj, hf⟩)

/-! ### When the result forest follows the same pattern the chain vanishes -/

/-- fully pattern into a `red` position of the result: nothing to build -/
theorem redStep_red {fi : Option Nat} {r : DD γ}
    (hm : Sc.mode (k+1) = .red) (h0 : Sc.mode k ≠ .ident) (hpos : 0 < Sc.size (k+1)) :
    redStep Sc zc (k+1) fi r = r :=
  mkNode_map_range_const hm hpos fun _ _ => redirect_nonident h0

/-- identity pattern into an `ident` position of the result: nothing to build -/
theorem identHalf_ident {i0 : Nat} {r : DD γ} (hm : Sc.mode k = .ident) (hi : i0 < Sc.size k) :
    identHalf Sc zc k i0 r = r := by
  unfold identHalf
  by_cases hr0 : r = .leaf zc
  · rw [hr0]
    exact mkNode_all_zero (List.forall_mem_map.mpr fun _ _ => ite_self _)
  · have hget : ((List.range (Sc.size k)).map fun j => if j = i0 then r else .leaf zc).getD i0
        (.leaf zc) = r := by
      rw [getD_map_range _ _ _ hi, if_pos rfl]
    rw [mkNode_singleton hm, hget]
    refine (isSingletonList_iff _ _ _).mpr
      ⟨by rw [length_map_range]; exact hi, fun j hj => ?_, by rw [hget]; exact hr0⟩
    rw [length_map_range] at hj
    rw [getD_map_range _ _ _ hj]
    by_cases hji : j = i0
    · exact Or.inl hji
    · exact Or.inr (if_neg hji)

end

/-- **fully pattern, all three forests** ("skip by top level"): recurse directly
    at the next position. -/
theorem apply2_skip_red_same (k : Nat) (fi : Option Nat) (a : DD α) (b : DD β)
    (hsa : a.isNodeAt (k+1) = false) (hsb : b.isNodeAt (k+1) = false)
    (ha1 : Sa.mode (k+1) ≠ .ident) (hb1 : Sb.mode (k+1) ≠ .ident) (hc1 : Sc.mode (k+1) = .red)
    (ha0 : Sa.mode k ≠ .ident) (hb0 : Sb.mode k ≠ .ident) (hc0 : Sc.mode k ≠ .ident)
    (hpos : 0 < Sc.size (k+1)) :
    apply2 Sa Sb Sc za zb zc f (k+1) fi a b = apply2 Sa Sb Sc za zb zc f k none a b := by
  rw [apply2_skip_red hsa hsb ha1 hb1 ha0 hb0, redStep_red hc1 hc0 hpos]

/-- **identity pattern, a whole unprimed/primed pair** ("skip by unprimed"):
    positions `k+2` (unprimed, `red`) and `k+1` (primed) are skipped by both
    operands, the result forest is `red`/`ident` there: recurse directly at `k`. -/
theorem apply2_skip_pair_same (k : Nat) (fi : Option Nat) (a : DD α) (b : DD β)
    (hsa2 : a.isNodeAt (k+2) = false) (hsb2 : b.isNodeAt (k+2) = false)
    (hsa : a.isNodeAt (k+1) = false) (hsb : b.isNodeAt (k+1) = false)
    (ha2 : Sa.mode (k+2) ≠ .ident) (hb2 : Sb.mode (k+2) ≠ .ident) (hc2 : Sc.mode (k+2) = .red)
    (hod : OffDiag Sa Sb za zb zc f (k+1)) (hc1 : Sc.mode (k+1) = .ident)
    (ha0 : Sa.mode k ≠ .ident) (hb0 : Sb.mode k ≠ .ident) (hc0 : Sc.mode k ≠ .ident)
    (hsz : Sc.size (k+2) ≤ Sc.size (k+1)) (hpos : 0 < Sc.size (k+2)) :
    apply2 Sa Sb Sc za zb zc f (k+2) fi a b = apply2 Sa Sb Sc za zb zc f k none a b := by
  rw [apply2_succ]
  refine mkNode_map_range_const hc2 hpos fun i hi => ?_
  rw [cofactor_skip_nonident hsa2 ha2, cofactor_skip_nonident hsb2 hb2,
    apply2_skip_primed hsa hsb hod ha0 hb0 hc0,
    identHalf_ident hc1 (Nat.lt_of_lt_of_le hi hsz)]

/-! ### `applySkip`: the recursion that skips -/

/-- which skipping step applies at position `k`:
    `none` = build a node; `some none` = fully pattern; `some (some i)` =
    identity pattern, entered through index `i`. -/
def skipKind (skR skP : Nat → Bool) (k : Nat) (fi : Option Nat) (a : DD α) (b : DD β) :
    Option (Option Nat) :=
  if a.isNodeAt k || b.isNodeAt k then none
  else if skR k then some none
  else if skP k then (match fi with | some i => some (some i) | none => none)
  else none

/-- `apply2` that does not build nodes at positions both operands skip, when the
    rule (`skR`: fully pattern allowed at this position; `skP`: identity pattern
    allowed at this primed position) says so. -/
def applySkip (skR skP : Nat → Bool) : Nat → Option Nat → DD α → DD β → DD γ
  | 0, _, a, b => .leaf (f (leafVal za a) (leafVal zb b))
  | k+1, fi, a, b =>
    match skipKind skR skP (k+1) fi a b with
    | some none => redStep Sc zc (k+1) fi (applySkip skR skP k none a b)
    | some (some i0) => identHalf Sc zc (k+1) i0 (applySkip skR skP k none a b)
    | none =>
      mkNode Sc zc (k+1) fi
        ((List.range (Sc.size (k+1))).map fun i =>
          applySkip skR skP k (some i)
            (cofactor Sa za (k+1) fi a i) (cofactor Sb zb (k+1) fi b i))

/-- The mode conditions under which the rule may skip. -/
structure SkipOK (skR skP : Nat → Bool) : Prop where
  red : ∀ k, k+1 ≤ Sc.top → skR (k+1) = true →
    Sa.mode (k+1) ≠ .ident ∧ Sb.mode (k+1) ≠ .ident ∧ Sa.mode k ≠ .ident ∧ Sb.mode k ≠ .ident
  primed : ∀ k, k+1 ≤ Sc.top → skP (k+1) = true →
    OffDiag Sa Sb za zb zc f (k+1) ∧
      Sa.mode k ≠ .ident ∧ Sb.mode k ≠ .ident ∧ Sc.mode k ≠ .ident

/-- a skipping step is taken only where both operands skip and the rule allows the pattern;
    the identity pattern needs the arriving index -/
theorem skipKind_some {skR skP : Nat → Bool} {k : Nat} {fi : Option Nat} {a : DD α} {b : DD β}
    {o : Option Nat} :
    skipKind skR skP k fi a b = some o →
      a.isNodeAt k = false ∧ b.isNodeAt k = false ∧
        match o with
        | none => skR k = true
        | some i0 => skP k = true ∧ fi = some i0 := by
  unfold skipKind
  refine ite_eq_elim nofun fun hn => ?_
  obtain ⟨ha, hb⟩ := Bool.or_eq_false_iff.mp (Bool.of_not_eq_true hn)
  refine ite_eq_elim (fun hr h => ?_) fun _ => ite_eq_elim (fun hp h => ?_) fun _ => nofun
  · cases h; exact ⟨ha, hb, hr⟩
  · cases fi with
    | none => cases h
    | some i => cases h; exact ⟨ha, hb, hp, rfl⟩

variable {Sa Sb Sc} {za} {zb} {zc} {f} in
/-- One step of the recursion that skips, whatever computes the sub-results: `r0`
    below a skipped position, `ch i` for child `i` of a node that is built. -/
theorem skip_step_eq_apply2 {skR skP : Nat → Bool} (hok : SkipOK Sa Sb Sc za zb zc f skR skP)
    {k : Nat} (hk : k+1 ≤ Sc.top) {fi : Option Nat} {a : DD α} {b : DD β} {r0 : DD γ}
    {ch : Nat → DD γ}
    (h0 : a.isNodeAt (k+1) = false → b.isNodeAt (k+1) = false →
      r0 = apply2 Sa Sb Sc za zb zc f k none a b)
    (hch : ∀ i, i < Sc.size (k+1) → ch i = apply2 Sa Sb Sc za zb zc f k (some i)
      (cofactor Sa za (k+1) fi a i) (cofactor Sb zb (k+1) fi b i)) :
    (match skipKind skR skP (k+1) fi a b with
      | some none => redStep Sc zc (k+1) fi r0
      | some (some i0) => identHalf Sc zc (k+1) i0 r0
      | none => mkNode Sc zc (k+1) fi ((List.range (Sc.size (k+1))).map ch))
      = apply2 Sa Sb Sc za zb zc f (k+1) fi a b := by
  cases hsk : skipKind skR skP (k+1) fi a b with
  | none =>
    rw [apply2_succ]
    exact mkNode_map_range_congr hch
  | some o =>
    cases o with
    | none =>
      obtain ⟨hsa, hsb, hr⟩ := skipKind_some hsk
      obtain ⟨ha1, hb1, ha0, hb0⟩ := hok.red k hk hr
      rw [h0 hsa hsb, apply2_skip_red hsa hsb ha1 hb1 ha0 hb0]
    | some i0 =>
      obtain ⟨hsa, hsb, hp, rfl⟩ := skipKind_some hsk
      obtain ⟨hod, ha0, hb0, hc0⟩ := hok.primed k hk hp
      rw [h0 hsa hsb, apply2_skip_primed hsa hsb hod ha0 hb0 hc0]

/-- Level skipping is a pure optimisation: no hypothesis on the operand trees. -/
theorem applySkip_eq_apply2 (skR skP : Nat → Bool) (hok : SkipOK Sa Sb Sc za zb zc f skR skP) :
    ∀ (k : Nat), k ≤ Sc.top → ∀ (fi : Option Nat) (a : DD α) (b : DD β),
      applySkip Sa Sb Sc za zb zc f skR skP k fi a b = apply2 Sa Sb Sc za zb zc f k fi a b := by
  intro k
  induction k with
  | zero => intro _ fi a b; rw [applySkip, apply2_zero]
  | succ k ih =>
    intro hk fi a b
    rw [applySkip]
    exact skip_step_eq_apply2 hok hk (fun _ _ => ih (by omega) _ _ _) fun i _ => ih (by omega) _ _ _

/-! ### Shortcuts *and* skipping: the recursion as coded

  `_compute(L, in, A, B)`: (1) terminal cases; (2) `Clevel = topLevelOf(L, …)`:
  while both operands skip, no node is built (and the terminal cases are not
  re-tested: they depend on `A`, `B` only); (3) build the node at `Clevel`, the
  children being recursive calls; (4) chain the result up to `L`.             -/

/-- steps (2)–(4) -/
def applyFull (sc : Nat → Option Nat → DD α → DD β → Option (DD γ)) (skR skP : Nat → Bool) :
    Nat → Option Nat → DD α → DD β → DD γ
  | 0, _, a, b => .leaf (f (leafVal za a) (leafVal zb b))
  | k+1, fi, a, b =>
    match skipKind skR skP (k+1) fi a b with
    | some none => redStep Sc zc (k+1) fi (applyFull sc skR skP k none a b)
    | some (some i0) => identHalf Sc zc (k+1) i0 (applyFull sc skR skP k none a b)
    | none =>
      mkNode Sc zc (k+1) fi
        ((List.range (Sc.size (k+1))).map fun i =>
          match sc k (some i) (cofactor Sa za (k+1) fi a i) (cofactor Sb zb (k+1) fi b i) with
          | some r => r
          | none => applyFull sc skR skP k (some i)
              (cofactor Sa za (k+1) fi a i) (cofactor Sb zb (k+1) fi b i))

/-- steps (1)–(4) -/
def applyFullS (sc : Nat → Option Nat → DD α → DD β → Option (DD γ)) (skR skP : Nat → Bool)
    (k : Nat) (fi : Option Nat) (a : DD α) (b : DD β) : DD γ :=
  match sc k fi a b with
  | some r => r
  | none => applyFull Sa Sb Sc za zb zc f sc skR skP k fi a b

theorem applyFull_eq_apply2 (sc : Nat → Option Nat → DD α → DD β → Option (DD γ))
    (skR skP : Nat → Bool) (hSc : Sc.WF) (hac : SameVars Sa Sc) (hbc : SameVars Sb Sc)
    (hsc : ShortcutSound Sa Sb Sc za zb zc f sc) (hok : SkipOK Sa Sb Sc za zb zc f skR skP)
    (k : Nat) (hk : k ≤ Sc.top) (fi : Option Nat) (a : DD α) (b : DD β)
    (hra : Red Sa za k fi a = true) (hrb : Red Sb zb k fi b = true) :
    applyFull Sa Sb Sc za zb zc f sc skR skP k fi a b = apply2 Sa Sb Sc za zb zc f k fi a b := by
  induction k generalizing fi a b with
  | zero => rw [applyFull, apply2_zero]
  | succ k ih =>
    rw [applyFull]
    refine skip_step_eq_apply2 hok hk
      (fun hsa hsb => ih (by omega) none a b (Red_succ_skip Sa za k fi hsa hra).2
        (Red_succ_skip Sb zb k fi hsb hrb).2) fun i hi => ?_
    have hra' := Red_cofactor Sa za k fi fi a hra i (hac.size _ ▸ hi)
    have hrb' := Red_cofactor Sb zb k fi fi b hrb i (hbc.size _ ▸ hi)
    have hctx : Ctx Sa Sb Sc k (some i) := Ctx.at_index (by omega) hi
    cases hs : sc k (some i) (cofactor Sa za (k+1) fi a i) (cofactor Sb zb (k+1) fi b i) with
    | some r => exact (hsc k (some i) _ _ r hctx hra' hrb' hs).eq_apply2 hSc hctx
    | none => exact ih (by omega) _ _ _ hra' hrb'

/-- The recursion as coded — terminal shortcuts, level skipping, chaining —
    returns the tree of the plain recursion, at every step. -/
theorem applyFullS_eq_apply2 (sc : Nat → Option Nat → DD α → DD β → Option (DD γ))
    (skR skP : Nat → Bool) (hSc : Sc.WF) (hac : SameVars Sa Sc) (hbc : SameVars Sb Sc)
    (hsc : ShortcutSound Sa Sb Sc za zb zc f sc) (hok : SkipOK Sa Sb Sc za zb zc f skR skP)
    (k : Nat) (fi : Option Nat) (a : DD α) (b : DD β) (hc : Ctx Sa Sb Sc k fi)
    (hra : Red Sa za k fi a = true) (hrb : Red Sb zb k fi b = true) :
    applyFullS Sa Sb Sc za zb zc f sc skR skP k fi a b = apply2 Sa Sb Sc za zb zc f k fi a b := by
  unfold applyFullS
  cases hs : sc k fi a b with
  | some r => exact (hsc k fi a b r hc hra hrb hs).eq_apply2 hSc hc
  | none =>
    exact applyFull_eq_apply2 Sa Sb Sc za zb zc f sc skR skP hSc hac hbc hsc hok k hc.le fi a b
      hra hrb

end Skip

/-! ### Which reduction-rule combinations skip how (constructors of `union_mt`,
    `inter_mt`, `diffr_mt`) -/

/-- the two flags that drive `topLevelOf` / `chainToLevel` -/
structure SkipRule where
  /-- "fully pattern: skip by top level" -/
  fullyPattern : Bool
  /-- "identity pattern: skip by unprimed" -/
  identPattern : Bool
  deriving DecidableEq, Repr

/-- the fully pattern may skip any position -/
def SkipRule.skR (r : SkipRule) (_ : Nat) : Bool := r.fullyPattern
/-- the identity pattern skips primed (odd) positions (the unprimed position above
    then carries the node all of whose children are identity halves: this is what
    `makeIdentitiesTo` builds; in an identity-reduced result forest it vanishes) -/
def SkipRule.skP (r : SkipRule) (p : Nat) : Bool := r.identPattern && p % 2 == 1

/-- `union_mt`: `both_fully`, `both_identity`; `by_levels = !(both_fully || both_identity)`
    (in particular `forced_by_levels`, fully × identity, goes by levels). -/
def unionRule (pa pb : Policy) : SkipRule :=
  ⟨decide (pa = .fully ∧ pb = .fully), decide (pa = .ident ∧ pb = .ident)⟩

/-- `inter_mt`: `identity_pattern = (arg1 ident && !arg2 quasi) || (arg2 ident && !arg1 quasi)`;
    otherwise `topLevel(Alevel, Blevel)`, which skips only when both are fully reduced
    (a legal non-empty node of a quasi-reduced forest sits at every level: `quasi_no_skip`). -/
def interRule (pa pb : Policy) : SkipRule :=
  ⟨decide (pa = .fully ∧ pb = .fully),
   decide ((pa = .ident ∧ pb ≠ .quasi) ∨ (pb = .ident ∧ pa ≠ .quasi))⟩

/-- `diffr_mt`: `force_by_unprimed = arg1 ident && !arg2 quasi`;
    `force_by_levels = arg1 fully && arg2 ident` (no skipping). -/
def diffRule (pa pb : Policy) : SkipRule :=
  ⟨decide (pa = .fully ∧ pb = .fully), decide (pa = .ident ∧ pb ≠ .quasi)⟩

/-- `by_levels` of `union_mt` -/
def unionByLevels (pa pb : Policy) : Bool :=
  !((unionRule pa pb).fullyPattern || (unionRule pa pb).identPattern)
/-- `forced_by_levels` of `union_mt` / `force_by_levels` of `diffr_mt` (one direction) -/
def forcedByLevels (pa pb : Policy) : Bool :=
  decide ((pa = .fully ∧ pb = .ident) ∨ (pb = .fully ∧ pa = .ident))

example : ∀ pa pb, forcedByLevels pa pb = true → unionByLevels pa pb = true := by
  intro pa pb; cases pa <;> cases pb <;> decide
example : (diffRule .fully .ident) = ⟨false, false⟩ := by decide
example : (interRule .fully .ident) = ⟨false, true⟩ := by decide
example : (unionRule .fully .ident) = ⟨false, false⟩ := by decide

section Rules
variable {pa pb pc : Policy} {Sa Sb Sc : Shape}

theorem mode_eq_ident_iff {S : Shape} {p : Policy} (hS : S.WF) (hp : S.Has p) {q : Nat}
    (hq : q ≤ S.top) : S.mode q = .ident ↔ p = .ident ∧ q % 2 = 1 := by
  cases q with
  | zero =>
    exact ⟨fun h => absurd (hS.ident_below_red 0 h).1 (by decide), fun h => absurd h.2 (by decide)⟩
  | succ q => rw [hp (q+1) (by omega) hq]; exact p.mode_eq_ident_iff _

theorem mode_ne_ident_fully {S : Shape} (hS : S.WF) (hp : S.Has .fully) (q : Nat)
    (hq : q ≤ S.top) : S.mode q ≠ .ident :=
  fun h => nomatch ((mode_eq_ident_iff hS hp hq).mp h).1

theorem mode_ne_ident_quasi {S : Shape} (hS : S.WF) (hp : S.Has .quasi) (q : Nat)
    (hq : q ≤ S.top) : S.mode q ≠ .ident :=
  fun h => nomatch ((mode_eq_ident_iff hS hp hq).mp h).1

theorem mode_ne_ident_even {S : Shape} {p : Policy} (hS : S.WF) (hp : S.Has p) (q : Nat)
    (hq : q ≤ S.top) (he : q % 2 = 0) : S.mode q ≠ .ident := by
  intro h
  have := ((mode_eq_ident_iff hS hp hq).mp h).2
  omega

/-- The recursion as coded, on whole forests, with a sound table and a rule whose fully
    pattern is used between fully-reduced operand forests only, and whose identity pattern
    only where an operand forest is identity reduced and the off-diagonal is transparent. -/
theorem Setup.full_eq_apply2 {same : Bool} (h : Setup pa pb same Sa Sb Sc) (hpc : Sc.Has pc)
    {f : Bool → Bool → Bool} {sc : Nat → Option Nat → DD Bool → DD Bool → Option (DD Bool)}
    (hsc : ShortcutSound Sa Sb Sc false false false f sc) (r : SkipRule)
    (hR : r.fullyPattern = true → pa = .fully ∧ pb = .fully)
    (hP : r.identPattern = true → (pa = .ident ∨ pb = .ident) ∧
      (pa = .ident → pb = .ident → f false false = false) ∧
      (pb ≠ .ident → ∀ y, f false y = false) ∧ (pa ≠ .ident → ∀ x, f x false = false))
    (a b : DD Bool)
    (ha : Red Sa false Sa.top none a = true) (hb : Red Sb false Sb.top none b = true) :
    applyFullS Sa Sb Sc false false false f sc r.skR r.skP Sc.top none a b
      = apply2 Sa Sb Sc false false false f Sc.top none a b := by
  refine applyFullS_eq_apply2 Sa Sb Sc false false false f sc _ _ h.wfc h.ac h.bc hsc ⟨?_, ?_⟩
    Sc.top none a b (Ctx.top h.wfa h.wfb h.wfc h.ac h.bc) (h.ac.top ▸ ha) (h.bc.top ▸ hb)
  · intro k hk hr
    obtain ⟨rfl, rfl⟩ := hR hr
    have hka : k + 1 ≤ Sa.top := h.ac.top ▸ hk
    have hkb : k + 1 ≤ Sb.top := h.bc.top ▸ hk
    exact ⟨mode_ne_ident_fully h.wfa h.hpa _ hka, mode_ne_ident_fully h.wfb h.hpb _ hkb,
      mode_ne_ident_fully h.wfa h.hpa _ (by omega), mode_ne_ident_fully h.wfb h.hpb _ (by omega)⟩
  · intro k hk hs
    obtain ⟨hi, ho⟩ := Bool.and_eq_true_iff.mp hs
    have ho : (k+1) % 2 = 1 := beq_iff_eq.mp ho
    have hka : k + 1 ≤ Sa.top := h.ac.top ▸ hk
    have hkb : k + 1 ≤ Sb.top := h.bc.top ▸ hk
    obtain ⟨hor, hii, hib, hia⟩ := hP hi
    refine ⟨?_, mode_ne_ident_even h.wfa h.hpa k (by omega) (by omega),
      mode_ne_ident_even h.wfb h.hpb k (by omega) (by omega),
      mode_ne_ident_even h.wfc hpc k (by omega) (by omega)⟩
    have ia := mode_eq_ident_iff h.wfa h.hpa hka
    have ib := mode_eq_ident_iff h.wfb h.hpb hkb
    by_cases ha : pa = .ident <;> by_cases hb : pb = .ident
    · exact Or.inl ⟨ia.mpr ⟨ha, ho⟩, ib.mpr ⟨hb, ho⟩, hii ha hb⟩
    · exact Or.inr (Or.inl ⟨ia.mpr ⟨ha, ho⟩, fun h => hb (ib.mp h).1, hib hb⟩)
    · exact Or.inr (Or.inr ⟨fun h => ha (ia.mp h).1, ib.mpr ⟨hb, ho⟩, hia ha⟩)
    · exact absurd hor (not_or.mpr ⟨ha, hb⟩)

/-- In a quasi-reduced forest a legal non-empty operand never skips a position:
    `topLevel(Alevel, Blevel) = L` in all combinations with a quasi-reduced
    operand forest ("no level skipping will occur"). -/
theorem quasi_no_skip {S : Shape} (hp : S.Has .quasi) (k : Nat) (hk : k + 1 ≤ S.top)
    (fi : Option Nat) (d : DD Bool) (hr : Red S false (k+1) fi d = true) (hne : d ≠ .leaf false) :
    d.isNodeAt (k+1) = true := by
  rcases storedAt_cases (k+1) d with ⟨cs, rfl⟩ | hd
  · simp [isNodeAt]
  · exact absurd (edgeOK_none_skip S false k fi (hp (k+1) (by omega) hk) hd
      (Red_succ_skip S false k fi hd hr).1) hne

end Rules

section AsCoded
variable (pa pb : Policy) (same : Bool) (Sa Sb Sc : Shape)

def unionFull (a b : DD Bool) : DD Bool :=
  applyFullS Sa Sb Sc false false false (fun p q => p || q) (unionShortcut pa pb same Sa Sb Sc)
    (unionRule pa pb).skR (unionRule pa pb).skP Sc.top none a b
def interFull (a b : DD Bool) : DD Bool :=
  applyFullS Sa Sb Sc false false false (fun p q => p && q) (interShortcut pa pb same Sa Sb Sc)
    (interRule pa pb).skR (interRule pa pb).skP Sc.top none a b
def diffFull (a b : DD Bool) : DD Bool :=
  applyFullS Sa Sb Sc false false false (fun p q => p && !q) (diffShortcut pa pb same Sa Sb Sc)
    (diffRule pa pb).skR (diffRule pa pb).skP Sc.top none a b

variable {pa pb same Sa Sb Sc}

theorem unionFull_eq_apply2 {pc : Policy} (h : Setup pa pb same Sa Sb Sc) (hpc : Sc.Has pc)
    (a b : DD Bool)
    (ha : Red Sa false Sa.top none a = true) (hb : Red Sb false Sb.top none b = true) :
    unionFull pa pb same Sa Sb Sc a b = union Sa Sb Sc a b :=
  h.full_eq_apply2 hpc (unionShortcut_sound same h.wfc h.ac h.bc h.hpa h.hpb h.hsame)
    (unionRule pa pb) of_decide_eq_true
    (fun h' =>
      have h' : pa = .ident ∧ pb = .ident := of_decide_eq_true h'
      ⟨Or.inl h'.1, fun _ _ => rfl, fun hb => absurd h'.2 hb, fun ha => absurd h'.1 ha⟩)
    a b ha hb

theorem interFull_eq_apply2 {pc : Policy} (h : Setup pa pb same Sa Sb Sc) (hpc : Sc.Has pc)
    (a b : DD Bool)
    (ha : Red Sa false Sa.top none a = true) (hb : Red Sb false Sb.top none b = true) :
    interFull pa pb same Sa Sb Sc a b = inter Sa Sb Sc a b :=
  h.full_eq_apply2 hpc (interShortcut_sound same h.wfc h.ac h.bc h.hpa h.hpb h.hsame)
    (interRule pa pb) of_decide_eq_true
    (fun h' =>
      have h' : (pa = .ident ∧ pb ≠ .quasi) ∨ (pb = .ident ∧ pa ≠ .quasi) := of_decide_eq_true h'
      ⟨h'.imp And.left And.left, fun _ _ => rfl, fun _ _ => rfl, fun _ => Bool.and_false⟩)
    a b ha hb

theorem diffFull_eq_apply2 {pc : Policy} (h : Setup pa pb same Sa Sb Sc) (hpc : Sc.Has pc)
    (a b : DD Bool)
    (ha : Red Sa false Sa.top none a = true) (hb : Red Sb false Sb.top none b = true) :
    diffFull pa pb same Sa Sb Sc a b = diff Sa Sb Sc a b :=
  h.full_eq_apply2 hpc (diffShortcut_sound same h.wfc h.ac h.bc h.hpa h.hpb h.hsame)
    (diffRule pa pb) of_decide_eq_true
    (fun h' =>
      have h' : pa = .ident ∧ pb ≠ .quasi := of_decide_eq_true h'
      ⟨Or.inl h'.1, fun _ _ => rfl, fun _ _ => rfl, fun ha => absurd h'.1 ha⟩)
    a b ha hb

end AsCoded

/-! ### Completeness of the terminal cases

  After the terminal cases the code computes `Clevel = topLevelOf(L, Alevel, Blevel)`
  and unpacks nodes *at `Clevel`*, which must be a level `≥ 1`.  When both operands
  are terminals (`Alevel = Blevel = 0`) a skipping rule would return `Clevel = 0`.
  Hence: on two terminals either a terminal case fires, or the operation goes by
  levels and `L ≥ 1`.  (In the model nothing can go wrong — `applyFull` just
  arrives at position 0 — so this is a property of the tables, stated separately.
  It is exactly what failed before the repair of `intersection.cc`: see
  `ShortcutExamples.interShortcutOld`.)                                         -/

section TerminalComplete
variable (pa pb : Policy) (same : Bool) (Sa Sb Sc : Shape) (k : Nat) (fi : Option Nat)

theorem isSome_ite_some {δ : Type _} {c : Prop} [Decidable c] (v : δ) {o : Option δ}
    (h : ¬ c → o.isSome = true) : (if c then some v else o).isSome = true := by
  by_cases hc : c
  · rw [if_pos hc]; rfl
  · rw [if_neg hc]; exact h hc

theorem unionShortcut_terminal_complete (a b : DD Bool)
    (hta : isTerm a = true) (htb : isTerm b = true) :
    (unionShortcut pa pb same Sa Sb Sc k fi a b).isSome = true :=
  isSome_ite_some _ fun _ => isSome_ite_some _ fun _ => isSome_ite_some _ fun _ => by
    rw [if_pos ⟨hta, htb⟩]; split <;> rfl

theorem interShortcut_terminal_complete (a b : DD Bool)
    (hta : isTerm a = true) (htb : isTerm b = true) :
    (interShortcut pa pb same Sa Sb Sc k fi a b).isSome = true :=
  isSome_ite_some _ fun h1 => isSome_ite_some _ fun _ => isSome_ite_some _ fun _ => by
    cases isTerm_bool hta fun h => h1 (Or.inl h)
    cases isTerm_bool htb fun h => h1 (Or.inr h)
    rw [if_pos ⟨rfl, Or.inr rfl⟩]; rfl

theorem diffShortcut_terminal_complete (a b : DD Bool)
    (hta : isTerm a = true) (htb : isTerm b = true)
    (hn : diffShortcut pa pb same Sa Sb Sc k fi a b = none) :
    1 ≤ k ∧ diffRule pa pb = ⟨false, false⟩ := by
  revert hn
  unfold diffShortcut
  refine ite_eq_elim nofun fun h1 => ite_eq_elim nofun fun h2 => ite_eq_elim nofun fun h3 =>
    ite_eq_elim nofun fun h4 _ => ?_
  cases isTerm_bool hta h1
  cases isTerm_bool htb h4
  have hpb : ¬ (pb = .fully ∨ k = 0) := fun h => h2 ⟨rfl, h⟩
  have hpa : pa ≠ .ident := fun h => h3 ⟨rfl, rfl, h⟩
  refine ⟨by omega, ?_⟩
  unfold diffRule
  rw [decide_eq_false fun h => hpb (Or.inl h.2), decide_eq_false fun h => hpa h.1]

end TerminalComplete

/-! ## 5. COMPLEMENT (unary): terminal cases and skipping of `compl_mt` -/

section Unary
variable (Sa Sc : Shape) (za : α) (zc : γ) (g : α → γ)

/-- `apply1` with a shortcut table -/
def apply1S (sc : Nat → Option Nat → DD α → Option (DD γ)) : Nat → Option Nat → DD α → DD γ
  | 0, fi, a =>
    match sc 0 fi a with
    | some r => r
    | none => .leaf (g (leafVal za a))
  | k+1, fi, a =>
    match sc (k+1) fi a with
    | some r => r
    | none =>
      mkNode Sc zc (k+1) fi
        ((List.range (Sc.size (k+1))).map fun i =>
          apply1S sc k (some i) (cofactor Sa za (k+1) fi a i))

/-- the unary recursion with shortcuts is the binary one on the diagonal -/
theorem apply1S_eq_applyS (sc : Nat → Option Nat → DD α → Option (DD γ))
    (k : Nat) (fi : Option Nat) (a : DD α) :
    apply1S Sa Sc za zc g sc k fi a
      = applyS Sa Sa Sc za za zc (fun v _ => g v) (fun k fi a _ => sc k fi a) k fi a a := by
  induction k generalizing fi a with
  | zero => rw [apply1S, applyS_zero]
  | succ k ih =>
    rw [apply1S, applyS_succ]
    cases sc (k+1) fi a with
    | some r => rfl
    | none =>
      exact mkNode_map_range_congr fun i _ => ih _ _

/-- a unary table is sound when it is as a binary table that ignores its second operand -/
theorem apply1S_eq_apply1_at (sc : Nat → Option Nat → DD α → Option (DD γ))
    (hSc : Sc.WF) (hac : SameVars Sa Sc)
    (hsc : ShortcutSound Sa Sa Sc za za zc (fun v _ => g v) fun k fi a _ => sc k fi a)
    (k : Nat) (fi : Option Nat) (a : DD α) (hc : Ctx Sa Sa Sc k fi)
    (ha : Red Sa za k fi a = true) :
    apply1S Sa Sc za zc g sc k fi a = apply1 Sa Sc za zc g k fi a := by
  rw [apply1S_eq_applyS, apply1_eq_apply2]
  exact applyS_eq_apply2_at hSc hac hac hsc hc ha ha

/-! ### unary skipping -/

theorem apply1_fi_irrel (k : Nat) (fi fj : Option Nat) (a : DD α)
    (ha : Sa.mode k ≠ .ident) (hc : Sc.mode k ≠ .ident) :
    apply1 Sa Sc za zc g k fi a = apply1 Sa Sc za zc g k fj a := by
  rw [apply1_eq_apply2, apply1_eq_apply2]
  exact apply2_fi_irrel fi fj a a ha ha hc

/-- `compl_mt`, argument forest not identity reduced: `makeRedundantsTo(cp, Alevel, L)` -/
theorem apply1_skip_red (k : Nat) (fi : Option Nat) (a : DD α)
    (hsa : a.isNodeAt (k+1) = false) (ha1 : Sa.mode (k+1) ≠ .ident) (ha0 : Sa.mode k ≠ .ident) :
    apply1 Sa Sc za zc g (k+1) fi a = redStep Sc zc (k+1) fi (apply1 Sa Sc za zc g k none a) := by
  rw [apply1_eq_apply2, apply1_eq_apply2]
  exact apply2_skip_red hsa hsa ha1 ha1 ha0 ha0

/-- `compl_mt::_identity_complement`: the argument skips a primed position of an
    identity-reduced forest; the diagonal child is the sub-result, the off-diagonal
    children are the image of the transparent terminal (for complement: the chain
    to TRUE):   [ p 1 1 ] [ 1 p 1 ] [ 1 1 p ] -/
theorem apply1_skip_primed (k i0 : Nat) (a : DD α)
    (hsa : a.isNodeAt (k+1) = false) (ha1 : Sa.mode (k+1) = .ident)
    (ha0 : Sa.mode k ≠ .ident) (hc0 : Sc.mode k ≠ .ident) :
    apply1 Sa Sc za zc g (k+1) (some i0) a =
      mkNode Sc zc (k+1) (some i0)
        ((List.range (Sc.size (k+1))).map fun j =>
          if j = i0 then apply1 Sa Sc za zc g k none a
          else apply1 Sa Sc za zc g k none (.leaf za)) := by
  rw [apply1_succ]
  refine mkNode_map_range_congr fun j _ => ?_
  by_cases hj : j = i0
  · subst hj
    rw [if_pos rfl, cofactor_skip_diag hsa]
    exact apply1_fi_irrel Sa Sc za zc g k _ _ a ha0 hc0
  · rw [if_neg hj, cofactor_skip_offdiag hsa ha1 hj]
    exact apply1_fi_irrel Sa Sc za zc g k _ _ _ ha0 hc0

end Unary

/-! ### the terminal cases of `compl_mt::_compute` -/

/-- `identity_complement(FALSE, 0, L, in)`: the complement of the identity relation -/
def identityComplement (Sc : Shape) (k : Nat) (fi : Option Nat) : DD Bool :=
  apply1 (Sc.withPolicy .ident) Sc false false (fun p => !p) k fi (.leaf true)

def complShortcut (pa : Policy) (Sc : Shape) (k : Nat) (fi : Option Nat) (a : DD Bool) :
    Option (DD Bool) :=
  -- if (argF->isTerminalNode(A)) {
  if isTerm a = true then
    --   if (!ta) { cp = resF->makeRedundantsTo(TRUE, 0, L); return; }
    (if a = .leaf false then some (chainTrue .fully Sc k fi)
    --   if (argF->isIdentityReduced()) cp = identity_complement(FALSE, 0, L, in);
     else if pa = .ident then some (identityComplement Sc k fi)
    --   else cp = resF->makeRedundantsTo(FALSE, 0, L);      (= FALSE)
     else some (.leaf false))
  else none

theorem complShortcut_sound {pa : Policy} {Sa Sc : Shape} (hSc : Sc.WF) (hac : SameVars Sa Sc) (hpa : Sa.Has pa) :
    ShortcutSound Sa Sa Sc false false false (fun p _ => !p)
      fun k fi a _ => complShortcut pa Sc k fi a := by
  intro k fi a b r hc ha _
  have hka : k ≤ Sa.top := hac.top ▸ hc.le
  unfold complShortcut
  refine ite_eq_elim (fun ht => ?_) fun _ => nofun
  refine ite_some_elim (fun h => ?_) fun h => ?_
  · -- `¬0` is the constant TRUE, whatever the reduction rule of the argument forest
    obtain rfl := h
    exact answer_true hSc hc fun x => by rw [eval_leaf_zero]; rfl
  cases isTerm_bool ht h
  refine ite_eq_elim (fun h hr => ?_) fun hp hr => ?_ <;> cases hr
  · obtain rfl := h
    exact ⟨fun x hx hr => apply1_withPolicy_eval hpa Sc _ k fi x hc.le hka hx
      (fi_of_mode hc.na hr) (fi_of_mode hc.nc hr) _, apply1_red _ Sc false false _ hSc k fi _ hc.nc⟩
  · -- `¬TRUE = 0`: the argument forest is fully reduced, or quasi reduced and then `L == 0`
    exact answer_empty fun x => by rw [eval_true_of_ne_ident hpa hka ha hp]; rfl

/-! ### The chains, structurally: what the loops of `_makeRedundantsTo` and
    `_makeIdentitiesTo` build, one step at a time -/

theorem apply1_leaf_zero (Sa Sc : Shape) (za : α) (zc : γ) (g : α → γ) (hg : g za = zc)
    (k : Nat) (fi : Option Nat) : apply1 Sa Sc za zc g k fi (.leaf za) = .leaf zc := by
  rw [apply1_eq_apply2]; exact apply2_eq_zero k fi _ _ (Or.inl ⟨rfl, rfl, hg⟩)

/-- `makeRedundantsTo(TRUE, 0, k+1)` = one redundant step above `makeRedundantsTo(TRUE, 0, k)` -/
theorem chainTrue_fully_succ (Sc : Shape) (k : Nat) (fi : Option Nat) :
    chainTrue .fully Sc (k+1) fi = redStep Sc false (k+1) fi (chainTrue .fully Sc k none) :=
  apply1_skip_red (Sc.withPolicy .fully) Sc false false id k fi (.leaf true) rfl nofun nofun

/-- `makeIdentitiesTo(TRUE, 0, ·, in)`, primed half: the `in`-singleton above the chain below -/
theorem chainTrue_ident_primed (Sc : Shape) (k i0 : Nat) (hk : (k+1) % 2 = 1)
    (hc0 : Sc.mode k ≠ .ident) :
    chainTrue .ident Sc (k+1) (some i0) = identHalf Sc false (k+1) i0 (chainTrue .ident Sc k none) := by
  have hm0 : (Sc.withPolicy .ident).mode k ≠ .ident :=
    fun h => by have := ((Policy.mode_eq_ident_iff .ident k).mp h).2; omega
  rw [chainTrue, copyTo, apply1_skip_primed (Sc.withPolicy .ident) Sc false false id k i0 _ rfl
      ((Policy.mode_eq_ident_iff .ident (k+1)).mpr ⟨rfl, hk⟩) hm0 hc0,
    apply1_leaf_zero _ Sc false false id rfl k none]
  rfl

/-- `makeIdentitiesTo(TRUE, 0, ·, ·)`, one unprimed/primed pair -/
theorem chainTrue_ident_pair (Sc : Shape) (k : Nat) (fi : Option Nat) (hk : (k+2) % 2 = 0)
    (hc0 : Sc.mode k ≠ .ident) :
    chainTrue .ident Sc (k+2) fi =
      mkNode Sc false (k+2) fi ((List.range (Sc.size (k+2))).map fun i =>
        identHalf Sc false (k+1) i (chainTrue .ident Sc k none)) := by
  have hm2 : (Sc.withPolicy .ident).mode (k+2) ≠ .ident :=
    fun h => by have := ((Policy.mode_eq_ident_iff .ident (k+2)).mp h).2; omega
  rw [chainTrue, copyTo, apply1_succ]
  refine mkNode_map_range_congr fun i _ => ?_
  rw [cofactor_skip_nonident (d := .leaf true) rfl hm2]
  exact chainTrue_ident_primed Sc k i (by omega) hc0

/-- COMPLEMENT with the terminal cases of `compl_mt` -/
def complS (pa : Policy) (Sa Sc : Shape) (a : DD Bool) : DD Bool :=
  apply1S Sa Sc false false (fun p => !p) (complShortcut pa Sc) Sc.top none a

theorem complS_eq_apply1 {pa : Policy} {Sa Sc : Shape} (hSa : Sa.WF) (hSc : Sc.WF)
    (hac : SameVars Sa Sc) (hpa : Sa.Has pa) (a : DD Bool)
    (ha : Red Sa false Sa.top none a = true) : complS pa Sa Sc a = compl Sa Sc a :=
  apply1S_eq_apply1_at Sa Sc false false _ _ hSc hac (complShortcut_sound hSc hac hpa) Sc.top none a
    (Ctx.top hSa hSa hSc hac hac) (hac.top ▸ ha)

theorem complS_eval {pa : Policy} {Sa Sc : Shape} (hSa : Sa.WF) (hSc : Sc.WF)
    (hac : SameVars Sa Sc) (hpa : Sa.Has pa) (a : DD Bool)
    (ha : Red Sa false Sa.top none a = true) (x : Assign) (hx : Assign.Valid Sc x) :
    eval Sc false Sc.top (complS pa Sa Sc a) x = !eval Sa false Sa.top a x := by
  rw [complS_eq_apply1 hSa hSc hac hpa a ha]; exact compl_eval hSa hSc hac a x hx

theorem complS_red {pa : Policy} {Sa Sc : Shape} (hSa : Sa.WF) (hSc : Sc.WF)
    (hac : SameVars Sa Sc) (hpa : Sa.Has pa) (a : DD Bool)
    (ha : Red Sa false Sa.top none a = true) :
    Red Sc false Sc.top none (complS pa Sa Sc a) = true := by
  rw [complS_eq_apply1 hSa hSc hac hpa a ha]; exact compl_red hSc a

end DD

/-! ## 6. Non-vacuity: every case fires on concrete trees, with `apply2`'s answer -/

namespace ShortcutExamples
open DD CanonExamples ApplyExamples

/-- quasi reduced, same variables as `SB` / `SF` (top 4, sizes 2) -/
def SQ : Shape where
  top := 4
  size := fun _ => 2
  mode := fun _ => .none

theorem SQ_WF : SQ.WF where
  size_ge := fun _ _ _ => Nat.le_refl 2
  ident_below_red := fun _ h => nomatch h

theorem SB_Has : SB.Has .ident := by
  intro q h1 (h2 : q ≤ 4)
  obtain rfl | rfl | rfl | rfl : q = 1 ∨ q = 2 ∨ q = 3 ∨ q = 4 := by omega
  all_goals rfl
theorem SF_Has : SF.Has .fully := fun _ _ _ => rfl
theorem SQ_Has : SQ.Has .quasi := fun _ _ _ => rfl

theorem SF_SB : SameVars SF SB := ⟨rfl, fun _ => rfl⟩
theorem SB_SB : SameVars SB SB := ⟨rfl, fun _ => rfl⟩
theorem SF_SF : SameVars SF SF := ⟨rfl, fun _ => rfl⟩

abbrev T : DD Bool := .leaf true
abbrev F : DD Bool := .leaf false
abbrev orF : Bool → Bool → Bool := fun p q => p || q
abbrev andF : Bool → Bool → Bool := fun p q => p && q
abbrev diffF : Bool → Bool → Bool := fun p q => p && !q
abbrev U (Sa Sb Sc : Shape) := apply2 Sa Sb Sc false false false orF
abbrev I' (Sa Sb Sc : Shape) := apply2 Sa Sb Sc false false false andF
abbrev D (Sa Sb Sc : Shape) := apply2 Sa Sb Sc false false false diffF

/-- `x₂ = 0` in the fully-reduced forest -/
def cF : DD Bool := .node 4 [T, F]
/-- skips the pair 4/3 -/
def a2 : DD Bool := .node 2 [T, F]
def b2 : DD Bool := .node 2 [F, T]
/-- the identity relation, spelled out in the fully-reduced forest -/
def idF : DD Bool := .node 4 [.node 3 [i1, F], .node 3 [F, i1]]
/-- a legal tree of the quasi-reduced forest -/
def qT : DD Bool :=
  .node 4 [.node 3 [.node 2 [.node 1 [T, T], .node 1 [T, F]], F], F]

example : Red SF false 4 none cF = true := by decide +kernel
example : Red SB false 4 none a2 = true := by decide +kernel
example : Red SB false 4 none b2 = true := by decide +kernel
example : Red SF false 4 none a2 = true := by decide +kernel
example : Red SQ false 4 none qT = true := by decide +kernel
/-- in a quasi-reduced forest TRUE is legal at position 0 only -/
example : Red SQ false 4 none T = false := by decide +kernel
example : Red SQ false 0 (some 1) T = true := by decide +kernel

/-! ### UNION -/

-- both ∅
example : unionShortcut .ident .ident true SB SB SB 4 none F F = some (U SB SB SB 4 none F F) := by
  decide +kernel
-- A = ∅: copy of B, identity-reduced → fully-reduced
example : unionShortcut .fully .ident false SF SB SF 4 none F bB = some (U SF SB SF 4 none F bB) := by
  decide +kernel
example : unionShortcut .fully .ident false SF SB SF 4 none F bB
    = some (.node 4 [.node 3 [F, i1], F]) := by decide +kernel
-- B = ∅: copy of A
example : unionShortcut .ident .fully false SB SF SB 4 none bB F = some (U SB SF SB 4 none bB F) := by
  decide +kernel
-- A = B, same forest
example : unionShortcut .ident .ident true SB SB SF 4 none bB bB = some (U SB SB SF 4 none bB bB) := by
  decide +kernel
-- TRUE ∪ TRUE, both identity reduced: I, chained as identities in a fully-reduced result
example : unionShortcut .ident .ident false SB SB SF 4 none T T = some (U SB SB SF 4 none T T) := by
  decide +kernel
example : unionShortcut .ident .ident false SB SB SF 4 none T T = some idF := by decide +kernel
-- … the same at a primed position entered through index 1
example : unionShortcut .ident .ident false SB SB SF 3 (some 1) T T
    = some (U SB SB SF 3 (some 1) T T) := by decide +kernel
example : unionShortcut .ident .ident false SB SB SF 3 (some 1) T T = some (.node 3 [F, i1]) := by
  decide +kernel
-- … and in an identity-reduced result it is the terminal
example : unionShortcut .ident .ident false SB SB SB 4 none T T = some T := by decide +kernel
-- TRUE ∪ TRUE, identity × fully: the constant TRUE, chained as redundant nodes (which an
-- identity-reduced result forest stores at the primed positions)
example : unionShortcut .ident .fully false SB SF SB 4 none T T = some (U SB SF SB 4 none T T) := by
  decide +kernel
example : unionShortcut .ident .fully false SB SF SB 4 none T T
    = some (.node 3 [.node 1 [T, T], .node 1 [T, T]]) := by decide +kernel
-- TRUE ∪ TRUE in quasi-reduced forests: position 0
example : unionShortcut .quasi .quasi true SQ SQ SQ 0 (some 1) T T
    = some (U SQ SQ SQ 0 (some 1) T T) := by decide +kernel
-- fully-reduced TRUE ∪ B (mixed fully × identity pair)
example : unionShortcut .fully .ident false SF SB SB 4 none T bB = some (U SF SB SB 4 none T bB) := by
  decide +kernel
example : unionShortcut .ident .fully false SB SF SF 4 none bB T = some (U SB SF SF 4 none bB T) := by
  decide +kernel
example : unionShortcut .ident .fully false SB SF SF 4 none bB T = some T := by decide +kernel
-- no case: recurse
example : unionShortcut .ident .fully false SB SF SF 4 none T cF = none := by decide +kernel

/-! ### INTERSECTION -/

example : interShortcut .ident .fully false SB SF SF 4 none F cF = some (I' SB SF SF 4 none F cF) := by
  decide +kernel
example : interShortcut .ident .fully false SB SF SF 4 none bB F = some (I' SB SF SF 4 none bB F) := by
  decide +kernel
-- fully-reduced TRUE ∩ B = B (mixed fully × identity pair)
example : interShortcut .fully .ident false SF SB SB 4 none T bB = some (I' SF SB SB 4 none T bB) := by
  decide +kernel
example : interShortcut .fully .ident false SF SB SB 4 none T bB = some bB := by decide +kernel
-- TRUE at position 0
example : interShortcut .quasi .ident false SQ SB SB 0 (some 1) T T
    = some (I' SQ SB SB 0 (some 1) T T) := by decide +kernel
-- A ∩ fully-reduced TRUE = A
example : interShortcut .ident .fully false SB SF SF 4 none bB T = some (I' SB SF SF 4 none bB T) := by
  decide +kernel
-- A ∩ A, same forest
example : interShortcut .ident .ident true SB SB SB 4 none bB bB = some (I' SB SB SB 4 none bB bB) := by
  decide +kernel
-- TRUE ∩ TRUE across two identity-reduced forests (the repaired case)
example : interShortcut .ident .ident false SB SB SF 4 none T T = some (I' SB SB SF 4 none T T) := by
  decide +kernel
example : interShortcut .ident .ident false SB SB SF 4 none T T = some idF := by decide +kernel
example : interShortcut .ident .ident false SB SB SF 3 (some 0) T T
    = some (I' SB SB SF 3 (some 0) T T) := by decide +kernel
-- I ∩ B with B in a fully-reduced forest: no shortcut (I is not "everything")
example : interShortcut .ident .fully false SB SF SF 4 none T cF = none := by decide +kernel

/-- The terminal cases of `inter_mt` *before* the repair: last test
    `(A == B) && (arg1F == arg2F)`. -/
def interShortcutOld (pa pb : Policy) (same : Bool) (Sa Sb Sc : Shape)
    (k : Nat) (fi : Option Nat) (a b : DD Bool) : Option (DD Bool) :=
  if a = .leaf false ∨ b = .leaf false then some (.leaf false)
  else if isTerm a = true ∧ (k = 0 ∨ pa = .fully) then some (copyTo Sb Sc k fi b)
  else if isTerm b = true ∧ (k = 0 ∨ pb = .fully) then some (copyTo Sa Sc k fi a)
  else if a = b ∧ same = true then some (copyTo Sa Sc k fi a)
  else none

/-- Known defect (found by testing, repaired at /repo HEAD), seen from the model:
    TRUE ∩ TRUE across two identity-reduced forests fired no terminal case although
    the operation skips by the identity pattern — `topLevelOf` returned level 0. -/
example : interShortcutOld .ident .ident false SB SB SF 4 none T T = none
    ∧ interRule .ident .ident = ⟨false, true⟩
    ∧ Red SB false 4 none T = true := by decide +kernel
example : (interShortcut .ident .ident false SB SB SF 4 none T T).isSome = true := by decide +kernel

/-! ### DIFFERENCE -/

example : diffShortcut .ident .fully false SB SF SF 4 none F cF = some (D SB SF SF 4 none F cF) := by
  decide +kernel
-- A − fully-reduced TRUE = ∅
example : diffShortcut .ident .fully false SB SF SB 4 none bB T = some (D SB SF SB 4 none bB T) := by
  decide +kernel
-- A − TRUE at position 0
example : diffShortcut .ident .ident false SB SB SB 0 (some 0) T T
    = some (D SB SB SB 0 (some 0) T T) := by decide +kernel
-- I − I across two identity-reduced forests
example : diffShortcut .ident .ident false SB SB SF 4 none T T = some (D SB SB SF 4 none T T) := by
  decide +kernel
example : diffShortcut .ident .ident false SB SB SF 3 (some 1) T T
    = some (D SB SB SF 3 (some 1) T T) := by decide +kernel
-- A − ∅ = A (mixed identity × fully pair)
example : diffShortcut .ident .fully false SB SF SF 4 none bB F = some (D SB SF SF 4 none bB F) := by
  decide +kernel
-- A − A, same forest
example : diffShortcut .ident .ident true SB SB SB 4 none bB bB = some (D SB SB SB 4 none bB bB) := by
  decide +kernel
-- TRUE − I (fully × identity): "need to compute it"
example : diffShortcut .fully .ident false SF SB SF 4 none T T = none := by decide +kernel
example : D SF SB SF 4 none T T
    = .node 4 [.node 3 [.node 2 [.node 1 [F, T], .node 1 [T, F]], T],
               .node 3 [T, .node 2 [.node 1 [F, T], .node 1 [T, F]]]] := by decide +kernel

/-! ### COMPLEMENT -/

example : complShortcut .ident SF 4 none F = some (compl SB SF F) := by decide +kernel
example : complShortcut .ident SF 4 none T = some (compl SB SF T) := by decide +kernel
example : complShortcut .ident SB 4 none T = some (compl SB SB T) := by decide +kernel
example : complShortcut .fully SB 4 none T = some (compl SF SB T) := by decide +kernel
example : complShortcut .ident SB 3 (some 1) T
    = some (apply1 SB SB false false (fun p => !p) 3 (some 1) T) := by decide +kernel

/-! ### whole operations -/

example : unionS .ident .ident false SB SB SF aB bB = union SB SB SF aB bB := by decide +kernel
example : interS .ident .fully false SB SF SB bB cF = inter SB SF SB bB cF := by decide +kernel
example : diffS .fully .ident false SF SB SF cF bB = diff SF SB SF cF bB := by decide +kernel
example : complS .ident SB SB bB = compl SB SB bB := by decide +kernel

/-- the general theorem applied to a concrete instance -/
example : unionS .ident .ident false SB SB SF aB bB = .node 4 [i1, .node 3 [.leaf false, i1]] := by
  rw [unionS_eq_apply2 ⟨SB_WF, SB_WF, SF_WF, SB_SF, SB_SF, SB_Has, SB_Has, (by intro h; cases h)⟩
    aB bB (by decide +kernel) (by decide +kernel)]
  decide +kernel

/-! ### level skipping -/

-- identity pattern: both operands skip the primed position 3, entered through index 0
example : skipKind (unionRule .ident .ident).skR (unionRule .ident .ident).skP 3 (some 0) a2 b2
    = some (some 0) := by decide +kernel
-- fully pattern: both skip position 4
example : skipKind (unionRule .fully .fully).skR (unionRule .fully .fully).skP 4 none a2 b2
    = some none := by decide +kernel
-- fully × identity: by levels
example : skipKind (unionRule .fully .ident).skR (unionRule .fully .ident).skP 3 (some 0) a2 b2
    = none := by decide +kernel

-- identity-reduced operands and result: the skipped pair leaves no trace
example : unionFull .ident .ident false SB SB SB a2 b2 = union SB SB SB a2 b2 := by decide +kernel
example : unionFull .ident .ident false SB SB SB a2 b2 = T := by decide +kernel
example : U SB SB SB 4 none a2 b2 = U SB SB SB 2 none a2 b2 := by decide +kernel
-- fully-reduced result: `makeIdentitiesTo` builds the pattern above the sub-result
example : unionFull .ident .ident false SB SB SF a2 b2 = union SB SB SF a2 b2 := by decide +kernel
example : unionFull .ident .ident false SB SB SF a2 b2
    = .node 4 [.node 3 [.node 2 [.node 1 [T, F], .node 1 [F, T]], F],
               .node 3 [F, .node 2 [.node 1 [T, F], .node 1 [F, T]]]] := by decide +kernel
-- fully pattern
example : unionFull .fully .fully true SF SF SF a2 b2 = union SF SF SF a2 b2 := by decide +kernel
-- fully pattern into an identity-reduced result (`redirectSingleton` matters)
example : unionFull .fully .fully true SF SF SB a2 b2 = union SF SF SB a2 b2 := by decide +kernel
example : interFull .ident .fully false SB SF SB a2 a2 = inter SB SF SB a2 a2 := by decide +kernel
example : interFull .fully .ident false SF SB SF a2 b2 = inter SF SB SF a2 b2 := by decide +kernel
example : diffFull .ident .fully false SB SF SF a2 b2 = diff SB SF SF a2 b2 := by decide +kernel
example : diffFull .fully .ident false SF SB SB a2 b2 = diff SF SB SB a2 b2 := by decide +kernel
example : interFull .ident .ident false SB SB SF bB aB = inter SB SB SF bB aB := by decide +kernel

/-! ### The side conditions are necessary (what a wrong one looks like) -/

/-- `I ∩ B = B` would be wrong: dropping `L==0 || arg1F->isFullyReduced()` from the
    TRUE-terminal case of intersection gives a different tree. -/
example : copyTo SF SF 4 none cF ≠ inter SB SF SF T cF := by decide +kernel
/-- `A == B` across forests does not mean the same set: TRUE − I ≠ ∅ -/
example : diff SF SB SF T T ≠ F := by decide +kernel
/-- the identity pattern is wrong for fully ∪ identity (`forced_by_levels`) … -/
example : applySkip SF SB SF false false false orF (fun _ => false) (fun p => p % 2 == 1)
    4 none a2 b2 ≠ U SF SB SF 4 none a2 b2 := by decide +kernel
/-- … and for fully − identity (`force_by_levels` of `diffr_mt`) … -/
example : applySkip SF SB SF false false false diffF (fun _ => false) (fun p => p % 2 == 1)
    4 none a2 b2 ≠ D SF SB SF 4 none a2 b2 := by decide +kernel
/-- … but right for identity − fully (`force_by_unprimed`) -/
example : applySkip SB SF SF false false false diffF (fun _ => false) (fun p => p % 2 == 1)
    4 none a2 b2 = D SB SF SF 4 none a2 b2 := by decide +kernel
/-- the fully pattern is wrong between identity-reduced operands -/
example : applySkip SB SB SB false false false orF (fun _ => true) (fun _ => false)
    4 none a2 b2 ≠ U SB SB SB 4 none a2 b2 := by decide +kernel

end ShortcutExamples

#print axioms DD.Red_cofactor
#print axioms DD.applyS_eval
#print axioms DD.applyS_red
#print axioms DD.applyS_eq_apply2
#print axioms DD.unionShortcut_sound
#print axioms DD.interShortcut_sound
#print axioms DD.diffShortcut_sound
#print axioms DD.complShortcut_sound
#print axioms DD.unionS_eq_apply2
#print axioms DD.interS_eq_apply2
#print axioms DD.diffS_eq_apply2
#print axioms DD.unionS_eval
#print axioms DD.complS_eq_apply1
#print axioms DD.applySkip_eq_apply2
#print axioms DD.applyFullS_eq_apply2
#print axioms DD.unionFull_eq_apply2
#print axioms DD.interFull_eq_apply2
#print axioms DD.diffFull_eq_apply2
#print axioms DD.interShortcut_terminal_complete
#print axioms DD.diffShortcut_terminal_complete
#print axioms DD.chainTrue_ident_pair
/- Output (Lean 4.33.0):
'Meddly.DD.Red_cofactor' depends on axioms: [propext, Quot.sound]
'Meddly.DD.applyS_eval' depends on axioms: [propext, Classical.choice, Quot.sound]
'Meddly.DD.applyS_red' depends on axioms: [propext, Classical.choice, Quot.sound]
'Meddly.DD.applyS_eq_apply2' depends on axioms: [propext, Classical.choice, Quot.sound]
'Meddly.DD.unionShortcut_sound' depends on axioms: [propext, Classical.choice, Quot.sound]
'Meddly.DD.interShortcut_sound' depends on axioms: [propext, Classical.choice, Quot.sound]
'Meddly.DD.diffShortcut_sound' depends on axioms: [propext, Classical.choice, Quot.sound]
'Meddly.DD.complShortcut_sound' depends on axioms: [propext, Classical.choice, Quot.sound]
'Meddly.DD.unionS_eq_apply2' depends on axioms: [propext, Classical.choice, Quot.sound]
'Meddly.DD.interS_eq_apply2' depends on axioms: [propext, Classical.choice, Quot.sound]
'Meddly.DD.diffS_eq_apply2' depends on axioms: [propext, Classical.choice, Quot.sound]
'Meddly.DD.unionS_eval' depends on axioms: [propext, Classical.choice, Quot.sound]
'Meddly.DD.complS_eq_apply1' depends on axioms: [propext, Classical.choice, Quot.sound]
'Meddly.DD.applySkip_eq_apply2' depends on axioms: [propext, Classical.choice, Quot.sound]
'Meddly.DD.applyFullS_eq_apply2' depends on axioms: [propext, Classical.choice, Quot.sound]
'Meddly.DD.unionFull_eq_apply2' depends on axioms: [propext, Classical.choice, Quot.sound]
'Meddly.DD.interFull_eq_apply2' depends on axioms: [propext, Classical.choice, Quot.sound]
'Meddly.DD.diffFull_eq_apply2' depends on axioms: [propext, Classical.choice, Quot.sound]
'Meddly.DD.interShortcut_terminal_complete' depends on axioms: [propext]
'Meddly.DD.diffShortcut_terminal_complete' depends on axioms: [propext, Quot.sound]
'Meddly.DD.chainTrue_ident_pair' depends on axioms: [propext, Quot.sound]
-/

end Meddly
